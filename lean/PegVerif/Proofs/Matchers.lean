import PegVerif.Spec
import PegVerif.Proofs.Lengths
/-
  The builtin matchers of runtime/src/builtin_parsers.rs share one shape: they look at the remaining
  bytes only and then either report an error at the cursor, each with one specific of its own, or
  `advance`.  `IsMatcher` names that shape.  What holds of all matchers alike is a consequence of it and is proved
  once for the shape: here, that offsets grow, and exactly when the rest shrinks, that `far` is ignored and that a
  failure reports the matcher's specific at the cursor; in Basics.lean that the cursor stays consistent with the
  input (`IsMatcher.wf`); in Attempts.lean that a failure is a counted attempt.  When a matcher shortens the rest
  differs per matcher (Lengths.lean), and so does what it reads (Boundary.lean).

  `terminalOf` collects the expressions that compile to a matcher call (`range`, `lit`, `$`), so
  that a traversal of `stepExpr` treats them as one case.
-/
namespace Peg
open Spec

/-- what a matcher does once it has decided: `none` reports its specific `sp` at the cursor, `some (n, v)`
    steps over `n` bytes and returns `v` (`Peg.Spec` is the type of error specifics of Runtime.lean, not
    the namespace of the reference semantics) -/
def St.finish {α} (s : St) (sp : Peg.Spec) : Option (Nat × α) → Res α
  | none => .err (s.reportError sp)
  | some (n, v) => s.advance n v

/-- a builtin matcher decides from the remaining bytes alone, and has one error specific `sp` of its own:
    never `leftRecursionSentinel` or `other`, which only the evaluator produces -/
def IsMatcher {α} (m : St → Res α) : Prop :=
  ∃ (sp : Peg.Spec) (d : List UInt8 → Option (Nat × α)),
    (sp ≠ .leftRecursionSentinel ∧ sp ≠ .other) ∧ ∀ s, m s = s.finish sp (d s.rest)

theorem wsPrefixLen_eq (bs : List UInt8) : wsPrefixLen bs = (bs.takeWhile isAsciiWhitespace).length := by
  induction bs with
  | nil => rfl
  | cons b bs ih =>
    simp only [wsPrefixLen, List.takeWhile_cons]
    split <;> simp [ih]

theorem wsPrefixLen_le (bs : List UInt8) : wsPrefixLen bs ≤ bs.length :=
  wsPrefixLen_eq bs ▸ (List.takeWhile_sublist _).length_le

theorem St.advance_of_le {α} {s : St} {n : Nat} (h : n ≤ s.rest.length) (v : α) :
    s.advance n v = .ok v { s with rest := s.rest.drop n, off := s.off + n } := by
  simp [St.advance, Nat.not_lt.mpr h]

/-- `advance` never fails: the specific is a dummy, as in `isMatcher_parseWhitespace` -/
theorem IsMatcher.advance {α} (n : Nat) (v : α) : IsMatcher fun s => s.advance n v :=
  ⟨.expectedEoi, fun _ => some (n, v), ⟨nofun, nofun⟩, fun _ => rfl⟩

section
variable {α : Type} {sp : Peg.Spec}

/-- the two leaves of a matcher's body once the remaining bytes are fixed -/
theorem St.finish_err : ∃ x : Option (Nat × α), ∀ s : St, .err (s.reportError sp) = s.finish sp x :=
  ⟨none, fun _ => rfl⟩
theorem St.finish_advance (n : Nat) (v : α) : ∃ x : Option (Nat × α), ∀ s : St, s.advance n v = s.finish sp x :=
  ⟨some (n, v), fun _ => rfl⟩

/-- the decision may depend on the remaining bytes in any way: the instances below write the matcher's
    body as such an `F`, split it on the tests it makes on `bs`, and find `St.finish_err` or `St.finish_advance`
    at every leaf -/
theorem IsMatcher.of_rest {F : List UInt8 → St → Res α} (hsp : sp ≠ .leftRecursionSentinel ∧ sp ≠ .other)
    (h : ∀ bs, ∃ x : Option (Nat × α), ∀ s : St, F bs s = s.finish sp x) : IsMatcher fun s => F s.rest s :=
  ⟨sp, fun bs => Classical.choose (h bs), hsp, fun s => Classical.choose_spec (h s.rest) s⟩

end

theorem isMatcher_parseChar : IsMatcher parseChar :=
  .of_rest (sp := .expectedAnyCharacter) ⟨nofun, nofun⟩ (F := fun bs s => match decodeHead bs with
    | none => .err (s.reportError .expectedAnyCharacter)
    | some c => s.advance c.utf8Size c)
    fun bs => by cases decodeHead bs <;> first | exact St.finish_err | exact St.finish_advance _ _

theorem isMatcher_parseWhitespace : IsMatcher parseWhitespace :=
  ⟨.expectedEoi, fun bs => some (wsPrefixLen bs, ()), ⟨nofun, nofun⟩,
   fun _ => (St.advance_of_le (wsPrefixLen_le _) ()).symm⟩

theorem isMatcher_parseEndOfInput : IsMatcher parseEndOfInput :=
  ⟨.expectedEoi, fun bs => if bs.isEmpty then some (0, ()) else none, ⟨nofun, nofun⟩,
   fun s => by
    unfold parseEndOfInput St.isEmpty
    split <;> simp only [St.finish, *, if_true, if_false, reduceCtorEq]
    exact (St.advance_of_le (Nat.zero_le _) ()).symm⟩

theorem isMatcher_parseStringLiteral (l : List Char) : IsMatcher (parseStringLiteral · l) :=
  .of_rest (sp := .expectedString l) ⟨nofun, nofun⟩
    (F := fun bs s => if !((enc l).isPrefixOf bs) then .err (s.reportError (.expectedString l))
      else s.advance (enc l).length ())
    fun bs => by split <;> first | exact St.finish_err | exact St.finish_advance _ _

theorem isMatcher_parseStringLiteralInsensitive (l : List Char) :
    IsMatcher (parseStringLiteralInsensitive · l) :=
  .of_rest (sp := .expectedString l) ⟨nofun, nofun⟩
    (F := fun bs s => if enc l != (bs.take (enc l).length).map toAsciiLower
      then .err (s.reportError (.expectedString l)) else s.advance (enc l).length ())
    fun bs => by split <;> first | exact St.finish_err | exact St.finish_advance _ _

theorem isMatcher_parseCharacterLiteral (c : Char) : IsMatcher (parseCharacterLiteral · c) :=
  .of_rest (sp := .expectedCharacter c) ⟨nofun, nofun⟩ (F := fun bs s => if isAscii c then
      match bs with
      | [] => .err (s.reportError (.expectedCharacter c))
      | b :: _ => if b != charAsU8 c then .err (s.reportError (.expectedCharacter c)) else s.advance 1 c
    else if !((String.utf8EncodeChar c).isPrefixOf bs) then .err (s.reportError (.expectedCharacter c))
    else s.advance c.utf8Size c)
    fun bs => by repeat' split
                 all_goals first | exact St.finish_err | exact St.finish_advance _ _

theorem isMatcher_parseCharacterLiteralInsensitive (c : Char) :
    IsMatcher (parseCharacterLiteralInsensitive · c) :=
  .of_rest (sp := .expectedCharacter c) ⟨nofun, nofun⟩ (F := fun bs s => match bs with
    | [] => .err (s.reportError (.expectedCharacter c))
    | b :: _ => if toAsciiLower b != charAsU8 c then .err (s.reportError (.expectedCharacter c))
      else s.advance 1 c)
    fun bs => by repeat' split
                 all_goals first | exact St.finish_err | exact St.finish_advance _ _

theorem isMatcher_parseCharacterRange (lo hi : Char) : IsMatcher (parseCharacterRange · lo hi) :=
  .of_rest (sp := .expectedCharacterRange lo hi) ⟨nofun, nofun⟩ (F := fun bs s => if isAscii lo && isAscii hi then
      match bs with
      | [] => .err (s.reportError (.expectedCharacterRange lo hi))
      | b :: _ => if b < charAsU8 lo || b > charAsU8 hi then .err (s.reportError (.expectedCharacterRange lo hi))
        else s.advance 1 (u8AsChar b)
    else match decodeHead bs with
      | none => .err (s.reportError (.expectedCharacterRange lo hi))
      | some c => if c < lo || c > hi then .err (s.reportError (.expectedCharacterRange lo hi))
        else s.advance c.utf8Size c)
    fun bs => by repeat' split
                 all_goals first | exact St.finish_err | exact St.finish_advance _ _

theorem IsMatcher.map {α β} {m : St → Res α} (h : IsMatcher m) (f : α → β) :
    IsMatcher fun s => (m s).map f := by
  obtain ⟨sp, d, hsp, hd⟩ := h
  refine ⟨sp, fun bs => (d bs).map fun p => (p.1, f p.2), hsp, fun s => ?_⟩
  simp only [hd]
  cases d s.rest with
  | none => rfl
  | some p => simp only [St.finish, Option.map_some, St.advance]; split <;> rfl

/-- what a caller can see of a matcher's outcome -/
theorem IsMatcher.cases {α} {m : St → Res α} (h : IsMatcher m) (s : St) :
    (∃ sp, m s = .err (s.reportError sp)) ∨
    (∃ n v, n ≤ s.rest.length ∧ m s = .ok v { s with rest := s.rest.drop n, off := s.off + n }) ∨
    m s = .panic "String length overrun in advance()" := by
  obtain ⟨sp, d, _, hd⟩ := h
  rw [hd]
  cases d s.rest with
  | none => exact .inl ⟨sp, rfl⟩
  | some p =>
    by_cases hn : p.1 ≤ s.rest.length
    · exact .inr (.inl ⟨p.1, p.2, hn, St.advance_of_le hn _⟩)
    · exact .inr (.inr (by simp [St.finish, St.advance, Nat.lt_of_not_le hn]))

/-- a successful matcher steps over `n` of the remaining bytes and leaves `far` alone -/
theorem IsMatcher.ok_inv {α} {m : St → Res α} (h : IsMatcher m) {s v s'} (hm : m s = .ok v s') :
    ∃ n, n ≤ s.rest.length ∧ s' = { s with rest := s.rest.drop n, off := s.off + n } := by
  rcases h.cases s with ⟨sp, he⟩ | ⟨n, v', hn, he⟩ | he <;> rw [he] at hm <;> cases hm
  exact ⟨n, hn, rfl⟩

theorem advance_ne_err {α} {s : St} {n : Nat} {v : α} {e : PErr} : s.advance n v ≠ .err e := by
  unfold St.advance
  split <;> exact nofun

/-- a matcher that fails reports a specific of its own at the cursor -/
theorem IsMatcher.err_inv {α} {m : St → Res α} (h : IsMatcher m) {s e} (hm : m s = .err e) :
    ∃ sp, (sp ≠ .leftRecursionSentinel ∧ sp ≠ .other) ∧ e = s.reportError sp := by
  obtain ⟨sp, d, hsp, hd⟩ := h
  rw [hd] at hm
  cases hx : d s.rest with
  | none => rw [hx] at hm; exact ⟨sp, hsp, (Res.err.inj hm).symm⟩
  | some p => rw [hx] at hm; exact absurd hm advance_ne_err

theorem IsMatcher.off_le {α} {m : St → Res α} (h : IsMatcher m) {s v s'} (hm : m s = .ok v s') :
    s.off ≤ s'.off := by
  obtain ⟨n, _, rfl⟩ := h.ok_inv hm
  exact Nat.le_add_right _ _

theorem IsMatcher.len_le {α} {m : St → Res α} (h : IsMatcher m) {s v s'} (hm : m s = .ok v s') :
    s'.rest.length ≤ s.rest.length := by
  obtain ⟨n, _, rfl⟩ := h.ok_inv hm
  simp only [List.length_drop]
  omega

/-- a successful matcher call moves the offset forward exactly when it shortens what remains (the
    `parse*_len` lemmas of Lengths.lean say when it does) -/
theorem IsMatcher.off_lt_iff {α} {m : St → Res α} (h : IsMatcher m) {s v s'} (hm : m s = .ok v s') :
    s.off < s'.off ↔ s'.rest.length < s.rest.length := by
  obtain ⟨n, hn, rfl⟩ := h.ok_inv hm
  simp only [List.length_drop]
  omega

/-- the matchers never look at `far` -/
theorem IsMatcher.abs_clr {α} {m : St → Res α} (h : IsMatcher m) (s : St) :
    abs (m (clr s)) = abs (m s) := by
  obtain ⟨sp, d, _, hd⟩ := h
  rw [hd, hd]
  show abs ((clr s).finish sp (d s.rest)) = _
  cases d s.rest with
  | none => rfl
  | some p => by_cases hn : p.1 > s.rest.length <;> simp [St.finish, St.advance, hn, abs, clr]

/-! ### the expressions that compile to one matcher call -/

/-- `m.parse s`: the call a compiled literal makes -/
def LitMatcher.parse : LitMatcher → St → Res Parsed
  | .charLit c, s => (parseCharacterLiteral s c).map fun _ => []
  | .strLit l, s => (parseStringLiteral s l).map fun _ => []
  | .charLitI c, s => (parseCharacterLiteralInsensitive s c).map fun _ => []
  | .strLitI l, s => (parseStringLiteralInsensitive s l).map fun _ => []

/-- the matcher call a terminal expression compiles to; `error`: the generator rejects it (the model
    panics with that message); `none`: not a terminal -/
def terminalOf : Expr → Option (Except String (St → Res Parsed))
  | .range lo hi => some <|
    match lo.toChar, hi.toChar with
    | .ok lo, .ok hi => .ok fun s => (parseCharacterRange s lo hi).map fun _ => []
    | _, _ => .error "uncompilable: range bound"
  | .lit ins body => some <|
    match compileLit ins body with
    | .ok m => .ok m.parse
    | _ => .error "uncompilable: literal"
  | .eoi => some (.ok fun s => (parseEndOfInput s).map fun _ => [])
  | _ => none

theorem isMatcher_litMatcher (m : LitMatcher) : IsMatcher m.parse := by
  cases m
  · exact (isMatcher_parseCharacterLiteral _).map _
  · exact (isMatcher_parseStringLiteral _).map _
  · exact (isMatcher_parseCharacterLiteralInsensitive _).map _
  · exact (isMatcher_parseStringLiteralInsensitive _).map _

theorem isMatcher_of_terminalOf {e : Expr} {m} (h : terminalOf e = some (.ok m)) : IsMatcher m := by
  cases e <;> simp only [terminalOf, Option.some.injEq, reduceCtorEq] at h
  case range lo hi =>
    split at h <;> cases h
    exact (isMatcher_parseCharacterRange _ _).map _
  case lit ins body =>
    split at h <;> cases h
    exact isMatcher_litMatcher _
  case eoi => cases h; exact isMatcher_parseEndOfInput.map _

/-- a success of `r.map f` is a success of `r`, with `f` applied to its value -/
theorem Res.map_ok_inv {α β} {f : α → β} {r : Res α} {w s} (h : r.map f = .ok w s) : ∃ v, r = .ok v s ∧ w = f v := by
  cases r <;> cases h
  exact ⟨_, rfl, rfl⟩

/-- a literal matcher shortens the rest exactly when it is not `nullable` -/
theorem LitMatcher.parse_len {m : LitMatcher} {s v s'} (h : m.parse s = .ok v s') :
    Drop (m.nullable = false) s s' := by
  cases m <;> obtain ⟨_, h0, -⟩ := Res.map_ok_inv h
  · exact Drop.of_lt (parseCharacterLiteral_len h0)
  · exact parseStringLiteral_len h0
  · exact Drop.of_lt (parseCharacterLiteralInsensitive_len h0)
  · exact parseStringLiteralInsensitive_len h0

theorem map_const_ok {α β} {c : β} {r : Res α} {w s'} (h : r.map (fun _ => c) = .ok w s') : w = c :=
  (Res.map_ok_inv h).elim fun _ h => h.2

/-- a terminal contributes no field -/
theorem terminal_val {e : Expr} {m} (h : terminalOf e = some (.ok m)) {s p s'} (hm : m s = .ok p s') :
    p = [] := by
  cases e <;> simp only [terminalOf, Option.some.injEq, reduceCtorEq] at h
  case range lo hi => split at h <;> cases h; exact map_const_ok hm
  case lit ins body =>
    split at h <;> cases h
    rename_i lm _
    cases lm <;> exact map_const_ok hm
  case eoi => cases h; exact map_const_ok hm

section
variable {env : Env} {n : Nat} {ctx : Ctx} {e : Expr}

theorem stepExpr_terminal {rec : Rec} {m} (h : terminalOf e = some (.ok m)) (s : St) (g : Global) :
    stepExpr env rec n ctx e s g = Peg.withSkipWs rec ctx s g fun s g => some (m s, g) := by
  cases e <;> simp only [terminalOf, Option.some.injEq, reduceCtorEq] at h
  case range lo hi => split at h <;> cases h; simp only [stepExpr, *]
  case lit ins body =>
    split at h <;> cases h
    rename_i m hm
    simp only [stepExpr, hm]
    cases m <;> rfl
  case eoi => cases h; rfl

theorem stepExpr_terminal_error {rec : Rec} {msg} (h : terminalOf e = some (.error msg)) (s : St)
    (g : Global) : stepExpr env rec n ctx e s g = some (.panic msg, g) := by
  cases e <;> simp only [terminalOf, Option.some.injEq, reduceCtorEq] at h
  case range lo hi =>
    split at h <;> cases h
    simp only [stepExpr]
  case lit ins body =>
    split at h <;> cases h
    simp only [stepExpr]

theorem Spec.stepExpr_terminal {rec : SRec} {m} (h : terminalOf e = some (.ok m)) (s : St) :
    Spec.stepExpr env rec n ctx e s = Spec.withSkipWs rec ctx s fun s => some (abs (m s)) := by
  cases e <;> simp only [terminalOf, Option.some.injEq, reduceCtorEq] at h
  case range lo hi => split at h <;> cases h; simp only [Spec.stepExpr, *]
  case lit ins body =>
    split at h <;> cases h
    rename_i m hm
    simp only [Spec.stepExpr, hm]
    cases m <;> rfl
  case eoi => cases h; rfl

theorem Spec.stepExpr_terminal_error {rec : SRec} {msg} (h : terminalOf e = some (.error msg))
    (s : St) : Spec.stepExpr env rec n ctx e s = some (.panic msg) := by
  cases e <;> simp only [terminalOf, Option.some.injEq, reduceCtorEq] at h
  case range lo hi =>
    split at h <;> cases h
    simp only [Spec.stepExpr]
  case lit ins body =>
    split at h <;> cases h
    simp only [Spec.stepExpr]

end

end Peg
