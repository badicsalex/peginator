import PegVerif.Proofs.WfCheck
import PegVerif.FrontEnd
/-
  The extracted grammar-of-grammars passes the generator's checks and `wfCheck`, re-checked by the kernel on every
  build.  A module of its own over the definitions alone, so that this evaluation runs beside the proofs.
-/
namespace Peg

def namesUnique (g : Grammar) : Bool :=
  let names := g.rules.map RuleEntry.name
  names.all fun n => names.count n == 1

/-- an include cycle is one of the generator's errors -/
theorem Compile.not_hasIncludeCycle_of_accepts {g : Grammar} {st : Settings} {fuel : Nat}
    (h : Compile.accepts g st fuel = true) : Compile.hasIncludeCycle g fuel = false := by
  cases hc : Compile.hasIncludeCycle g fuel with
  | false => rfl
  | true => simp [Compile.accepts, Compile.errors, hc] at h

/-- The Bool checks on the meta-grammar, decided in one evaluation: all of them look rules up by name again
    and again, and most of the kernel's work is decoding the rule names, which it then does once. -/
theorem metaGrammar_checks :
    Compile.accepts Extracted.metaGrammar {} 64 = true ∧ allRefsDefined Extracted.metaGrammar = true ∧
    namesUnique Extracted.metaGrammar = true ∧ wfTermN 64 Extracted.metaGrammar {} = true := by decide +kernel

/-- every reference in the meta-grammar resolves -/
theorem metaGrammar_refs : allRefsDefined Extracted.metaGrammar = true := metaGrammar_checks.2.1

/-- C17: the generator model accepts its own grammar (default settings) -/
theorem metaGrammar_accepted : Compile.accepts Extracted.metaGrammar {} 64 = true := metaGrammar_checks.1

theorem metaGrammar_names_unique : namesUnique Extracted.metaGrammar = true := metaGrammar_checks.2.2.1

theorem metaGrammar_no_include_cycle : Compile.hasIncludeCycle Extracted.metaGrammar 64 = false :=
  Compile.not_hasIncludeCycle_of_accepts metaGrammar_accepted

/-- the extracted grammar-of-grammars is well-formed -/
theorem metaGrammar_wf : wfCheck Extracted.metaGrammar {} = true := by
  have hrefs : allRefsDefinedN 64 Extracted.metaGrammar = true := metaGrammar_refs
  simp only [wfCheck, wfCheckN, hrefs, metaGrammar_no_include_cycle, metaGrammar_checks.2.2.2, Bool.not_false,
    Bool.and_self]

end Peg
