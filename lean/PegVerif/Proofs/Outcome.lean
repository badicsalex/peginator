import PegVerif.Eval
import PegVerif.Proofs.Basics
import PegVerif.Proofs.Matchers
import PegVerif.Proofs.EvalLogic
/-
  What the passes over the evaluator that speak of results and values share (Positions.lean, BoundaryEval.lean,
  Plumbing.lean).  `OutInv C Q x` / `OutAll C R x`: the invariant of an outcome (`C` on the global object for every
  outcome, `Q` on success resp. `R` on every result), with the node shape `caseR`; `wf_closed`: consistency of the
  cursor with the input, with any such `C`, has the closure properties EvalLogic.lean asks for.  `ValClosed P`, `AllV P p`, `GrowsBy`:
  what the field plumbing (`mergePart`, `project`, `convertArm`, `extendAll`, `defaults`, `closureInit`,
  `postprocessField`) does to values of a predicate that the value constructors keep, and `ruleValue_V`: the value a rule
  builds from them.  The lemmas `*_all` / `*_inv`:
  what wraps a rule body (`@check`s, memoization and the grow loop, `@char` and `@extern` rules), once for any `C` that
  only looks at the cache (`CacheOnly`).
-/
namespace Peg

/-! ### `OutAll`, `OutInv`: the invariant of an outcome, at a node of shape `caseR` -/

/-- every finished outcome satisfies `C` on the global object and `R` on the result -/
def OutAll {α} (C : Global → Prop) (R : Res α → Prop) (x : Out α) : Prop :=
  ∀ r g', x = some (r, g') → C g' ∧ R r

theorem OutAll.none {α} {C : Global → Prop} {R : Res α → Prop} : OutAll C R none := fun _ _ h => nomatch h

theorem OutAll.res {α} {C : Global → Prop} {R : Res α → Prop} {r : Res α} {g} (hc : C g) (hr : R r) :
    OutAll C R (some (r, g)) := by
  intro r' g' h; cases h; exact ⟨hc, hr⟩

/-- the invariant at a node that looks at the outcome of a sub-run; a panic is passed on -/
theorem OutAll.caseR {α β} {C : Global → Prop} {R : Res α → Prop} {R' : Res β → Prop} {x : Out α}
    {ok : α → St → Global → Out β} {err : PErr → Global → Out β} (hx : OutAll C R x)
    (hok : ∀ v s g, C g → R (.ok v s) → OutAll C R' (ok v s g))
    (herr : ∀ e g, C g → R (.err e) → OutAll C R' (err e g)) (hpanic : ∀ m, R (.panic m) → R' (.panic m)) :
    OutAll C R' (Peg.caseR x ok err) := by
  unfold Peg.caseR
  split
  · exact .none
  · exact hok _ _ _ (hx _ _ rfl).1 (hx _ _ rfl).2
  · exact herr _ _ (hx _ _ rfl).1 (hx _ _ rfl).2
  · exact .res (hx _ _ rfl).1 (hpanic _ (hx _ _ rfl).2)

/-- `OutAll` for an `R` that only speaks of successes: every finished outcome satisfies `C`, a successful one also `Q` -/
def OutInv {α} (C : Global → Prop) (Q : α → St → Prop) (x : Out α) : Prop :=
  ∀ r g', x = some (r, g') → C g' ∧ ∀ v s', r = .ok v s' → Q v s'

theorem OutInv.ok {α} {C : Global → Prop} {Q : α → St → Prop} {v s g} (hc : C g) (hq : Q v s) :
    OutInv C Q (some (.ok v s, g)) :=
  OutAll.res hc fun _ _ h => by cases h; exact hq

theorem OutInv.err {α} {C : Global → Prop} {Q : α → St → Prop} {e g} (hc : C g) :
    OutInv C Q (some (.err e, g)) :=
  OutAll.res hc fun _ _ h => nomatch h

theorem OutInv.panic {α} {C : Global → Prop} {Q : α → St → Prop} {m g} (hc : C g) :
    OutInv C Q (some (.panic m, g)) :=
  OutAll.res hc fun _ _ h => nomatch h

theorem OutInv.mono {α} {C : Global → Prop} {Q Q' : α → St → Prop} {x : Out α}
    (h : OutInv C Q x) (hq : ∀ v s, Q v s → Q' v s) : OutInv C Q' x := by
  intro r g' hx
  obtain ⟨hc, hq0⟩ := h r g' hx
  exact ⟨hc, fun v s' hr => hq _ _ (hq0 v s' hr)⟩

/-- `C` after the run (in the passes that use it, the invariant of the cache) -/
theorem OutInv.cache {α} {C : Global → Prop} {Q : α → St → Prop} {x : Out α} (h : OutInv C Q x)
    {r g'} (hx : x = some (r, g')) : C g' := (h r g' hx).1

theorem OutInv.post {α} {C : Global → Prop} {Q : α → St → Prop} {x : Out α} (h : OutInv C Q x)
    {v s' g'} (hx : x = some (.ok v s', g')) : Q v s' := (h _ g' hx).2 v s' rfl

theorem OutInv.caseR {α β} {C : Global → Prop} {Q : α → St → Prop} {Q' : β → St → Prop} {x : Out α}
    {ok : α → St → Global → Out β} {err : PErr → Global → Out β} (hx : OutInv C Q x)
    (hok : ∀ v s g, C g → Q v s → OutInv C Q' (ok v s g)) (herr : ∀ e g, C g → OutInv C Q' (err e g)) :
    OutInv C Q' (Peg.caseR x ok err) :=
  OutAll.caseR (R := fun r => ∀ v s, r = .ok v s → Q v s) hx (fun v s g hc hr => hok v s g hc (hr v s rfl))
    (fun e g hc _ => herr e g hc) (fun _ _ _ _ h => nomatch h)

theorem OutInv.bind {α β} {C : Global → Prop} {Q : α → St → Prop} {Q' : β → St → Prop} {x : Out α}
    {k : α → St → Global → Out β} (hx : OutInv C Q x)
    (hk : ∀ v s g, C g → Q v s → OutInv C Q' (k v s g)) : OutInv C Q' (bindR x k) :=
  hx.caseR hk fun _ _ hc => OutInv.err hc

/-- a success of `r.map f` is `f` of a success of `r` -/
theorem Res.map_ok {α β} {Q : β → St → Prop} {r : Res α} {f : α → β} (hq : ∀ v s, r = .ok v s → Q (f v) s) :
    ∀ w s, r.map f = .ok w s → Q w s :=
  fun _ s h => (Res.map_ok_inv h).elim fun v hv => hv.2 ▸ hq v s hv.1

theorem OutInv.map {α β} {C : Global → Prop} {Q : β → St → Prop} {r : Res α} {f : α → β} {g}
    (hc : C g) (hq : ∀ v s, r = .ok v s → Q (f v) s) : OutInv C Q (some (r.map f, g)) :=
  OutAll.res hc (Res.map_ok hq)

/-- every node keeps the cursor consistent with the input, together with any invariant of the global object that the
    rule calls keep -/
theorem wf_closed (inp : List UInt8) (G : Global → Prop) :
    EvalClosed fun {_} s f => WfSt inp s → ∀ g, G g → OutInv G (fun _ s' => WfSt inp s') (f g) where
  stuck _ _ _ _ := OutAll.none
  ok _ _ hs _ hg := .ok hg hs
  err _ _ _ _ hg := .err hg
  panic _ _ _ _ hg := .panic hg
  matcher hm _ hs _ hg := OutAll.res hg fun _ _ hr => hm.wf hs hr
  caseR hf hok herr hs g hg :=
    (hf hs g hg).caseR (fun v s1 g1 hg1 hs1 => hok v s1 hs1 g1 hg1) fun e g1 hg1 => herr e hs g1 hg1
  look hf _ hs g hg := (hf hs g hg).bind fun _ _ _ hg' _ => .ok hg' hs
  recErr h hs g hg := h (wf_recordError.2 hs) g hg

/-! ### values under the field plumbing -/

/-- `P` is kept by the wrappers the field plumbing puts around values (`Option`, `Box`, enum variant, `Vec`) -/
structure ValClosed (P : Val → Prop) : Prop where
  none : P .none
  some : ∀ {v}, P v → P (.some v)
  boxed : ∀ {v}, P v → P (.boxed v)
  variant : ∀ {v} c, P v → P (.variant c v)
  list : ∀ {vs}, (∀ v ∈ vs, P v) → P (.list vs)
  list_inv : ∀ {vs}, P (.list vs) → ∀ v ∈ vs, P v

def AllV (P : Val → Prop) (p : Parsed) : Prop := ∀ x ∈ p, P x.2

theorem AllV.nil {P : Val → Prop} : AllV P [] := by intro x hx; cases hx

theorem AllV.cons {P : Val → Prop} {n v p} (hv : P v) (hp : AllV P p) : AllV P ((n, v) :: p) := by
  intro x hx
  rcases List.mem_cons.mp hx with rfl | hx
  · exact hv
  · exact hp x hx

theorem AllV.single {P : Val → Prop} {n v} (hv : P v) : AllV P [(n, v)] := AllV.cons hv AllV.nil

theorem AllV.imp {P P' : Val → Prop} {p} (h : ∀ v, P v → P' v) (hp : AllV P p) : AllV P' p :=
  fun x hx => h _ (hp x hx)

theorem Parsed.get_mem {p : Parsed} {n v} (h : p.get n = some v) : (n, v) ∈ p := by
  unfold Parsed.get at h
  cases hf : p.find? (·.1 == n) with
  | none => simp [hf] at h
  | some x =>
    simp only [hf, Option.map_some, Option.some.injEq] at h
    have h1 := List.mem_of_find?_eq_some hf
    have h2 := List.find?_some hf
    simp only [beq_iff_eq] at h2
    obtain ⟨a, b⟩ := x
    simp only at h h2
    subst h h2
    exact h1

theorem AllV.get {P : Val → Prop} {p : Parsed} {n v} (hp : AllV P p) (h : p.get n = some v) : P v :=
  hp _ (Parsed.get_mem h)

theorem Parsed.mem_set {p : Parsed} {n v x} (h : x ∈ p.set n v) : x ∈ p ∨ x = (n, v) := by
  unfold Parsed.set at h
  split at h
  · obtain ⟨kv, hkv, heq⟩ := List.mem_map.mp h
    split at heq
    · exact Or.inr heq.symm
    · exact Or.inl (heq ▸ hkv)
  · rcases List.mem_append.mp h with h | h
    · exact Or.inl h
    · exact Or.inr (by simpa using h)

theorem AllV.set {P : Val → Prop} {p : Parsed} {n v} (hp : AllV P p) (hv : P v) : AllV P (p.set n v) := by
  intro x hx
  rcases Parsed.mem_set hx with h | rfl
  · exact hp x h
  · exact hv

/-! ### what the field plumbing does to an accumulator -/

section
variable {P : Val → Prop}

/-- `acc'` arises from `acc` by binding fields to values satisfying `P` or by appending elements satisfying `P` to
    list fields; everything else is untouched -/
def GrowsBy (P : Val → Prop) (acc acc' : Parsed) : Prop :=
  ∀ x ∈ acc', x ∈ acc ∨ P x.2 ∨ ∃ a b, (x.1, Val.list a) ∈ acc ∧ x.2 = .list (a ++ b) ∧ ∀ y ∈ b, P y

theorem GrowsBy.refl (acc : Parsed) : GrowsBy P acc acc := fun _ hx => Or.inl hx

theorem GrowsBy.imp {P' : Val → Prop} {acc acc' : Parsed} (hpp : ∀ v, P v → P' v) (h : GrowsBy P acc acc') :
    GrowsBy P' acc acc' := by
  intro x hx
  rcases h x hx with h | h | ⟨a, b, ha, hb, hc⟩
  · exact Or.inl h
  · exact Or.inr (Or.inl (hpp _ h))
  · exact Or.inr (Or.inr ⟨a, b, ha, hb, fun y hy => hpp _ (hc y hy)⟩)

theorem ValClosed.append (hP : ValClosed P) {a b : List Val} (ha : P (.list a))
    (hb : ∀ y ∈ b, P y) : P (.list (a ++ b)) :=
  hP.list fun y hy => (List.mem_append.mp hy).elim (hP.list_inv ha y) (hb y)

theorem GrowsBy.trans (hP : ValClosed P) {acc acc1 acc2 : Parsed} (h1 : GrowsBy P acc acc1)
    (h2 : GrowsBy P acc1 acc2) : GrowsBy P acc acc2 := by
  intro x hx
  rcases h2 x hx with h | h | ⟨a, b, ha, hb, hc⟩
  · exact h1 x h
  · exact Or.inr (Or.inl h)
  · rcases h1 _ ha with h | h | ⟨a0, b0, ha0, hb0, hc0⟩
    · exact Or.inr (Or.inr ⟨a, b, h, hb, hc⟩)
    · exact Or.inr (Or.inl (hb ▸ hP.append h hc))
    · simp only [Val.list.injEq] at hb0
      refine Or.inr (Or.inr ⟨a0, b0 ++ b, ha0, by rw [hb, hb0, List.append_assoc], fun y hy => ?_⟩)
      exact (List.mem_append.mp hy).elim (hc0 y) (hc y)

theorem GrowsBy.allV (hP : ValClosed P) {acc acc' : Parsed} (h : GrowsBy P acc acc')
    (hacc : AllV P acc) : AllV P acc' := by
  intro x hx
  rcases h x hx with h | h | ⟨a, b, ha, hb, hc⟩
  · exact hacc x h
  · exact h
  · exact hb ▸ hP.append (hacc _ ha) hc

theorem GrowsBy.set_new {acc : Parsed} {n v} (hv : P v) : GrowsBy P acc (acc.set n v) := by
  intro x hx
  rcases Parsed.mem_set hx with h | rfl
  · exact Or.inl h
  · exact Or.inr (Or.inl hv)

theorem GrowsBy.set_extend (hP : ValClosed P) {acc : Parsed} {n old v nv}
    (hold : acc.get n = some old) (he : extendVal old v = .ok nv) (hv : P v) : GrowsBy P acc (acc.set n nv) := by
  intro x hx
  rcases Parsed.mem_set hx with h | rfl
  · exact Or.inl h
  · unfold extendVal at he
    split at he
    · rename_i a b
      cases he
      exact Or.inr (Or.inr ⟨a, b, Parsed.get_mem hold, rfl, hP.list_inv hv⟩)
    · cases he

end

/-! ### the plumbing helpers only rearrange / wrap values -/

section plumbing
variable {P : Val → Prop} (hP : ValClosed P)
include hP

theorem defaultField_V {f : FieldDesc} {v} (h : defaultField f = .ok v) : P v := by
  unfold defaultField at h
  split at h
  · cases h
  · cases h; exact hP.none
  · cases h; exact hP.list (fun v hv => by cases hv)

theorem defaults_V : ∀ {fs : List FieldDesc} {p}, defaults fs = .ok p → AllV P p := by
  intro fs
  induction fs with
  | nil => intro p h; simp only [defaults] at h; cases h; exact AllV.nil
  | cons f fs ih =>
    intro p h
    simp only [defaults] at h
    split at h
    · rename_i v p' hv hp
      cases h
      exact AllV.cons (defaultField_V hP hv) (ih hp)
    · cases h
    · cases h

theorem mergePart_grows : ∀ {fs : List FieldDesc} {seen acc r seen' acc'},
    mergePart fs seen acc r = .ok (seen', acc') → AllV P r → GrowsBy P acc acc' := by
  intro fs
  induction fs with
  | nil => intro seen acc r seen' acc' h _; simp only [mergePart] at h; cases h; exact .refl _
  | cons f fs ih =>
    intro seen acc r seen' acc' h hr
    simp only [mergePart] at h
    split at h
    · cases h
    · rename_i v hv
      split at h
      · exact (GrowsBy.set_new (hr.get hv)).trans hP (ih h hr)
      · split at h
        · cases h
        · split at h
          · cases h
          · rename_i old hold
            split at h
            · cases h
            · rename_i nv hnv
              exact (GrowsBy.set_extend hP hold hnv (hr.get hv)).trans hP (ih h hr)

theorem mergePart_V {fs : List FieldDesc} {seen acc r seen' acc'}
    (h : mergePart fs seen acc r = .ok (seen', acc')) (hacc : AllV P acc) (hr : AllV P r) : AllV P acc' :=
  (mergePart_grows hP h hr).allV hP hacc

omit hP in
theorem project_V : ∀ {fs : List FieldDesc} {env p}, project fs env = .ok p → AllV P env →
    AllV P p := by
  intro fs
  induction fs with
  | nil => intro env p h _; simp only [project] at h; cases h; exact AllV.nil
  | cons f fs ih =>
    intro env p h henv
    simp only [project] at h
    split at h
    · rename_i v p' hv hp
      cases h
      exact AllV.cons (henv.get hv) (ih hp henv)
    · cases h
    · cases h

theorem convertArm_go_V {inner : List FieldDesc} {r : Parsed} (hr : AllV P r) :
    ∀ {fs : List FieldDesc} {p}, convertArm.go inner r fs = .ok p → AllV P p := by
  intro fs
  induction fs with
  | nil => intro p h; simp only [convertArm.go] at h; cases h; exact AllV.nil
  | cons f fs ih =>
    intro p h
    simp only [convertArm.go] at h
    split at h
    · rename_i v p' hv hp
      cases h
      refine AllV.cons ?_ (ih hp)
      split at hv
      · split at hv
        · rename_i v0 hg; cases hv; exact hr.get hg
        · cases hv
      · exact defaultField_V hP hv
    · cases h
    · cases h

theorem convertArm_V {fields inner : List FieldDesc} {r p : Parsed} (h : convertArm fields inner r = .ok p)
    (hr : AllV P r) : AllV P p := by
  unfold convertArm at h
  split at h
  · cases h; exact AllV.nil
  · split at h
    · split at h
      · rename_i v hv; cases h; exact AllV.single (defaultField_V hP hv)
      · cases h
    · split at h
      · rename_i v hv; cases h; exact AllV.single (hr.get hv)
      · cases h
  · exact convertArm_go_V hP hr h

theorem extendAll_grows : ∀ {fs : List FieldDesc} {acc r acc'},
    extendAll fs acc r = .ok acc' → AllV P r → GrowsBy P acc acc' := by
  intro fs
  induction fs with
  | nil => intro acc r acc' h _; simp only [extendAll] at h; cases h; exact .refl _
  | cons f fs ih =>
    intro acc r acc' h hr
    simp only [extendAll] at h
    split at h
    · rename_i a b ha hb
      split at h
      · rename_i v hv
        exact (GrowsBy.set_extend hP ha hv (hr.get hb)).trans hP (ih h hr)
      · cases h
    · cases h

theorem extendAll_V {fs : List FieldDesc} {acc r acc'} (h : extendAll fs acc r = .ok acc') (hacc : AllV P acc)
    (hr : AllV P r) : AllV P acc' :=
  (extendAll_grows hP h hr).allV hP hacc

theorem closureInit_V : ∀ {fs : List FieldDesc} {p}, closureInit fs = .ok p → AllV P p := by
  intro fs
  induction fs with
  | nil => intro p h; simp only [closureInit] at h; cases h; exact AllV.nil
  | cons f fs ih =>
    intro p h
    simp only [closureInit] at h
    split at h
    · cases h
    · split at h
      · rename_i p' hp; cases h
        exact AllV.cons (hP.list (fun v hv => by cases hv)) (ih hp)
      · cases h

omit hP in
/-- the field post-processing only wraps: the rule's value goes into `Box` / enum-variant wrappers by the field's
    types, then into `Some(…)` / `vec![…]` by its arity -/
theorem postprocessField_ok_inv {rf : List FieldDesc} {name typ : String} {v fv : Val}
    (h : postprocessField rf name typ v = .ok fv) :
    ∃ f w, findField rf name = some f ∧
      (w = v ∨ w = .boxed v ∨ w = .variant typ v ∨ w = .variant typ (.boxed v)) ∧
      fv = match f.arity with
        | .one => w
        | .optional => .some w
        | .multiple => .list [w] := by
  unfold postprocessField at h
  split at h
  · cases h
  · rename_i f hf
    split at h
    · cases h
    · rename_i boxed _
      cases h
      refine ⟨f, _, hf, ?_, rfl⟩
      cases boxed <;> split <;> simp

theorem postprocessField_V {rf : List FieldDesc} {name typ : String} {v fv : Val}
    (h : postprocessField rf name typ v = .ok fv) (hv : P v) : P fv := by
  obtain ⟨f, w, -, hw, rfl⟩ := postprocessField_ok_inv h
  have hw : P w := by
    rcases hw with rfl | rfl | rfl | rfl
    · exact hv
    · exact hP.boxed hv
    · exact hP.variant _ hv
    · exact hP.variant _ (hP.boxed hv)
  split
  · exact hw
  · exact hP.some hw
  · exact hP.list fun x hx => List.mem_singleton.mp hx ▸ hw

end plumbing

/-- the value a normal rule builds from fields satisfying `P` satisfies `P`, if the matched text does and so does a
    node of such fields that carries no range or the range of the match -/
theorem ruleValue_V {P : Val → Prop} {r : Rule} {fields : List FieldDesc} {s s' : St} {p : Parsed} {v : Val}
    (h : ruleValue r fields s p s' = .ok v) (hstr : P (.str (s.sliceUntil s')))
    (hnode : ∀ fs pos, AllV P fs → (∀ a b, pos = some (a, b) → a = s.off ∧ b = s'.off) → P (.node r.name fs pos))
    (hp : AllV P p) : P v := by
  rcases ruleValue_ok_inv h with rfl | hget | ⟨fs, hfs, rfl⟩
  · unfold stringVal
    split
    · exact hnode _ _ (AllV.single hstr) fun a b hab => by cases hab; exact ⟨rfl, rfl⟩
    · exact hstr
  · exact hp.get hget
  · refine hnode _ _ (project_V hfs hp) fun a b hab => ?_
    split at hab <;> cases hab
    exact ⟨rfl, rfl⟩

/-! ### the rule wrappers, for any invariant `C` that only looks at the cache and any predicate `R` on results -/

def CacheOnly (C : Global → Prop) : Prop := ∀ g g' : Global, g'.cache = g.cache → C g → C g'

theorem CacheOnly.emit {C} (hC : CacheOnly C) {g : Global} (e : Ev) (h : C g) : C (g.emit e) := hC g (g.emit e) rfl h

theorem CacheOnly.uctx {C} (hC : CacheOnly C) {g : Global} (u : Nat) (h : C g) : C { g with uctx := u } :=
  hC g { g with uctx := u } rfl h

/-- "every cached success satisfies `Q` of its key" only looks at the cache (the form of the cache invariants of
    both passes of Positions.lean) -/
theorem CacheOnly.of_entries (Q : String → Nat → Val → St → Prop) :
    CacheOnly fun g => ∀ name off v s', g.lookup (name, off) = some (.ok v s') → Q name off v s' :=
  fun _ _ hc h => (Cached.ok_iff₂ Q).2 (((Cached.ok_iff₂ Q).1 h).of_cache hc)

theorem insert_entries {Q : String → Nat → Val → St → Prop} {g : Global} {name : String} {off : Nat} {r : Res Val}
    (hg : ∀ name off v s', g.lookup (name, off) = some (.ok v s') → Q name off v s')
    (hr : ∀ v s', r = .ok v s' → Q name off v s') :
    ∀ name' off' v s', (g.insert (name, off) r).lookup (name', off') = some (.ok v s') → Q name' off' v s' :=
  (Cached.ok_iff₂ Q).2 (((Cached.ok_iff₂ Q).1 hg).insert hr)

/-- the `@check`s only log, or fail at the state they are run in -/
theorem runChecks_all {env : Env} {C : Global → Prop} (hC : CacheOnly C) {R : Res Val → Prop} {v : Val} {s : St}
    (herr : ∀ sp, R (.err (s.reportError sp))) (hok : R (.ok v s)) :
    ∀ fs g, C g → OutAll C R (runChecks env fs v s g) := by
  intro fs
  induction fs with
  | nil => intro g hg; exact .res hg hok
  | cons f fs ih =>
    intro g hg
    simp only [runChecks]
    split
    · exact .res (hC.emit _ (hC.uctx _ hg)) (herr _)
    · exact ih _ (hC.emit _ (hC.uctx _ hg))

theorem runChecks_inv {env : Env} {C : Global → Prop} (hC : CacheOnly C) {Q : Val → St → Prop} (fs v s g)
    (hg : C g) (hq : Q v s) : OutInv C Q (runChecks env fs v s g) :=
  runChecks_all hC (fun _ _ _ h => nomatch h) (fun _ _ h => by cases h; exact hq) fs g hg

/-- the grow loop of a `@leftrec` rule returns a result of its body or the seed `best`; `hins`: `R` allows the
    insertions under the key -/
theorem growLoop_all {C : Global → Prop} (hC : CacheOnly C) {R : Res Val → Prop}
    {body : St → Global → Out Val} {key : String × Nat} {s : St}
    (hins : ∀ g r, C g → R r → C (g.insert key r)) (hbody : ∀ g, C g → OutAll C R (body s g)) :
    ∀ k best g, C g → R best → OutAll C R (growLoop body key s k best g) := by
  intro k
  induction k with
  | zero => intro best g _ _; exact .none
  | succ k ih =>
    intro best g hg hbest
    rw [growLoop_step]
    refine (hbody _ (hC.emit _ (hC.emit _ hg))).caseR (fun v ns g' hg' hr => ?_) (fun e g' hg' hr => ?_) fun _ h => h
    · split
      · exact ih _ _ (hins _ _ hg' hr) hr
      · exact .res hg' hbest
    · split
      · exact .res hg' hbest
      · exact .res (hins _ _ hg' hr) hr

/-- the branches of `memoBody` return a cached answer, a result of the grow loop or a result of the body.  What
    `R` must allow: the insertion under the key (`hins`), a cached answer (`hlook`), the sentinel seed (`hsent`). -/
theorem memoBody_all {C : Global → Prop} (hC : CacheOnly C) {R : Res Val → Prop}
    {body : St → Global → Out Val} {name : String} {s : St}
    (hins : ∀ g r, C g → R r → C (g.insert (name, s.off) r))
    (hlook : ∀ g r, C g → g.lookup (name, s.off) = some r → R r)
    (hsent : R (.err (s.reportError .leftRecursionSentinel)))
    (hbody : ∀ g, C g → OutAll C R (body s g)) (flags : RuleFlags) (n : Nat) (g : Global) (hg : C g) :
    OutAll C R (memoBody flags name body n s g) := by
  rw [memoBody_step]
  split
  · split
    · rename_i cached hc; exact .res (hC.emit _ hg) (hlook _ _ hg hc)
    · exact growLoop_all hC hins hbody _ _ _ (hins _ _ hg hsent) hsent
  · split
    · split
      · rename_i cached hc; exact .res (hC.emit _ hg) (hlook _ _ hg hc)
      · exact (hbody _ (hC.emit _ hg)).caseR (fun _ _ _ hg' hr => .res (hins _ _ hg' hr) hr)
          (fun _ _ hg' hr => .res (hins _ _ hg' hr) hr) fun _ h => h
    · exact hbody g hg

/-- `memoBody_all` for a normal rule: tracing does not touch the cache -/
theorem normalRule_all {env : Env} {rec : Rec} {C : Global → Prop} (hC : CacheOnly C) {R : Res Val → Prop}
    {r : Rule} {s : St} (hins : ∀ g res, C g → R res → C (g.insert (r.name, s.off) res))
    (hlook : ∀ g res, C g → g.lookup (r.name, s.off) = some res → R res)
    (hsent : R (.err (s.reportError .leftRecursionSentinel)))
    (hbody : ∀ g, C g → OutAll C R (ruleBody env rec r s g)) (n : Nat) (g : Global) (hg : C g) :
    OutAll C R (normalRule env rec n r s g) := by
  have hm := memoBody_all hC hins hlook hsent hbody r.flags n (g.emit (.traceStart r.name s.off)) (hC.emit _ hg)
  intro res g' h
  obtain ⟨g1, hx, rfl⟩ := normalRule_eq_some h
  exact ⟨hC _ _ (traceResult_cache g1 res) (hm _ _ hx).1, (hm _ _ hx).2⟩

/-- the case of `OutInv`: the cache is only asked about successes -/
theorem normalRule_inv {env : Env} {rec : Rec} {C : Global → Prop} (hC : CacheOnly C) {Q : Val → St → Prop}
    {r : Rule} {s : St}
    (hins : ∀ g res, C g → (∀ v s', res = .ok v s' → Q v s') → C (g.insert (r.name, s.off) res))
    (hlook : ∀ g v s', C g → g.lookup (r.name, s.off) = some (.ok v s') → Q v s')
    (hbody : ∀ g, C g → OutInv C Q (ruleBody env rec r s g)) (n : Nat) (g : Global) (hg : C g) :
    OutInv C Q (normalRule env rec n r s g) :=
  normalRule_all (R := fun res => ∀ v s', res = .ok v s' → Q v s') hC hins
    (fun g _ hg hl v s' h => hlook g v s' hg (h ▸ hl)) (fun _ _ h => nomatch h) hbody n g hg

section
variable {env : Env} {rec : Rec} {C : Global → Prop} {R : Res Val → Prop} {r : CharRule} {s : St}
  (herr : R (.err (s.reportError (.expectedCharacterClass r.name))))
  (hlit : ∀ c, R ((parseCharacterLiteral s c).map .chr))
  (hrange : ∀ lo hi, R ((parseCharacterRange s lo hi).map .chr))
  (hplit : R (.panic "uncompilable: char rule literal")) (hprange : R (.panic "uncompilable: char rule range"))
  (hrule : ∀ id g, C g → OutAll C R (rec.rule id s g))
include herr hlit hrange hplit hprange hrule

/-- a `@char` rule returns what one of its parts returns (a character matcher's result, a rule's result, the
    panic of an uncompilable part) or the class error -/
theorem charParts_all : ∀ ps g, C g → OutAll C R (charParts rec r.name ps s g) := by
  intro ps
  induction ps with
  | nil => intro g hg; exact .res hg herr
  | cons p ps ih =>
    intro g hg
    rw [charParts_step]
    refine OutAll.caseR (R := R) ?_ (fun _ _ _ hg' hr => .res hg' hr) (fun _ g' hg' _ => ih g' hg') (fun _ h => h)
    cases p with
    | chr item =>
      dsimp only
      split
      · exact .res hg (hlit _)
      · exact .res hg hplit
    | range lo hi =>
      dsimp only
      split
      · exact .res hg (hrange _ _)
      · exact .res hg hprange
    | ident id => exact hrule id g hg

/-- the `@check`s of a `@char` rule only log, or fail with the class error -/
theorem charRule_all (hC : CacheOnly C) (g : Global) (hg : C g) : OutAll C R (charRule env rec r s g) := by
  have hparts := charParts_all herr hlit hrange hplit hprange hrule r.choices
  simp only [charRule]
  split
  · exact hparts g hg
  · split
    · exact .res hg herr
    · rename_i c _
      obtain ⟨l, -, heq⟩ := charChecks_eq env r.name r.directives c
      have hg1 : C { g with log := l ++ g.log } := hC g _ rfl hg
      rw [heq]
      cases Spec.charChecksOk env r.directives c
      · exact .res hg1 herr
      · exact hparts _ hg1

end

/-- an `@extern` rule returns the error of the user function or advances by the length it answers -/
theorem externRule_all {env : Env} {C : Global → Prop} (hC : CacheOnly C) {R : Res Val → Prop} {r : ExternRule}
    {s : St} (herr : ∀ sp, R (.err (s.reportError sp)))
    (hok : ∀ u v adv u', env.hooks.extern ("::".intercalate r.function) s.rest u = (.ok (v, adv), u') →
      R (s.advanceSafe adv v)) (g : Global) (hg : C g) : OutAll C R (externRule env r s g) := by
  simp only [externRule]
  split
  · rename_i heq
    exact .res (hC.emit _ (hC.uctx _ hg)) (hok _ _ _ _ (Prod.ext heq rfl))
  · exact .res (hC.emit _ (hC.uctx _ hg)) (herr _)
end Peg
