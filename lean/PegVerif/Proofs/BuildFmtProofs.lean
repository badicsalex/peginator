import PegVerif.BuildFmt
import PegVerif.Proofs.BuildProofs
/-
  Property C18 with `.format()` (model: `PegVerif/BuildFmt.lean`; `fmt` = the external program rustfmt).

  One run, failure, "untouched" and freshness over histories are proved in `BuildProofs.lean` for either mode, under
  `KeepsHeader k fmt format`.  Here: what that assumption is for `format = true` (`KeepsHeaderLines`: the four `//`
  lines at the start of a produced destination survive formatting), formatters that satisfy it, and the concrete
  instances – with formatting ANY two prefixes with the same CRC-32 are indistinguishable
  (`C18F_prefix_collision_witness`); before fix F8 the full header including the prefix text was compared although
  rustfmt had rewritten it, and "untouched" failed (`runOnceOld`, `C18F_old_untouched_fails`).
-/
namespace Peg
open Build

variable {k : Consts} {compile : List UInt8 → Option (List UInt8)} {fmt : List UInt8 → List UInt8}

theorem runOpsF_false (k : Consts) (compile : List UInt8 → Option (List UInt8)) (fmt : List UInt8 → List UInt8) :
    runOpsF k compile fmt false = runOps k compile := by
  funext fs ops
  exact runOpsF_false_apply fmt fs ops

theorem fullHeader_eq_headerLines (k : Consts) (g pfx : List UInt8) :
    fullHeader k g pfx = headerLines k g pfx ++ str "\n" ++ pfx := by
  rw [fullHeader_eq, headerLines_eq, List.append_assoc]

theorem output_eq_headerLines (k : Consts) (g pfx code : List UInt8) :
    output k g pfx code = headerLines k g pfx ++ (str "\n" ++ (pfx ++ (str "\n" ++ code))) := by
  rw [output_eq, headerLines_eq]

/-! ### The assumption about rustfmt -/

/-- **The assumption about rustfmt**, in the weakest form the proofs below need: formatting a destination produced by
    the helper (for the build constants `k`) leaves its header lines – the four `//` comment lines at the very start
    of the file – in place.  Nothing is assumed about what rustfmt does to the prefix text or to the code, nor about
    other inputs. -/
def KeepsHeaderLines (k : Consts) (fmt : List UInt8 → List UInt8) : Prop :=
  ∀ g pfx code : List UInt8,
    (fmt (output k g pfx code)).take (headerLines k g pfx).length = headerLines k g pfx

/-- the more natural (stronger) form: whatever follows the header lines, for any build constants -/
def KeepsHeaderLinesAll (fmt : List UInt8 → List UInt8) : Prop :=
  ∀ (k : Consts) (g pfx rest : List UInt8),
    (fmt (headerLines k g pfx ++ rest)).take (headerLines k g pfx).length = headerLines k g pfx

theorem KeepsHeaderLinesAll.keeps (h : KeepsHeaderLinesAll fmt) (k : Consts) : KeepsHeaderLines k fmt := by
  intro g pfx code
  rw [output_eq_headerLines]
  exact h k g pfx _

/-- no formatting at all satisfies the assumption … -/
theorem keepsHeaderLinesAll_id : KeepsHeaderLinesAll id := by
  intro k g pfx rest
  exact List.take_left

/-- … and so does a formatter that only makes sure the file ends with a newline (non-identity, all `k`) -/
def fmtFinalNewline (xs : List UInt8) : List UInt8 := if xs.getLast? = some 10 then xs else xs ++ [10]

theorem keepsHeaderLinesAll_fmtFinalNewline : KeepsHeaderLinesAll fmtFinalNewline := by
  intro k g pfx rest
  unfold fmtFinalNewline
  split
  · exact List.take_left
  · rw [List.append_assoc]; exact List.take_left

example : fmtFinalNewline [1] ≠ id [1] := by decide +kernel

/-! #### A family of formatters: anything that leaves the first four lines alone -/

/-- copy the first `n` lines (up to and including the `n`-th newline), apply `f` to what follows -/
def keepLines (f : List UInt8 → List UInt8) : Nat → List UInt8 → List UInt8
  | 0, xs => f xs
  | _ + 1, [] => []
  | n + 1, b :: xs => b :: keepLines f (if b = 10 then n else n + 1) xs

/-- lines that are not the last to be copied are copied -/
theorem keepLines_append (f : List UInt8 → List UInt8) (n : Nat) (xs : List UInt8) :
    ∀ l : List UInt8, keepLines f (l.count 10 + (n + 1)) (l ++ xs) = l ++ keepLines f (n + 1) xs
  | [] => by rw [List.count_nil, Nat.zero_add, List.nil_append, List.nil_append]
  | b :: l => by
    have ih := keepLines_append f n xs l
    rw [List.cons_append, List.count_cons, ← Nat.add_assoc, keepLines]
    refine congrArg (b :: ·) ?_
    by_cases hb : b = 10
    · rw [if_pos hb, hb, beq_self_eq_true, if_pos rfl, Nat.add_right_comm, Nat.add_assoc]; exact ih
    · rw [if_neg hb, beq_false_of_ne hb, if_neg Bool.false_ne_true, Nat.add_zero, Nat.add_assoc]; exact ih

theorem hexDigitU8_ne_nl : ∀ n, n < 16 → hexDigitU8 n ≠ 10 := by decide +kernel

theorem hex8_no_nl (x : UInt32) : ∀ b ∈ hex8 x, b ≠ 10 := by
  intro b hb
  simp only [hex8, List.mem_map] at hb
  obtain ⟨i, _, rfl⟩ := hb
  exact hexDigitU8_ne_nl _ (Nat.mod_lt _ (by decide))

/-- the header lines without their last newline hold three newlines (version and build time contain none) -/
theorem header_count_nl (hv : ∀ b ∈ k.version, b ≠ 10) (ht : ∀ b ∈ k.buildTime, b ≠ 10) (a b : UInt32) :
    (hdrA k ++ (hex8 a ++ (hdrB ++ hex8 b))).count 10 = 3 := by
  have hx : ∀ x, (hex8 x).count 10 = 0 := fun x => List.count_eq_zero.mpr fun h => hex8_no_nl x 10 h rfl
  simp only [hdrA, hdrB, str_eq, List.count_append, hx, List.count_eq_zero.mpr fun h => hv 10 h rfl,
    List.count_eq_zero.mpr fun h => ht 10 h rfl]
  -- what is left are the literals of the header
  decide +kernel

/-- a formatter that leaves the first four lines alone, applied to "header lines, anything": the header lines, then
    `f` of the rest (version and build time contain no newline) -/
theorem keepLines_headerLines (f : List UInt8 → List UInt8) (hv : ∀ b ∈ k.version, b ≠ 10)
    (ht : ∀ b ∈ k.buildTime, b ≠ 10) (g p rest : List UInt8) :
    keepLines f 4 (headerLines k g p ++ rest) = headerLines k g p ++ f rest := by
  have h := keepLines_append f 0 (10 :: rest) (hdrA k ++ (hex8 (crc32 g) ++ (hdrB ++ hex8 (crc32 p))))
  rw [header_count_nl hv ht] at h
  have hnl : str "\n" = [10] := by decide +kernel
  simp only [headerLines_eq, crcLines, hnl, List.append_assoc, List.cons_append, List.nil_append] at h ⊢
  rw [h]
  simp only [keepLines, if_true]

/-- **every formatter that leaves the first four lines alone satisfies the assumption** – whatever it does (`f`) to
    the rest of the file – provided the version and the build time contain no newline -/
theorem keepsHeaderLines_keepLines (f : List UInt8 → List UInt8) (hv : ∀ b ∈ k.version, b ≠ 10)
    (ht : ∀ b ∈ k.buildTime, b ≠ 10) : KeepsHeaderLines k (keepLines f 4) := by
  intro g pfx code
  rw [output_eq_headerLines, keepLines_headerLines f hv ht]
  exact List.take_left

/-! ### C18 with formatting -/

theorem KeepsHeaderLines.keepsHeader (hk : KeepsHeaderLines k fmt) : KeepsHeader k fmt true := hk

/-- **rewrite only when needed**: a destination that already is the formatted compilation of the current grammar with
    the current prefix is left untouched (whatever the compiler would answer now) -/
theorem C18F_rewrite_only_when_needed (k : Consts) (compile : List UInt8 → Option (List UInt8))
    (fmt : List UInt8 → List UInt8) (hk : KeepsHeaderLines k fmt) (fs : FS)
    (g code : List UInt8) (hg : fs.grammar = some g) (hd : fs.dest = some (fmt (output k g fs.pfx code))) :
    stepF k compile fmt true fs .run = (fs, .ok false) :=
  runOnceF_upToDate hg ⟨_, hd, hk g fs.pfx code⟩

/-! ### Concrete instances -/

namespace FmtWitness
open Witness

/-- a small stand-in for rustfmt: leaves the first four lines alone and squeezes runs of spaces in the rest of the
    file to one space -/
def squeeze : List UInt8 → List UInt8
  | [] => []
  | b :: xs => if b = 32 ∧ xs.head? = some 32 then squeeze xs else b :: squeeze xs

def fmtSq : List UInt8 → List UInt8 := keepLines squeeze 4

theorem fmtSq_output (g p code : List UInt8) :
    fmtSq (output k0 g p code) = headerLines k0 g p ++ squeeze (str "\n" ++ (p ++ (str "\n" ++ code))) := by
  rw [output_eq_headerLines]
  exact keepLines_headerLines squeeze (by decide +kernel) (by decide +kernel) g p _

/-- `fmtSq` satisfies the assumption (for the constants `k0` of `Witness`) and is not the identity -/
theorem keeps_fmtSq : KeepsHeaderLines k0 fmtSq :=
  keepsHeaderLines_keepLines squeeze (by decide +kernel) (by decide +kernel)

def gW : List UInt8 := str "A='x';"
/-- a prefix that the formatter rewrites (two spaces) -/
def pW : List UInt8 := str "use  a;"
def fsW : FS := ⟨some gW, none, pW⟩
/-- the destination after the first run: the prefix text now reads `use a;` -/
def dW : List UInt8 := headerLines k0 gW pW ++ str "\nuse a;\n" ++ [99]
def fsW' : FS := ⟨some gW, some dW, pW⟩

theorem fmtSq_rewrites : fmtSq (output k0 gW pW [99]) = dW ∧ dW ≠ output k0 gW pW [99] := by
  have h1 : squeeze (str "\n" ++ (pW ++ (str "\n" ++ [99]))) = str "\nuse a;\n" ++ [99] := by
    simp only [pW, str_eq]; decide +kernel
  have h2 : str "\nuse a;\n" ++ [99] ≠ str "\n" ++ (pW ++ (str "\n" ++ [99])) := by
    simp only [pW, str_eq]; decide +kernel
  refine ⟨by rw [fmtSq_output, h1, dW, List.append_assoc], fun h => h2 ?_⟩
  rw [dW, output_eq_headerLines, List.append_assoc] at h
  exact List.append_cancel_left h

/-! #### With formatting, any two prefixes with the same CRC-32 are indistinguishable

    `Witness.g1` / `Witness.g2` are two texts with the same CRC-32 (`fd872ce9`), neither an initial segment of the
    other; used as *prefixes* here.  Without formatting the change of the prefix from the one to the other is
    noticed (the prefix text is compared: the run rewrites the destination); with formatting it is not. -/

def opsPF : List Op := [.editGrammar (some gP), .setPrefix g1, .run, .setPrefix g2]
def fsEndPF : FS := ⟨some gP, some (fmtSq (output k0 gP g1 [99])), g2⟩

theorem second_runPF :
    stepF k0 compP fmtSq true (runOpsF k0 compP fmtSq true fs0 opsPF) .run = (fsEndPF, .ok false) := by
  rw [opsPF, fs0, runOpsF_edit, runOpsF_setPrefix, runOpsF_run (runOnceF_fresh (compP_eq _)), runOpsF_setPrefix, runOpsF,
    stepF_run]
  exact runOnceF_stale ((headerLines_prefix_fmt keeps_fmtSq).mpr ⟨rfl, crc_collision.symm⟩)

theorem second_runP_noformat :
    Build.step k0 compP (runOps k0 compP fs0 opsPF) .run =
      (⟨some gP, some (output k0 gP g2 [99]), g2⟩, .ok true) := by
  have hn : ¬ g2 <+: g1 ++ (str "\n" ++ [99]) := by simp only [g1, g2, str_eq]; decide +kernel
  rw [step_runOps id, opsPF, fs0, runOpsF_edit, runOpsF_setPrefix,
    runOpsF_run (runOnceF_fresh (compP_eq _)), runOpsF_setPrefix, runOpsF, stepF_run]
  exact runOnceF_changed (mt fullHeader_prefix_output.mp fun h => hn h.2.2) (compP_eq _)

end FmtWitness

open Witness FmtWitness in
/-- two prefixes with the same CRC-32, neither an initial segment of the other, a single grammar text, a constant
    compiler, a formatter satisfying `KeepsHeaderLines`: with formatting the second run reports "not written" and
    keeps the destination made with the old prefix; without formatting the same history ends in a rewrite. -/
theorem C18F_prefix_collision_witness :
    g1 ≠ g2 ∧ crc32 g1 = crc32 g2 ∧ KeepsHeaderLines k0 fmtSq ∧ fs0.dest = none ∧
    stepF k0 compP fmtSq true (runOpsF k0 compP fmtSq true fs0 opsPF) .run = (fsEndPF, .ok false) ∧
    (¬ ∃ g code, fsEndPF.grammar = some g ∧ compP g = some code ∧
        fsEndPF.dest = some (fmtSq (output k0 g fsEndPF.pfx code))) ∧
    Build.step k0 compP (runOps k0 compP fs0 opsPF) .run = (⟨some gP, some (output k0 gP g2 [99]), g2⟩, .ok true) := by
  refine ⟨g1_ne_g2, crc_collision, keeps_fmtSq, rfl, second_runPF, ?_, second_runP_noformat⟩
  rintro ⟨g, code, hg, hc, hd⟩
  cases hg
  cases hc
  have hne : squeeze (str "\n" ++ (g1 ++ (str "\n" ++ [99]))) ≠ squeeze (str "\n" ++ (g2 ++ (str "\n" ++ [99]))) := by
    simp only [g1, g2, str_eq]; decide +kernel
  have h := Option.some.inj hd
  rw [fmtSq_output, fmtSq_output] at h
  exact hne (List.append_inj h (by rw [headerLines_eq, headerLines_eq]; exact crcLines_length ..)).2

/-- hence the hypothesis on the prefixes cannot be dropped from `C18F_fresh_partial_history`, nor weakened to
    "no initial-segment pair" -/
theorem C18F_fresh_needs_prefix_hypothesis :
    ¬ ∀ (k : Consts) (compile : List UInt8 → Option (List UInt8)) (fmt : List UInt8 → List UInt8),
      KeepsHeaderLines k fmt → ∀ (fs0 : FS) (ops : List Op) (fs' : FS) (w : Bool), fs0.dest = none →
      CrcInjOn (· ∈ grammarTexts fs0 ops) →
      stepF k compile fmt true (runOpsF k compile fmt true fs0 ops) .run = (fs', .ok w) →
      ∃ g code, fs'.grammar = some g ∧ compile g = some code ∧ fs'.dest = some (fmt (output k g fs'.pfx code)) := by
  intro h
  obtain ⟨_, _, hk, h0, hrun, hn, _⟩ := C18F_prefix_collision_witness
  refine hn (h _ _ _ hk _ _ _ _ h0 ?_ hrun)
  -- the history has a single grammar text
  show CrcInjOn (· ∈ [Witness.gP])
  intro a ha b hb _
  rw [List.mem_singleton.mp ha, List.mem_singleton.mp hb]

/-! ### Necessity: the behaviour before fix F8

    Before the fix the helper with `.format()` compared the *full* header – header lines, blank line and the prefix
    text – with the start of the destination, although the destination had been rewritten by rustfmt. -/

/-- the OLD `Compile::run` with `.format()`: `runOnceF … true` with `cmp := hdr` -/
def runOnceOld (k : Consts) (compile : List UInt8 → Option (List UInt8)) (fmt : List UInt8 → List UInt8)
    (fs : FS) : FS × Out :=
  match fs.grammar with
  | none => (fs, .err)
  | some g =>
    let hdr := fullHeader k g fs.pfx
    let upToDate := match fs.dest with
      | some d => d.take hdr.length == hdr
      | none => false
    if upToDate then (fs, .ok false)
    else match compile g with
      | none => (fs, .err)
      | some code => ({ fs with dest := some (fmt (hdr ++ str "\n" ++ code)) }, .ok true)

/-- with the identity as formatter the behaviour before fix F8 is the behaviour without formatting (the defect only shows with
    a prefix text that rustfmt rewrites) -/
theorem runOnceOld_id (k : Consts) (compile : List UInt8 → Option (List UInt8)) (fs : FS) :
    runOnceOld k compile id fs = runOnce k compile fs := rfl

theorem runOnceOld_write {fs : FS} {g code : List UInt8} (hg : fs.grammar = some g) (hu : ¬ UpToDate k fs g)
    (hc : compile g = some code) :
    runOnceOld k compile fmt fs = ({ fs with dest := some (fmt (output k g fs.pfx code)) }, .ok true) := by
  have hb := mt (upToDateB_iff (format := false)).mp hu
  simp only [upToDateB, cmpHeader] at hb
  simp only [runOnceOld, hg, hc, output]
  exact if_neg hb

open Witness FmtWitness in
/-- **"untouched" fails before fix F8**: the prefix `use  a;` (two spaces), a formatter that keeps the header
    lines and squeezes the two spaces: the first run writes, the second run – nothing has changed in between – does
    not recognise its own output and writes again (and so would every further run: the state is a fixed point). -/
theorem C18F_old_untouched_fails :
    KeepsHeaderLines k0 fmtSq ∧
    runOnceOld k0 compP fmtSq fsW = (fsW', .ok true) ∧
    runOnceOld k0 compP fmtSq fsW' = (fsW', .ok true) := by
  -- the formatted destination does not start with the prefix text as configured
  have hn : ¬ str "\n" ++ pW <+: str "\nuse a;\n" ++ [99] := by simp only [pW, str_eq]; decide +kernel
  have hu : ¬ UpToDate k0 fsW' gW := fun hu => hn <| by
    have h := (upToDate_iff_prefix rfl).mp hu
    rwa [fullHeader_eq_headerLines, List.append_assoc, fsW', dW, List.append_assoc,
      List.prefix_append_right_inj] at h
  refine ⟨keeps_fmtSq, ?_, ?_⟩
  · rw [runOnceOld_write (compile := compP) (fs := fsW) (g := gW) rfl (not_upToDate_of_no_dest rfl) rfl, fsW,
      fmtSq_rewrites.1]; rfl
  · rw [runOnceOld_write (compile := compP) (fs := fsW') (g := gW) rfl hu rfl, fsW', fmtSq_rewrites.1]

open Witness FmtWitness in
/-- the same instance after fix F8: the second run leaves the destination alone -/
theorem C18F_new_untouched_instance :
    stepF k0 compP fmtSq true fsW .run = (fsW', .ok true) ∧
    stepF k0 compP fmtSq true fsW' .run = (fsW', .ok false) := by
  have h1 : stepF k0 compP fmtSq true fsW .run = (fsW', .ok true) := by
    rw [stepF_run, fsW, runOnceF_fresh (compP_eq _), written, fmtSq_rewrites.1]; rfl
  exact ⟨h1, C18F_untouched keeps_fmtSq.keepsHeader h1⟩

/-- the statement of `C18F_untouched` for `runOnceOld`, as a `Prop` (false: `C18F_old_untouched_fails`) -/
def C18F_old_untouched_statement : Prop :=
  ∀ (k : Consts) (compile : List UInt8 → Option (List UInt8)) (fmt : List UInt8 → List UInt8),
    KeepsHeaderLines k fmt → ∀ (fs fs' : FS) (w : Bool),
    runOnceOld k compile fmt fs = (fs', .ok w) → runOnceOld k compile fmt fs' = (fs', .ok false)

/-! ### Non-vacuity of the history theorem with formatting -/

section Examples
open Witness FmtWitness

/-- a history with two grammar texts and two prefixes (one of which the formatter rewrites) whose CRC-32 values are
    pairwise different -/
def exOpsF : List Op :=
  [.editGrammar (some (str "A = 'x';")), .setPrefix (str "use  a;"), .run,
   .editGrammar (some (str "A = 'y';")), .run, .setPrefix (str "use  b;")]

def exEndF : FS :=
  ⟨some (str "A = 'y';"), some (fmtSq (output k0 (str "A = 'y';") (str "use  b;") [99])), str "use  b;"⟩

theorem exF_hcG : CrcInjOn (· ∈ grammarTexts fs0 exOpsF) := crcInjOn_of_list _ (by decide +kernel)

theorem exF_hcP : CrcInjOn (· ∈ prefixTexts fs0 exOpsF) := crcInjOn_of_list _ (by decide +kernel)

theorem exF_last_run :
    stepF k0 compP fmtSq true (runOpsF k0 compP fmtSq true fs0 exOpsF) .run = (exEndF, .ok true) := by
  have hg : crc32 (str "A = 'y';") ≠ crc32 (str "A = 'x';") := by simp only [str_eq]; decide +kernel
  have hp : crc32 (str "use  b;") ≠ crc32 (str "use  a;") := by simp only [str_eq]; decide +kernel
  rw [exOpsF, fs0, runOpsF_edit, runOpsF_setPrefix, runOpsF_run (runOnceF_fresh (compP_eq _)), runOpsF_edit,
    runOpsF_run (runOnceF_changed (format := true) (mt (headerLines_prefix_fmt keeps_fmtSq).mp fun h => hg h.1)
      (compP_eq _)), runOpsF_setPrefix, runOpsF, stepF_run]
  exact runOnceF_changed (mt (headerLines_prefix_fmt keeps_fmtSq).mp fun h => hp h.2) (compP_eq _)

example : ∃ g code, exEndF.grammar = some g ∧ compP g = some code ∧
    exEndF.dest = some (fmtSq (output k0 g exEndF.pfx code)) :=
  C18F_fresh_partial_history keeps_fmtSq.keepsHeader rfl exF_hcG exF_hcP exF_last_run

/-- the formatted destination differs from the unformatted one (the formatter really rewrote the prefix) … -/
example : fmtSq (output k0 (str "A = 'y';") (str "use  b;") [99]) ≠ output k0 (str "A = 'y';") (str "use  b;") [99] := by
  rw [fmtSq_output, output_eq_headerLines]
  intro h
  exact absurd (List.append_cancel_left h) (by simp only [str_eq]; decide +kernel)

/-- … and the next run leaves it alone -/
example : stepF k0 compP fmtSq true exEndF .run = (exEndF, .ok false) :=
  C18F_untouched keeps_fmtSq.keepsHeader exF_last_run

/-- `C18F_rewrite_only_when_needed` at `exEndF` -/
example : stepF k0 compP fmtSq true exEndF .run = (exEndF, .ok false) :=
  C18F_rewrite_only_when_needed k0 compP fmtSq keeps_fmtSq exEndF (str "A = 'y';") [99] rfl rfl

/-- `C18F_failure_preserves`: unreadable grammar file, existing destination -/
example : (stepF k0 compP fmtSq true ⟨none, some [1, 2, 3], []⟩ .run).2 = .err ∧
    (stepF k0 compP fmtSq true ⟨none, some [1, 2, 3], []⟩ .run).1 = ⟨none, some [1, 2, 3], []⟩ :=
  ⟨rfl, C18F_failure_preserves rfl⟩

end Examples

end Peg
