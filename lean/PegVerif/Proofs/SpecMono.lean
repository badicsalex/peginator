import PegVerif.Proofs.Basics
import PegVerif.Proofs.SpecLemmas
/-
  What one step of the reference semantics reads.  Answers transfer from one environment, evaluator,
  context, fuel and expression to another that agrees with it on what the step consults:
  `stepExpr_shape` for the constructs with parts (`Shape C e e'`: the same head over parts related by `C`),
  `stepExpr_leaf` for terminals and references (they read `rec.rule` only),
  `ruleBody_sim` and `charRule_sim` for the rule wrappers; in one direction, an equation takes both (`eq_of_some_iff`).
  Fuel monotonicity is the diagonal (`Le`, the order "every answer of `a` is an answer of `b`" on evaluators): an
  answer, once produced, is the answer for every larger fuel.  `ExprChain` is what the induction on the fuel uses of
  `Spec.eval`, so that it serves `SpecLR.eval` as well.
  Consequence: `Spec.eval` is a partial *function* of (grammar, rule, input) – the answer, when
  defined, is unique (`eval_rule_det`, `eval_expr_det`).
-/
namespace Peg
namespace Spec

/-- every answer of `a` is an answer of `b`: at the expression level, at the rule level, at both -/
def LeE (a b : Ctx → Expr → St → SOut Parsed) : Prop :=
  ∀ ctx e s r, a ctx e s = some r → b ctx e s = some r
def LeR (a b : String → St → SOut Val) : Prop :=
  ∀ n s r, a n s = some r → b n s = some r

structure Le (a b : SRec) : Prop where
  expr : LeE a.expr b.expr
  rule : LeR a.rule b.rule

theorem caseS_le {α β} {x x' : SOut α} {ok ok' : α → St → SOut β} {err err' : SOut β} {r : Res β}
    (hx : ∀ a, x = some a → x' = some a)
    (hok : ∀ v s r, ok v s = some r → ok' v s = some r) (herr : ∀ r, err = some r → err' = some r)
    (h : caseS x ok err = some r) : caseS x' ok' err' = some r := by
  match x, h with
  | some a, h =>
    rw [hx a rfl]
    cases a with
    | ok v s => exact hok v s r h
    | err e => exact herr r h
    | panic m => exact h

theorem bindS_le {α β} {x x' : SOut α} {k k' : α → St → SOut β} {r : Res β}
    (hx : ∀ a, x = some a → x' = some a)
    (hk : ∀ v s r, k v s = some r → k' v s = some r)
    (h : bindS x k = some r) : bindS x' k' = some r :=
  caseS_le hx hk (fun _ h => h) h

theorem withSkipWs_le {α} {rec rec' : SRec} (hR : LeR rec.rule rec'.rule) {ctx s} {k k' : St → SOut α} {r}
    (hk : ∀ s r, k s = some r → k' s = some r)
    (h : withSkipWs rec ctx s k = some r) : withSkipWs rec' ctx s k' = some r := by
  unfold withSkipWs at h ⊢
  split
  · rw [if_pos ‹_›] at h
    exact bindS_le (hR _ _) (fun _ => hk) h
  · rw [if_neg ‹_›] at h
    exact hk _ _ h

theorem evalLoop_le {body body' : St → SOut Parsed} {fields}
    (hb : ∀ s r, body s = some r → body' s = some r) :
    ∀ k k' iters acc s r, k ≤ k' → evalLoop body fields k iters acc s = some r →
      evalLoop body' fields k' iters acc s = some r := by
  intro k
  induction k with
  | zero => exact fun _ _ _ _ _ _ h => nomatch h
  | succ k ih =>
    intro k' iters acc s r hk h
    obtain ⟨k'', rfl⟩ : ∃ k'', k' = k'' + 1 := ⟨k' - 1, by omega⟩
    rw [evalLoop_step] at h ⊢
    refine caseS_le (hb s) (fun v s' r' h' => ?_) (fun _ h => h) h
    split at h'
    · exact ih _ _ _ _ _ (by omega) h'
    · exact h'

/-! ### what a construct reads of its parts

  A construct with parts (choice, sequence, group, optional, closure, lookaheads) asks its parts for their answers
  through `rec.expr ctx` and for their field lists through `ownFields env`, and nothing else.  `stepExpr_shape` says
  so for two environments, evaluators, contexts, fuels and expressions at once; fuel monotonicity is its diagonal,
  the desugaring of whitespace, textual inlining and edits of the directives are other instances. -/

/-- `e'` has the head of `e`, and its parts are related to the parts of `e` by `C` (the parts of a choice or a
    sequence given as the images of one list under two functions) -/
inductive Shape (C : Expr → Expr → Prop) : Expr → Expr → Prop
  | choice_map {α : Type} (f f' : α → Expr) (as : List α) :
      (∀ a, a ∈ as → C (f a) (f' a)) → Shape C (.choice (as.map f)) (.choice (as.map f'))
  | seq_map {α : Type} (f f' : α → Expr) (as : List α) :
      (∀ a, a ∈ as → C (f a) (f' a)) → Shape C (.seq (as.map f)) (.seq (as.map f'))
  | group {b b' : Expr} : C b b' → Shape C (.group b) (.group b')
  | opt {b b' : Expr} : C b b' → Shape C (.opt b) (.opt b')
  | closure {b b' : Expr} (p : Bool) : C b b' → Shape C (.closure b p) (.closure b' p)
  | neg {b b' : Expr} : C b b' → Shape C (.neg b) (.neg b')
  | pos {b b' : Expr} : C b b' → Shape C (.pos b) (.pos b')

theorem Shape.flip {C : Expr → Expr → Prop} {e e' : Expr} (h : Shape C e e') : Shape (fun a b => C b a) e' e := by
  cases h with
  | choice_map f f' as h => exact .choice_map f' f as h
  | seq_map f f' as h => exact .seq_map f' f as h
  | group h => exact .group h
  | opt h => exact .opt h
  | closure p h => exact .closure p h
  | neg h => exact .neg h
  | pos h => exact .pos h

def hasParts : Expr → Bool
  | .choice _ | .seq _ | .group _ | .opt _ | .closure _ _ | .neg _ | .pos _ => true
  | _ => false

theorem Shape.self {e : Expr} (h : hasParts e = true) : Shape Eq e e := by
  cases e with
  | choice alts => simpa using Shape.choice_map (C := Eq) id id alts fun _ _ => rfl
  | seq parts => simpa using Shape.seq_map (C := Eq) id id parts fun _ _ => rfl
  | group b => exact .group rfl
  | opt b => exact .opt rfl
  | closure b plus => exact .closure plus rfl
  | neg b => exact .neg rfl
  | pos b => exact .pos rfl
  | _ => cases h

section
variable {envA envB : Env} {recA recB : SRec} {ctxA ctxB : Ctx}

/-- what a construct asks of a pair of parts: the same own fields, and answers transfer -/
def PartLe (envA envB : Env) (recA recB : SRec) (ctxA ctxB : Ctx) (x x' : Expr) : Prop :=
  ownFields envA x = ownFields envB x' ∧ ∀ s r, recA.expr ctxA x s = some r → recB.expr ctxB x' s = some r

theorem evalSeq_shape {α} (f f' : α → Expr) (hrf : ctxA.ruleFields = ctxB.ruleFields) :
    ∀ as : List α, (∀ a, a ∈ as → PartLe envA envB recA recB ctxA ctxB (f a) (f' a)) →
      ∀ seen acc s r, evalSeq envA recA ctxA (as.map f) seen acc s = some r →
        evalSeq envB recB ctxB (as.map f') seen acc s = some r := by
  intro as
  induction as with
  | nil => exact fun _ _ _ _ _ h => h
  | cons a as ih =>
    intro hl seen acc s r h
    have hp := hl a (List.mem_cons_self ..)
    refine bindS_le (hp.2 _) (fun v s' r' h' => ?_) h
    dsimp only at h' ⊢
    rw [← hp.1, ← hrf]
    split at h'
    · exact h'
    · exact ih (fun x hx => hl x (List.mem_cons_of_mem _ hx)) _ _ _ _ h'

theorem evalAlts_shape {α} (f f' : α → Expr) (fields : List FieldDesc) :
    ∀ as : List α, (∀ a, a ∈ as → PartLe envA envB recA recB ctxA ctxB (f a) (f' a)) →
      ∀ s r, evalAlts envA recA ctxA fields (as.map f) s = some r →
        evalAlts envB recB ctxB fields (as.map f') s = some r := by
  intro as
  induction as with
  | nil => exact fun _ _ _ h => h
  | cons a as ih =>
    intro hl s r h
    have hp := hl a (List.mem_cons_self ..)
    rw [List.map_cons, evalAlts_step] at h ⊢
    rw [← hp.1]
    exact caseS_le (hp.2 s) (fun _ _ _ h => h) (ih (fun x hx => hl x (List.mem_cons_of_mem _ hx)) s) h

/-- **a construct reads its parts through `rec.expr ctx` and `ownFields env` only** -/
theorem stepExpr_shape {nA nB : Nat} {C : Expr → Expr → Prop} (hrf : ctxA.ruleFields = ctxB.ruleFields)
    (hn : nA ≤ nB) (hC : ∀ x x', C x x' → PartLe envA envB recA recB ctxA ctxB x x')
    {e e' : Expr} (hS : Shape C e e') (hown : ownFields envA e = ownFields envB e') {s : St} {r}
    (h : stepExpr envA recA nA ctxA e s = some r) : stepExpr envB recB nB ctxB e' s = some r := by
  cases hS with
  | choice_map f f' ps hps =>
    have hl := fun p hp => hC _ _ (hps p hp)
    rcases ps with _ | ⟨a, _ | ⟨b, rest⟩⟩
    · exact h
    · exact (hl a (List.mem_cons_self ..)).2 _ _ h
    · simp only [List.map, stepExpr] at h hown ⊢
      rw [← hown, ← hrf]
      exact evalAlts_shape f f' _ (a :: b :: rest) hl _ _ h
  | seq_map f f' ps hps =>
    have hl := fun p hp => hC _ _ (hps p hp)
    rcases ps with _ | ⟨a, _ | ⟨b, rest⟩⟩
    · exact h
    · exact (hl a (List.mem_cons_self ..)).2 _ _ h
    · simp only [List.map, stepExpr] at h hown ⊢
      rw [← hown, ← hrf]
      exact bindS_le (fun x hx => evalSeq_shape f f' hrf (a :: b :: rest) hl _ _ _ _ hx) (fun _ _ _ h => h) h
  | group hb => exact (hC _ _ hb).2 _ _ h
  | opt hb =>
    rw [opt_step] at h ⊢
    rw [← (hC _ _ hb).1, ← hrf]
    exact caseS_le ((hC _ _ hb).2 s) (fun _ _ _ h => h) (fun _ h => h) h
  | closure p hb =>
    simp only [stepExpr] at h ⊢
    rw [← (hC _ _ hb).1, ← hrf]
    split at h
    · exact h
    · exact bindS_le (fun x hx => evalLoop_le (fun s r => (hC _ _ hb).2 s r) _ _ _ _ _ _ hn hx)
        (fun _ _ _ h => h) h
  | neg hb =>
    rw [neg_step] at h ⊢
    exact caseS_le ((hC _ _ hb).2 s) (fun _ _ _ h => h) (fun _ h => h) h
  | pos hb => exact bindS_le ((hC _ _ hb).2 s) (fun _ _ _ h => h) h

/-- the same expression on both sides -/
theorem stepExpr_parts {nA nB : Nat} (hrf : ctxA.ruleFields = ctxB.ruleFields) (hn : nA ≤ nB)
    (hC : ∀ x, PartLe envA envB recA recB ctxA ctxB x x) {e : Expr} (he : hasParts e = true) {s : St} {r}
    (h : stepExpr envA recA nA ctxA e s = some r) : stepExpr envB recB nB ctxB e s = some r :=
  stepExpr_shape hrf hn (fun x _ hx => hx ▸ hC x) (Shape.self he) (hC e).1 h

end

/-- two outcomes with the same answers are equal: a transfer in each direction gives an equation -/
theorem eq_of_some_iff {α} {x y : Option α} (h1 : ∀ r, x = some r → y = some r) (h2 : ∀ r, y = some r → x = some r) :
    x = y := by
  cases x with
  | some a => exact (h1 a rfl).symm
  | none => cases y with
    | none => rfl
    | some b => exact h2 b rfl

theorem evalSeq_le {env} {rec rec' : SRec} (hle : Le rec rec') {ctx} (ps seen acc s r)
    (h : evalSeq env rec ctx ps seen acc s = some r) : evalSeq env rec' ctx ps seen acc s = some r := by
  have := evalSeq_shape (envA := env) (envB := env) (recA := rec) (recB := rec') (ctxA := ctx) id id rfl ps
    (fun a _ => ⟨rfl, hle.expr ctx a⟩) seen acc s r
  rw [List.map_id] at this
  exact this h

theorem evalAlts_le {env} {rec rec' : SRec} (hle : Le rec rec') {ctx fields} (as s r)
    (h : evalAlts env rec ctx fields as s = some r) : evalAlts env rec' ctx fields as s = some r := by
  have := evalAlts_shape (envA := env) (envB := env) (recA := rec) (recB := rec') (ctxA := ctx) (ctxB := ctx) id id
    fields as (fun a _ => ⟨rfl, hle.expr ctx a⟩) s r
  rw [List.map_id] at this
  exact this h

/-- a terminal or a rule/field reference reads `rec.rule` only -/
theorem stepExpr_leaf {envA envB : Env} {recA recB : SRec} {nA nB : Nat} {ctx : Ctx} {e : Expr} {s : St} {r}
    (hR : LeR recA.rule recB.rule) (he : hasParts e = false) (hi : ∀ name, e ≠ .incl name)
    (h : stepExpr envA recA nA ctx e s = some r) : stepExpr envB recB nB ctx e s = some r := by
  match hterm : terminalOf e with
  | some (.ok mt) =>
    rw [stepExpr_terminal hterm] at h ⊢
    exact withSkipWs_le hR (fun _ _ h => h) h
  | some (.error msg) =>
    rw [stepExpr_terminal_error hterm] at h ⊢
    exact h
  | none =>
    cases e with
    | range | lit | eoi => simp [terminalOf] at hterm
    | incl r0 => exact absurd rfl (hi r0)
    | field name boxed typ =>
      exact withSkipWs_le hR (fun _ _ h => bindS_le (hR _ _) (fun _ _ _ h => h) h) h
    | _ => cases he

theorem stepExpr_le {env} {rec rec' : SRec} (hle : Le rec rec') {n m : Nat} (hnm : n ≤ m) :
    LeE (stepExpr env rec n) (stepExpr env rec' m) := by
  intro ctx e s r h
  cases e with
  | range | lit | eoi | field => exact stepExpr_leaf hle.rule rfl (fun _ => nofun) h
  | incl r0 =>
    simp only [stepExpr] at h ⊢
    split at h
    · exact h
    · exact hle.expr _ _ _ _ h
  | _ => exact stepExpr_parts rfl hnm (fun x => ⟨rfl, hle.expr ctx x⟩) rfl h

/-- a rule wrapper asks its body evaluator for the rule's definition in the rule's own context, and nothing else -/
theorem ruleBody_sim {env : Env} {u : Nat} {recA recB : SRec} {r0 : Rule}
    (hex : ∀ fields, getFields env.g env.nf r0.definition = .ok fields → ∀ s r,
      recA.expr (ruleCtx env r0 fields) r0.definition s = some r →
      recB.expr (ruleCtx env r0 fields) r0.definition s = some r)
    {s : St} {r} (h : ruleBody env u recA r0 s = some r) : ruleBody env u recB r0 s = some r := by
  cases hfa : getFields env.g env.nf r0.definition with
  | ok fields =>
    rw [ruleBody_shape hfa] at h ⊢
    generalize ruleShape r0 fields = sh at h ⊢
    cases sh <;> first | exact h | exact bindS_le (hex fields hfa s) (fun _ _ _ h => h) h
  | err _ | fuel =>
    simp only [ruleBody, hfa] at h ⊢
    exact h

theorem ruleBody_le {env u} {rec rec' : SRec} (hle : Le rec rec') {r0 : Rule} {s r}
    (h : ruleBody env u rec r0 s = some r) : ruleBody env u rec' r0 s = some r :=
  ruleBody_sim (fun _ _ _ _ h => hle.expr _ _ _ _ h) h

/-- a `@char` rule reads `rec.rule` only -/
theorem charParts_leR {recA recB : SRec} (hR : LeR recA.rule recB.rule) :
    ∀ ps s r, charParts recA ps s = some r → charParts recB ps s = some r
  | [], _, _, h => h
  | p :: ps, s, r, h => by
    rw [charParts_step] at h ⊢
    refine caseS_le ?_ (fun _ _ _ h => h) (charParts_leR hR ps s) h
    cases p <;> first | exact fun _ h => h | exact hR _ _

theorem charRule_sim {envA envB : Env} {recA recB : SRec} (hh : envB.hooks = envA.hooks)
    (hR : LeR recA.rule recB.rule) {cr : CharRule} {s : St} {r}
    (h : charRule envA recA cr s = some r) : charRule envB recB cr s = some r := by
  unfold charRule at h ⊢
  simp only [charChecksOk_hooks hh]
  split at h
  · rename_i hc; rw [if_pos hc]; exact charParts_leR hR _ _ _ h
  · rename_i hc; rw [if_neg hc]
    split at h
    · exact h
    · split at h
      · rename_i hc2; rw [if_pos hc2]; exact charParts_leR hR _ _ _ h
      · rename_i hc2; rw [if_neg hc2]; exact h

theorem stepRule_le {env u} {rec rec' : SRec} (hle : Le rec rec') :
    LeR (stepRule env u rec) (stepRule env u rec') := by
  intro name s r h
  unfold stepRule at h ⊢
  split at h
  · exact ruleBody_le hle h
  · exact charRule_sim rfl hle.rule h
  · exact h
  · exact h

theorem step_le {env u} {rec rec' : SRec} (hle : Le rec rec') {n m : Nat} (hnm : n ≤ m) :
    Le (step env u rec n) (step env u rec' m) :=
  ⟨stepExpr_le hle hnm, stepRule_le hle⟩

theorem eval_le_succ (env : Env) (u : Nat) : ∀ n, Le (eval env u n) (eval env u (n + 1)) := by
  intro n
  induction n with
  | zero => exact ⟨fun _ _ _ _ h => (nomatch h), fun _ _ _ h => (nomatch h)⟩
  | succ n ih => exact step_le ih (Nat.le_succ n)

/-! ### `ExprChain`: a family of evaluators over `stepExpr` that grows with the fuel; `Spec.eval` is one -/

/-- a fuel-indexed family of evaluators that answers nothing at fuel 0, whose expression level at `n + 1` is
    `stepExpr` over its member at `n`, and which grows with the fuel: `Spec.eval` (`ι = Unit`), and
    `SpecLR.eval` under every seed environment (`ι = Seeds`).  What is proved of `stepExpr` for an arbitrary `rec`
    holds of every such family by one induction on the fuel. -/
structure ExprChain (env : Env) {ι : Type} (ev : Nat → ι → SRec) : Prop where
  zero : ∀ i ctx e s, (ev 0 i).expr ctx e s = none
  zeroR : ∀ i name s, (ev 0 i).rule name s = none
  succ : ∀ n i ctx e s, (ev (n + 1) i).expr ctx e s = stepExpr env (ev n i) n ctx e s
  le : ∀ n i, Le (ev n i) (ev (n + 1) i)

theorem ExprChain.mono {env : Env} {ι : Type} {ev : Nat → ι → SRec} (h : ExprChain env ev) {n m : Nat}
    (hnm : n ≤ m) (i : ι) : Le (ev n i) (ev m i) :=
  ⟨fun ctx e s _ => fuel_mono (f := fun n => (ev n i).expr ctx e s) (fun n => (h.le n i).expr ctx e s) hnm,
   fun name s _ => fuel_mono (f := fun n => (ev n i).rule name s) (fun n => (h.le n i).rule name s) hnm⟩

theorem exprChain (env : Env) (u : Nat) : ExprChain env fun n (_ : Unit) => eval env u n :=
  ⟨fun _ _ _ _ => rfl, fun _ _ _ => rfl, fun _ _ _ _ _ => rfl, fun n _ => eval_le_succ env u n⟩

theorem eval_mono (env : Env) (u : Nat) {n m : Nat} (h : n ≤ m) : Le (eval env u n) (eval env u m) :=
  (exprChain env u).mono h ()

/-- the reference answer is unique: two fuels that both answer give the same answer -/
theorem eval_rule_det (env : Env) (u : Nat) {n m : Nat} {name s r r'}
    (h : (eval env u n).rule name s = some r) (h' : (eval env u m).rule name s = some r') : r = r' :=
  fuel_det (f := fun n => (eval env u n).rule name s) (fun n => (eval_le_succ env u n).rule name s) h h'

theorem eval_expr_det (env : Env) (u : Nat) {n m : Nat} {ctx e s r r'}
    (h : (eval env u n).expr ctx e s = some r) (h' : (eval env u m).expr ctx e s = some r') : r = r' :=
  fuel_det (f := fun n => (eval env u n).expr ctx e s) (fun n => (eval_le_succ env u n).expr ctx e s) h h'

end Spec
end Peg
