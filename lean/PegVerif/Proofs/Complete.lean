import PegVerif.Proofs.EvalMono
import PegVerif.Proofs.CompleteLR
/-
  Completeness of the implementation model with respect to the reference semantics for grammars
  without `@leftrec` rules (the converse of `eval_ref`): whenever `Spec.parse` answers, `parseAdvanced`
  answers too, at the same fuel, and its answer abstracts to the reference answer.

  This is the case of CompleteLR.lean in which the class hypothesis is empty: without a `@leftrec`
  rule `LRHyp` holds of every avoid-set assignment, and `SpecLR.parse` is `Spec.parse`.
-/
namespace Peg
open Spec

/-- the fuel-indexed implementation computation `f` answers `(r', g')` for every large enough fuel -/
def Cv {α} (f : Nat → Out α) (r' : Res α) (g' : Global) : Prop :=
  ∃ n0, ∀ n, n0 ≤ n → f n = some (r', g')

/-- the implementation model needs no more fuel than the reference semantics -/
theorem parse_complete_at (env : Env) (hp : PureHooks env.hooks) (hnl : NoLeftrec env.g) (rule : String)
    (inp : List UInt8) (u m : Nat) {r}
    (h : Spec.parse env u m rule inp = some r) :
    ∃ r' g', parseAdvanced env m rule inp u = some (r', g') ∧ Spec.abs r' = r :=
  parse_completeLR_at env hp (lrHyp_of_noLeftrec hnl fun _ => []) rule inp u m
    ((SpecLR.parse_eq_spec hnl u m rule inp).trans h)

/-- whenever the reference semantics answers on (rule, input), the implementation model answers too, with
    enough fuel, and its answer abstracts to the reference answer -/
theorem parse_complete (env : Env) (hp : PureHooks env.hooks) (hnl : NoLeftrec env.g) (rule : String)
    (inp : List UInt8) (u m : Nat) {r}
    (h : Spec.parse env u m rule inp = some r) :
    ∃ n r' g', parseAdvanced env n rule inp u = some (r', g') ∧ Spec.abs r' = r :=
  ⟨m, parse_complete_at env hp hnl rule inp u m h⟩

/-- with `eval_mono`: an answer of the implementation at *some* fuel is its answer at every larger
    fuel, so "answers with enough fuel" and "converges" coincide -/
theorem cv_of_answer {env : Env} {name s g n r' g'} (h : (eval env n).rule name s g = some (r', g')) :
    Cv (fun k => (eval env k).rule name s g) r' g' :=
  ⟨n, fun _ hk => (eval_mono env hk).rule _ _ _ _ h⟩

/-- the hypotheses are satisfiable (default hooks are pure; a grammar without rules has no `@leftrec`) -/
example : PureHooks (default : Hooks) ∧ NoLeftrec ⟨[]⟩ :=
  ⟨NV.pure_default, fun _ h => by cases h⟩

end Peg
