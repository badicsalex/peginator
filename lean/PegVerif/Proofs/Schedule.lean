import PegVerif.Eval
/-
  C20 "parsing is a pure function of grammar and input, also across threads".

  The model of the generated `parse_advanced` is `parseAdvanced env fuel rule inp uctx`, which
  builds its own `Global.init` (fresh `ParseGlobal` / `ParseCache`) for every call.

  1. `C20_history`: in any history of calls every result is the result of that call alone;
  2. `CacheDemo`: why the per-call cache matters – a concrete grammar where reusing the cache left by a
     previous call gives a wrong answer (`Props.C20_per_call_cache_is_necessary`);
  3. `C20_schedule`: n threads, any interleaving: every thread observes the results of the
     sequential run of its own calls (a general lemma on independent state machines,
     instantiated with the parser).
-/
namespace Peg

/-- one call of `parse_advanced`: (rule, input, user context) -/
abbrev Call := String × List UInt8 × Nat

/-- the model of one whole `parse_advanced` call -/
def runCall (env : Env) (fuel : Nat) (c : Call) : Out Val := parseAdvanced env fuel c.1 c.2.1 c.2.2

/-! ## 1. Histories -/

/-- a parser "process": whatever is left over from earlier calls (`last`: the `ParseGlobal` of
    the previous call, dropped by the real code at the end of `parse_advanced`) is *not an input*
    of the next call – the step function ignores it. -/
def procStep (env : Env) (fuel : Nat) (_last : Option Global) (c : Call) : Option Global × Out Val :=
  let r := runCall env fuel c
  (r.map (·.2), r)

/-- results of a history of calls, in order -/
def procRun (env : Env) (fuel : Nat) : Option Global → List Call → List (Out Val)
  | _, [] => []
  | last, c :: cs => (procStep env fuel last c).2 :: procRun env fuel (procStep env fuel last c).1 cs

theorem procRun_eq_map (env : Env) (fuel : Nat) (last : Option Global) (calls : List Call) :
    procRun env fuel last calls = calls.map (runCall env fuel) := by
  induction calls generalizing last with
  | nil => rfl
  | cons c cs ih => simp only [procRun, procStep, ih, List.map_cons]

/-- the plain list of results, entry by entry -/
theorem C20_history_map (env : Env) (fuel : Nat) (calls : List Call) (i : Nat) (h : i < calls.length) :
    (calls.map (fun c => parseAdvanced env fuel c.1 c.2.1 c.2.2))[i]? =
      some (parseAdvanced env fuel calls[i].1 calls[i].2.1 calls[i].2.2) := by
  simp [h]

/-- **C20, histories.**  For any history of calls, the result at every index is the result of
    that call alone, whatever was parsed before.

    This is immediate from the shape of the model, and that is the point: the *content* of the
    property is that `parse_advanced` creates its `ParseGlobal`/`ParseCache` per call
    (`Global.init` in `parseAdvanced`), which the model transcribes from
    `codegen/src/grammar/mod.rs`; that the real code has this shape is what the history / thread
    runs of the correspondence check test. -/
theorem C20_history (env : Env) (fuel : Nat) (calls : List Call) (i : Nat) (h : i < calls.length) :
    (procRun env fuel none calls)[i]? = some (parseAdvanced env fuel calls[i].1 calls[i].2.1 calls[i].2.2) := by
  rw [procRun_eq_map]
  exact C20_history_map env fuel calls i h

/-! ## 2. Why the per-call cache matters

  A grammar with a `@memoize` rule and two inputs: the second parse, run in the global state left by the first (cache
  kept, log cleared), answers with the first input's entry.  The cache is keyed by (rule, offset) only, so it is valid
  for one input. -/

namespace CacheDemo

/-- `@export S = a:A; @memoize @string A = 'x' | 'y';` -/
def g : Grammar := ⟨[
  .rule ⟨[.export], "S", .choice [.seq [.field (some (.ident "a")) false "A"]]⟩,
  .rule ⟨[.memoize, .string], "A",
    .choice [.seq [.lit false [.chr 'x']], .seq [.lit false [.chr 'y']]]⟩]⟩

def env : Env := { g := g, settings := {}, hooks := default, nf := 16 }

def inp1 : List UInt8 := [120]   -- "x"
def inp2 : List UInt8 := [121]   -- "y"

/-- the `ParseGlobal` left by the first call (`parse_advanced` drops it) -/
def g1 : Global :=
  match parseAdvanced env 16 "S" inp1 0 with
  | some (_, g) => g
  | none => Global.init 0

/-- a hypothetical second call that reuses the cache of the first -/
def reused : Out Val := (eval env 16).rule "S" (St.new inp2) { g1 with log := [] }

/-- the real second call -/
def fresh : Out Val := parseAdvanced env 16 "S" inp2 0

/-- observation: the result is `S { a: <the one byte b> }` -/
def fieldAIs (b : UInt8) : Out Val → Bool
  | some (.ok (.node "S" [("a", .str [b'])] none) _, _) => b' == b
  | _ => false

theorem first_call : fieldAIs 120 (parseAdvanced env 16 "S" inp1 0) = true := by decide +kernel
/-- the stale entry for ("A", 0) answers "x" on the input "y" -/
theorem reused_is_x : fieldAIs 120 reused = true := by decide +kernel
theorem fresh_not_x : fieldAIs 120 fresh = false := by decide +kernel
theorem g1_has_entry : (g1.lookup ("A", 0)).isSome = true := by decide +kernel

end CacheDemo

/-! ## 3. Interleavings: independent state machines -/

section Independent
variable {σ κ ρ : Type}

/-- the events of thread `i` in a global sequence of (thread, payload) events -/
def proj {α : Type} (i : Nat) : List (Nat × α) → List α
  | [] => []
  | e :: es => if e.1 = i then e.2 :: proj i es else proj i es

/-- replace the component of thread `i` -/
def upd (st : Nat → σ) (i : Nat) (s : σ) : Nat → σ := fun j => if j = i then s else st j

theorem upd_self (st : Nat → σ) (i : Nat) (s : σ) : upd st i s i = s := if_pos rfl

theorem upd_ne (st : Nat → σ) (s : σ) {i j : Nat} (h : ¬ j = i) : upd st j s i = st i :=
  if_neg fun e => h e.symm

/-- a thread alone: run its calls one after the other -/
def seqRun (f : σ → κ → σ × ρ) : σ → List κ → σ × List ρ
  | s, [] => (s, [])
  | s, c :: cs => ((seqRun f (f s c).1 cs).1, (f s c).2 :: (seqRun f (f s c).1 cs).2)

/-- the system: the state is one component per thread; an event `(i, c)` performs one whole step
    of thread `i`, reading and writing only component `i` (there is no shared mutable state);
    the result is tagged with the thread that observes it -/
def sysRun (step : Nat → σ → κ → σ × ρ) : (Nat → σ) → List (Nat × κ) → (Nat → σ) × List (Nat × ρ)
  | st, [] => (st, [])
  | st, e :: es =>
    ((sysRun step (upd st e.1 (step e.1 (st e.1) e.2).1) es).1,
     (e.1, (step e.1 (st e.1) e.2).2) :: (sysRun step (upd st e.1 (step e.1 (st e.1) e.2).1) es).2)

/-- **independence lemma**: under any global sequence of events, thread `i` ends in the state, and
    observes the results, of the sequential run of its own events -/
theorem sysRun_proj (step : Nat → σ → κ → σ × ρ) (i : Nat) (es : List (Nat × κ)) :
    ∀ st : Nat → σ,
      (sysRun step st es).1 i = (seqRun (step i) (st i) (proj i es)).1 ∧
      proj i (sysRun step st es).2 = (seqRun (step i) (st i) (proj i es)).2 := by
  induction es with
  | nil => intro st; exact ⟨rfl, rfl⟩
  | cons e es ih =>
    intro st
    obtain ⟨j, c⟩ := e
    have ih' := ih (upd st j (step j (st j) c).1)
    by_cases hj : j = i
    · subst hj
      simp only [sysRun, proj, if_true, seqRun]
      rw [upd_self] at ih'
      exact ⟨ih'.1, by rw [ih'.2]⟩
    · simp only [sysRun, proj, if_neg hj]
      rw [upd_ne _ _ hj] at ih'
      exact ih'

/-- two global sequences that are interleavings of the same per-thread programs give every thread
    the same final state and the same observed results -/
theorem sysRun_schedule_indep (step : Nat → σ → κ → σ × ρ) (st : Nat → σ)
    (es es' : List (Nat × κ)) (h : ∀ i, proj i es = proj i es') (i : Nat) :
    (sysRun step st es).1 i = (sysRun step st es').1 i ∧
    proj i (sysRun step st es).2 = proj i (sysRun step st es').2 := by
  have a := sysRun_proj step i es st
  have b := sysRun_proj step i es' st
  rw [h i] at a
  exact ⟨a.1.trans b.1.symm, a.2.trans b.2.symm⟩

/-! ### schedules as lists of thread indices, consumed left to right -/

/-- `progs i` = the calls thread `i` still has to make.  A schedule is a list of thread indices;
    picking thread `i` makes it perform its next call (a no-op when it has none left).
    Returns the global event sequence and the calls left over. -/
def attach (progs : Nat → List κ) : List Nat → List (Nat × κ) × (Nat → List κ)
  | [] => ([], progs)
  | i :: is =>
    match progs i with
    | [] => attach progs is
    | c :: cs => ((i, c) :: (attach (upd progs i cs) is).1, (attach (upd progs i cs) is).2)

/-- every schedule is an interleaving: per thread, the events performed followed by the calls
    left over are the thread's program -/
theorem attach_proj (is : List Nat) : ∀ (progs : Nat → List κ) (i : Nat),
    proj i (attach progs is).1 ++ (attach progs is).2 i = progs i := by
  induction is with
  | nil => intro progs i; rfl
  | cons j is ih =>
    intro progs i
    simp only [attach]
    split
    · exact ih progs i
    · rename_i c cs hc
      have ih' := ih (upd progs j cs) i
      by_cases hj : j = i
      · subst hj
        simp only [proj, if_true, List.cons_append]
        rw [ih', upd_self, hc]
      · simp only [proj, if_neg hj]
        rw [ih', upd_ne _ _ hj]

/-- a schedule is complete when it lets every thread finish -/
def Complete (progs : Nat → List κ) (is : List Nat) : Prop := ∀ i, (attach progs is).2 i = []

theorem attach_complete {progs : Nat → List κ} {is : List Nat} (h : Complete progs is) (i : Nat) :
    proj i (attach progs is).1 = progs i := by
  have := attach_proj is progs i
  rwa [h i, List.append_nil] at this

/-- running a schedule of thread indices -/
def runSchedule (step : Nat → σ → κ → σ × ρ) (st : Nat → σ) (progs : Nat → List κ) (is : List Nat) :
    (Nat → σ) × List (Nat × ρ) :=
  sysRun step st (attach progs is).1

end Independent

/-! ### the parser instance -/

/-- one step of a parser thread: the per-thread state is the list of results it has seen so far;
    the step performs one whole `parse_advanced` call.  It does not depend on the thread index
    nor on anything but the call. -/
def parserStep (env : Env) (fuel : Nat) (_thread : Nat) (seen : List (Out Val)) (c : Call) :
    List (Out Val) × Out Val :=
  (seen ++ [runCall env fuel c], runCall env fuel c)

theorem seqRun_parserStep (env : Env) (fuel : Nat) (i : Nat) (calls : List Call) :
    ∀ seen, seqRun (parserStep env fuel i) seen calls =
      (seen ++ calls.map (runCall env fuel), calls.map (runCall env fuel)) := by
  induction calls with
  | nil => intro seen; simp [seqRun]
  | cons c cs ih => intro seen; simp [seqRun, ih, parserStep]

/-- **C20, schedules (event form).**  For any global interleaving `sched` of calls tagged with
    the calling thread, the sequence of results thread `i` observes is the sequential run of its
    own calls, each being `parseAdvanced` on that call alone. -/
theorem C20_schedule_events (env : Env) (fuel : Nat) (sched : List (Nat × Call)) (i : Nat) :
    proj i (sysRun (parserStep env fuel) (fun _ => []) sched).2 =
      (proj i sched).map (fun c => parseAdvanced env fuel c.1 c.2.1 c.2.2) ∧
    (sysRun (parserStep env fuel) (fun _ => []) sched).1 i =
      (proj i sched).map (fun c => parseAdvanced env fuel c.1 c.2.1 c.2.2) := by
  have h := sysRun_proj (parserStep env fuel) i sched (fun _ => [])
  rw [seqRun_parserStep] at h
  simp only [List.nil_append] at h
  exact ⟨h.2, h.1⟩

/-- **C20, schedules.**  `progs i` is the fixed list of calls of thread `i`.  For every two
    complete schedules (any interleavings whatsoever) every thread observes the same sequence of
    results, namely the results of its calls run sequentially and alone. -/
theorem C20_schedule (env : Env) (fuel : Nat) (progs : Nat → List Call) (is is' : List Nat)
    (h : Complete progs is) (h' : Complete progs is') (i : Nat) :
    proj i (runSchedule (parserStep env fuel) (fun _ => []) progs is).2 =
      (progs i).map (fun c => parseAdvanced env fuel c.1 c.2.1 c.2.2) ∧
    proj i (runSchedule (parserStep env fuel) (fun _ => []) progs is).2 =
      proj i (runSchedule (parserStep env fuel) (fun _ => []) progs is').2 := by
  have a := (C20_schedule_events env fuel (attach progs is).1 i).1
  have b := (C20_schedule_events env fuel (attach progs is').1 i).1
  rw [attach_complete h i] at a
  rw [attach_complete h' i] at b
  exact ⟨a, a.trans b.symm⟩

/-! ### the hypotheses are satisfiable -/

/-- two threads with two calls / one call; two different complete schedules -/
def demoProgs : Nat → List Call
  | 0 => [("S", [120], 0), ("S", [121], 0)]
  | 1 => [("S", [122], 0)]
  | _ => []

example : (attach demoProgs [0, 1, 0]).1 = [(0, ("S", [120], 0)), (1, ("S", [122], 0)), (0, ("S", [121], 0))] := by
  decide +kernel
example : (attach demoProgs [1, 0, 0, 1]).1 = [(1, ("S", [122], 0)), (0, ("S", [120], 0)), (0, ("S", [121], 0))] := by
  decide +kernel

theorem attach_untouched {κ : Type} (is : List Nat) (progs : Nat → List κ) (i : Nat) (h : progs i = []) :
    (attach progs is).2 i = [] :=
  (List.append_eq_nil_iff.mp ((attach_proj is progs i).trans h)).2

theorem Props.C20_nv.complete1 : Complete demoProgs [0, 1, 0] := fun i =>
  match i with
  | 0 => by decide
  | 1 => by decide
  | _+2 => attach_untouched _ _ _ rfl
theorem Props.C20_nv.complete2 : Complete demoProgs [1, 0, 0, 1] := fun i =>
  match i with
  | 0 => by decide
  | 1 => by decide
  | _+2 => attach_untouched _ _ _ rfl

example : Complete demoProgs [0, 1, 0] ∧ Complete demoProgs [1, 0, 0, 1] :=
  ⟨Props.C20_nv.complete1, Props.C20_nv.complete2⟩

end Peg
