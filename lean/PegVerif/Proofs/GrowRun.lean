import PegVerif.Eval
import PegVerif.Proofs.Basics
/-
  The two loops of the rule wrapper as relations, so that proofs about them go by cases on what a finished call did
  instead of unfolding `growLoop` and `memoBody`.

  `GrowRun body key s best g chain r g'` is a finished run of the seed-and-grow loop `growLoop`: `chain` lists the
  results that improved on `best` one after the other, `r` is the answer; `growLoop` answers exactly when its fuel
  exceeds `chain.length` (`growLoop_iff`: `growLoop_run` from the function to a run, `GrowRun.toLoop` back).  `MemoRun
  flags name body s g r g'` is a finished call of `memoBody`: which of its five branches was taken, with the body run –
  or the run of the grow loop – it made (`memoBody_run`, from a call to the relation only; the way back is the equation
  of the branch, `memoBody_hit` … in Basics.lean).
  A finished call of a `@memoize` or `@leftrec` rule leaves its result under its key (`GrowRun.cache`, `MemoRun.cached`).
-/
namespace Peg

/-! ### `GrowRun`: a finished run of the grow loop -/

/- `Peg.LR` is the namespace of the `@leftrec` proofs (LeftRec.lean on), which share this and the two lookups after an
   insertion of Basics.lean -/
theorem LR.isFurtherThan_iff (a b : St) : a.isFurtherThan b = true ↔ b.off < a.off := by
  simp [St.isFurtherThan]

open LR

/-- a run of the grow loop, as a relation.
    `GrowRun body key s best g chain r g'`: started with `best` and global `g`, the loop evaluates the
    body `chain.length + 1` times; `chain` lists the successive *improved* results (each of them was
    inserted into the cache under `key` and became the new `best`), the last evaluation ends the loop
    with result `r` and global `g'`. -/
inductive GrowRun (body : St → Global → Out Val) (key : String × Nat) (s : St) :
    Res Val → Global → List (Val × St) → Res Val → Global → Prop
  /-- the body panics -/
  | panic {best g m g'} (hb : body s (growPre key g) = some (.panic m, g')) :
      GrowRun body key s best g [] (.panic m) g'
  /-- the body succeeds but not further than `best`: `best` is the answer -/
  | stopOk {bv bs g v ns g'} (hb : body s (growPre key g) = some (.ok v ns, g'))
      (hle : ns.off ≤ bs.off) : GrowRun body key s (.ok bv bs) g [] (.ok bv bs) g'
  /-- the body fails after a success: `best` is the answer -/
  | stopErr {bv bs g e g'} (hb : body s (growPre key g) = some (.err e, g')) :
      GrowRun body key s (.ok bv bs) g [] (.ok bv bs) g'
  /-- the body fails and there is no success yet: its error is the answer, and is cached -/
  | fail {best g e g'} (hb : body s (growPre key g) = some (.err e, g'))
      (hbest : ∀ bv bs, best ≠ .ok bv bs) :
      GrowRun body key s best g [] (.err e) (g'.insert key (.err e))
  /-- the body succeeds, strictly further than `best` (or `best` is no success): cache, continue -/
  | grow {best g v ns g' chain r g''} (hb : body s (growPre key g) = some (.ok v ns, g'))
      (hfar : ∀ bv bs, best = .ok bv bs → bs.off < ns.off)
      (hrest : GrowRun body key s (.ok v ns) (g'.insert key (.ok v ns)) chain r g'') :
      GrowRun body key s best g ((v, ns) :: chain) r g''

theorem growLoop_run {body : St → Global → Out Val} {key : String × Nat} {s : St} :
    ∀ k best g r g', growLoop body key s k best g = some (r, g') →
      ∃ chain, chain.length < k ∧ GrowRun body key s best g chain r g' := by
  intro k
  induction k with
  | zero => intro best g r g' h; simp [growLoop] at h
  | succ k ih =>
    intro best g r g' h
    rw [growLoop_step] at h
    rcases caseR_inv h with ⟨v, ns, g1, hb, h⟩ | ⟨e, g1, hb, h⟩ | ⟨m, hb, rfl⟩
    · cases hc : improves best ns <;> simp only [hc, if_true, Bool.false_eq_true, if_false] at h
      · cases h
        cases best with
        | ok bv bs =>
          refine ⟨[], by simp, .stopOk hb (Nat.not_lt.1 fun h' => ?_)⟩
          exact Bool.false_ne_true (hc.symm.trans ((isFurtherThan_iff _ _).2 h'))
        | err | panic => cases hc
      · obtain ⟨chain, hl, hr⟩ := ih _ _ _ _ h
        refine ⟨(v, ns) :: chain, by simp; omega, .grow hb (fun bv bs he => ?_) hr⟩
        subst he
        exact (isFurtherThan_iff _ _).1 hc
    · cases best <;> cases h
      · exact ⟨[], by simp, .stopErr hb⟩
      all_goals exact ⟨[], by simp, .fail hb nofun⟩
    · exact ⟨[], by simp, .panic hb⟩

/-- the loop function on a run: it answers exactly when the fuel exceeds the number of improvements -/
theorem GrowRun.loop_eq {body : St → Global → Out Val} {key : String × Nat} {s : St}
    {best g chain r g'} (h : GrowRun body key s best g chain r g') :
    ∀ k, growLoop body key s k best g = if chain.length < k then some (r, g') else none := by
  induction h with
  | panic hb =>
    intro k
    cases k with
    | zero => rfl
    | succ k => rw [growLoop_step, hb]; simp [caseR]
  | @stopOk bv bs g v ns g' hb hle =>
    intro k
    cases k with
    | zero => rfl
    | succ k =>
      have : ¬ ns.isFurtherThan bs = true := fun h' => Nat.not_lt.2 hle ((isFurtherThan_iff _ _).1 h')
      rw [growLoop_step, hb]; simp [caseR, improves, this]
  | stopErr hb =>
    intro k
    cases k with
    | zero => rfl
    | succ k => rw [growLoop_step, hb]; simp [caseR]
  | @fail best g e g' hb hbest =>
    intro k
    cases k with
    | zero => rfl
    | succ k =>
      rw [growLoop_step, hb]
      cases best with
      | ok bv bs => exact absurd rfl (hbest bv bs)
      | err _ => simp [caseR]
      | panic _ => simp [caseR]
  | @grow best g v ns g' chain r g'' hb hfar hrest ih =>
    intro k
    cases k with
    | zero => simp [growLoop]
    | succ k =>
      have hi : improves best ns = true := by
        cases best with
        | ok bv bs => exact (isFurtherThan_iff _ _).2 (hfar bv bs rfl)
        | _ => rfl
      rw [growLoop_step, hb]
      simp only [caseR, hi, if_true, List.length_cons, Nat.add_lt_add_iff_right]
      exact ih k

theorem GrowRun.toLoop {body : St → Global → Out Val} {key : String × Nat} {s : St}
    {best g chain r g'} (h : GrowRun body key s best g chain r g') :
    ∀ k, chain.length < k → growLoop body key s k best g = some (r, g') :=
  fun k hk => by rw [h.loop_eq, if_pos hk]

/-- the loop function and the run relation describe the same thing; the fuel needed is exactly the
    number of body evaluations `chain.length + 1` -/
theorem growLoop_iff {body : St → Global → Out Val} {key : String × Nat} {s : St} {k best g r g'} :
    growLoop body key s k best g = some (r, g') ↔
      ∃ chain, chain.length < k ∧ GrowRun body key s best g chain r g' :=
  ⟨growLoop_run k best g r g', fun ⟨_, hl, hr⟩ => hr.toLoop k hl⟩

/-- with less fuel than body evaluations the loop function runs out of fuel -/
theorem GrowRun.toLoop_none {body : St → Global → Out Val} {key : String × Nat} {s : St}
    {best g chain r g'} (h : GrowRun body key s best g chain r g') :
    ∀ k, k ≤ chain.length → growLoop body key s k best g = none :=
  fun k hk => by rw [h.loop_eq, if_neg (Nat.not_lt.2 hk)]

/-- a run is determined by its start: result, final global and number of iterations -/
theorem GrowRun.det {body : St → Global → Out Val} {key : String × Nat} {s : St}
    {best g chain r g' chain2 r2 g2} (h : GrowRun body key s best g chain r g')
    (h2 : GrowRun body key s best g chain2 r2 g2) :
    chain.length = chain2.length ∧ r = r2 ∧ g' = g2 := by
  have e1 := h.toLoop (max chain.length chain2.length + 1) (by omega)
  have e2 := h2.toLoop (max chain.length chain2.length + 1) (by omega)
  rw [e1] at e2
  simp only [Option.some.injEq, Prod.mk.injEq] at e2
  refine ⟨?_, e2.1, e2.2⟩
  rcases Nat.lt_trichotomy chain.length chain2.length with hlt | heq | hgt
  · have a := h.toLoop chain2.length hlt
    rw [h2.toLoop_none chain2.length (Nat.le_refl _)] at a
    cases a
  · exact heq
  · have a := h2.toLoop chain.length hgt
    rw [h.toLoop_none chain.length (Nat.le_refl _)] at a
    cases a

/-! ### `MemoRun`: a finished call of `memoBody` -/

/-- a finished call of `memoBody` from `g`: which of its five branches was taken, with the body run (or the run of
    the grow loop) it made and the global state it left.  The fuel of `memoBody` does not occur. -/
inductive MemoRun (flags : RuleFlags) (name : String) (body : St → Global → Out Val) (s : St) (g : Global) :
    Res Val → Global → Prop
  /-- `@leftrec`, the key is cached: the seed of a growing head, or the answer of an earlier growth -/
  | lrHit {c} (hlr : flags.leftRecursive = true) (hl : g.lookup (name, s.off) = some c) :
      MemoRun flags name body s g c (g.emit (.info "Cache hit (left recursive)"))
  /-- `@leftrec`, a miss: the sentinel is planted and the loop runs -/
  | lrGrow {chain r g'} (hlr : flags.leftRecursive = true) (hl : g.lookup (name, s.off) = none)
      (hrun : GrowRun body (name, s.off) s (.err (s.reportError .leftRecursionSentinel))
        (g.insert (name, s.off) (.err (s.reportError .leftRecursionSentinel))) chain r g') :
      MemoRun flags name body s g r g'
  /-- `@memoize`, the key is cached -/
  | hit {c} (hlr : flags.leftRecursive = false) (hm : flags.memoize = true)
      (hl : g.lookup (name, s.off) = some c) : MemoRun flags name body s g c (g.emit (.info "Cache hit"))
  /-- `@memoize`, a miss: the body runs after the ghost event, its result is entered unless it is a panic -/
  | miss {r g1} (hlr : flags.leftRecursive = false) (hm : flags.memoize = true)
      (hl : g.lookup (name, s.off) = none) (hb : body s (g.emit (.bodyEval name s.off)) = some (r, g1)) :
      MemoRun flags name body s g r (missGlobal (name, s.off) r g1)
  /-- neither: the body -/
  | plain {r g'} (hlr : flags.leftRecursive = false) (hm : flags.memoize = false)
      (hb : body s g = some (r, g')) : MemoRun flags name body s g r g'

theorem memoBody_run {flags : RuleFlags} {name : String} {body : St → Global → Out Val} {n : Nat} {s : St}
    {g : Global} {r : Res Val} {g' : Global} (h : memoBody flags name body n s g = some (r, g')) :
    MemoRun flags name body s g r g' := by
  cases hlr : flags.leftRecursive with
  | true =>
    cases hl : g.lookup (name, s.off) with
    | some c =>
      rw [memoBody_lr_hit hlr hl] at h
      cases h
      exact .lrHit hlr hl
    | none =>
      rw [memoBody_lr_miss hlr hl] at h
      obtain ⟨chain, _, hrun⟩ := growLoop_run _ _ _ _ _ h
      exact .lrGrow hlr hl hrun
  | false =>
    cases hm : flags.memoize with
    | false =>
      rw [memoBody_plain hlr (by simp [hm])] at h
      exact .plain hlr hm h
    | true =>
      cases hl : g.lookup (name, s.off) with
      | some c =>
        rw [memoBody_hit hlr hm hl] at h
        cases h
        exact .hit hlr hm hl
      | none =>
        cases hb : body s (g.emit (.bodyEval name s.off)) with
        | none => simp [memoBody, hlr, hm, hl, hb] at h
        | some y =>
          rw [memoBody_miss hlr hm hl hb] at h
          cases h
          exact .miss hlr hm hl hb

/-! ### what a finished call leaves in the cache -/

/-- `body` never changes an existing cache entry for `key` (for the generated code: while the seed
    for `key` is in the cache every call of the rule at that offset is a cache hit, which does not
    insert) -/
def KeepsKey (body : St → Global → Out Val) (key : String × Nat) (s : St) : Prop :=
  ∀ g r g', body s g = some (r, g') → ∀ x, g.lookup key = some x → g'.lookup key = some x

/-- the cache entry for `key` at the end is the returned result -/
theorem GrowRun.cache {body : St → Global → Out Val} {key : String × Nat} {s : St}
    (hk : KeepsKey body key s) {best g chain r g'} (h : GrowRun body key s best g chain r g')
    (hg : g.lookup key = some best) (hnp : ∀ m, r ≠ .panic m) : g'.lookup key = some r := by
  induction h with
  | panic hb => exact absurd rfl (hnp _)
  | stopOk hb hle => exact hk _ _ _ hb _ (by simpa using hg)
  | stopErr hb => exact hk _ _ _ hb _ (by simpa using hg)
  | fail hb hbest => exact lookup_insert_self _ _ _
  | grow hb hfar hrest ih => exact ih (lookup_insert_self _ _ _) hnp

/-- a call of the wrapper of a `@memoize` or `@leftrec` rule that does not panic leaves the result it returned under
    its key: the entry it found, the result it entered after a miss, the last improvement of the grow loop (where the
    body must leave the key alone) -/
theorem MemoRun.cached {flags : RuleFlags} {name : String} {body : St → Global → Out Val} {s : St}
    {g : Global} {r : Res Val} {g' : Global} (h : MemoRun flags name body s g r g')
    (hfl : flags.leftRecursive = true ∨ flags.memoize = true)
    (hk : flags.leftRecursive = true → KeepsKey body (name, s.off) s) (hnp : ∀ m, r ≠ .panic m) :
    g'.lookup (name, s.off) = some r := by
  cases h with
  | lrHit _ hl => exact hl
  | hit _ _ hl => exact hl
  | lrGrow hlr _ hrun => exact hrun.cache (hk hlr) (lookup_insert_self _ _ _) hnp
  | miss _ _ _ _ => rw [missGlobal_of_ne_panic _ _ hnp]; exact lookup_insert_self _ _ _
  | plain hlr hm _ => simp [hlr, hm] at hfl

end Peg
