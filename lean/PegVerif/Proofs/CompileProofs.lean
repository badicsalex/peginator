import PegVerif.Compile
import PegVerif.Proofs.Arity
import PegVerif.Proofs.DeclProofs
/-
  Property C15: every documented restriction of the grammar language is rejected by the model of
  the generator's decisions (`Compile.errors` / `Compile.accepts`).

  Totality remark: `Compile.errors` is a total function (it is a plain Lean `def` without
  `partial`; every traversal – `exprErrors`, `includesOf`, `reachesIncl`, `getFields` – is
  structurally recursive on a fuel argument), and the include recursion is bounded by that fuel:
  `reachesIncl` follows at most `g.rules.length + 1` include hops, `exprErrors`/`getFields` spend one
  unit of fuel per AST level or include hop.  So "the generator terminates with a verdict" holds of
  the model for every grammar, including cyclic ones.

  Every rejection theorem below holds *regardless of the include-cycle branch* of `errors`: if the
  grammar has an include cycle the error list is non-empty anyway.
-/
namespace Peg
open Compile

/-! ### `accepts` versus `errors` -/

theorem accepts_false_iff (g : Grammar) (st : Settings) (fuel : Nat) :
    accepts g st fuel = false ↔ errors g st fuel ≠ [] := by
  rw [← Bool.not_eq_true]
  exact not_congr List.isEmpty_iff

/-- the errors of one entry of the grammar -/
def entryErrors (g : Grammar) (st : Settings) (fuel : Nat) : RuleEntry → List String
  | .rule r => ruleErrors g st fuel r
  | .charRule r => charRuleErrors r
  | .externRule r => externRuleErrors r

/-- **Every restriction rejects through this**: an entry with an error makes the grammar rejected,
    *whether or not there is an include cycle* (a cycle is an error by itself).  The restrictions
    below only have to show that their hypothesis leaves a component of `ruleErrors` /
    `charRuleErrors` / `externRuleErrors` non-empty. -/
theorem reject_of_entry {g : Grammar} {st : Settings} {fuel : Nat} {e : RuleEntry} (he : e ∈ g.rules)
    (h : entryErrors g st fuel e ≠ []) : accepts g st fuel = false := by
  rw [accepts_false_iff]
  unfold errors
  split
  · simp
  · exact fun h0 => h (List.flatMap_eq_nil_iff.1 (List.append_eq_nil_iff.1 h0).2 e he)

theorem nameErr_of_not_identOk {n : String} (h : identOk n = false) :
    ("'" ++ n ++ "' cannot be used as a Rust identifier") ∈ nameErr n := by
  simp [nameErr, h]

theorem nameErr_ne_nil {n : String} (h : identOk n = false) : nameErr n ≠ [] :=
  List.ne_nil_of_mem (nameErr_of_not_identOk h)

theorem pathErrors_ne_nil {p : List String} {part : String} (hp : part ∈ p) (h : identOk part = false) :
    pathErrors p ≠ [] := by
  refine List.ne_nil_of_mem (a := "'" ++ part ++ "' cannot be used as a Rust identifier") ?_
  exact List.mem_filterMap.2 ⟨part, hp, by simp [h]⟩

/-! ### errors of the field analysis -/

/-- running out of analysis fuel is a rejection too (never a silent acceptance) -/
theorem reject_getFields_fuel {g : Grammar} {st : Settings} {fuel : Nat} {r : Rule}
    (hr : RuleEntry.rule r ∈ g.rules) (h : getFields g fuel r.definition = .fuel) :
    accepts g st fuel = false :=
  reject_of_entry hr (by simp [entryErrors, ruleErrors, h])

/-- fields inside a positive lookahead -/
theorem getFields_pos_err {g : Grammar} {n : Nat} {b : Expr} {f : FieldDesc} {fs : List FieldDesc}
    (h : getFields g n b = .ok (f :: fs)) :
    getFields g (n+1) (.pos b) = .err "The body of positive lookaheads should not contain named fields" := by
  simp only [getFields, h]

/-- include of a rule that is not a normal rule of the grammar -/
theorem getFields_incl_err' {g : Grammar} {n : Nat} {name : String} (h : g.findRule name = none) :
    ∃ m, getFields g (n+1) (.incl name) = .err m := ⟨_, by simp only [getFields, h]; rfl⟩

/-- `@char` and `@extern` rules are invisible to includes: the lookup fails exactly when no *normal*
    rule is called `name` (the only entries with that name, if any, are `@char`/`@extern` rules) -/
theorem findRule_none_iff {g : Grammar} {name : String} :
    g.findRule name = none ↔ ∀ r', RuleEntry.rule r' ∈ g.rules → r'.name ≠ name := by
  unfold Grammar.findRule
  rw [List.findSome?_eq_none_iff]
  constructor
  · intro h r' hr' hn
    have := h _ hr'
    simp [hn] at this
  · intro h e he
    cases e with
    | rule r' => simp [h r' he]
    | charRule _ => rfl
    | externRule _ => rfl

/-! ### literal problems anywhere in the body -/

theorem reject_exprError {g : Grammar} {st : Settings} {fuel : Nat} {r : Rule} {m : String}
    (hr : RuleEntry.rule r ∈ g.rules) (h : m ∈ exprErrors g fuel r.definition) :
    accepts g st fuel = false :=
  reject_of_entry hr (by simp [entryErrors, ruleErrors, List.ne_nil_of_mem h])

/-- `StringItem.toChar` never runs out of fuel (it has none) -/
theorem toChar_ne_fuel (it : StringItem) : it.toChar ≠ .fuel := by
  cases it with
  | hexa c1 c2 =>
    simp only [StringItem.toChar]
    split <;> simp
  | simple e => simp [StringItem.toChar]
  | utf8 ds =>
    simp only [StringItem.toChar]
    split
    · simp
    · split <;> simp
  | chr c => simp [StringItem.toChar]

/-- an escape that does not decode makes the compilation of the literal fail -/
theorem compileLit_err_of_mem {ins : Bool} {items : List StringItem} {it : StringItem} {m : String}
    (hit : it ∈ items) (h : it.toChar = .err m) : ∃ m', compileLit ins items = .err m' := by
  obtain ⟨m', hm'⟩ := mapMCR_err_of_mem toChar_ne_fuel hit h
  exact ⟨m', by simp only [compileLit, decodeLit, hm']⟩

theorem toChar_utf8_invalid {ds : List Char} {n : Nat} (h : hexFold ds 0 = some n)
    (hc : charFromU32 n = none) : StringItem.toChar (.utf8 ds) = .err "Invalid utf-8 codepoint" := by
  simp only [StringItem.toChar, h, hc]

/-- surrogate D800 -/
example : StringItem.toChar (.utf8 ['D', '8', '0', '0']) = .err "Invalid utf-8 codepoint" :=
  toChar_utf8_invalid (n := 0xD800) (by decide) (by decide)
/-- beyond 10FFFF -/
example : StringItem.toChar (.utf8 ['1', '1', '0', '0', '0', '0']) = .err "Invalid utf-8 codepoint" :=
  toChar_utf8_invalid (n := 0x110000) (by decide) (by decide)
example : hexFold ['D', '8', '0', '0'] 0 = some 0xD800 ∧ charFromU32 0xD800 = none := by decide
example : hexFold ['1', '1', '0', '0', '0', '0'] 0 = some 0x110000 ∧ charFromU32 0x110000 = none := by decide
/-- a valid one for contrast -/
example : StringItem.toChar (.utf8 ['E', '9']) = .ok 'é' := by
  have h : hexFold ['E', '9'] 0 = some 0xE9 := by decide
  have h2 : charFromU32 0xE9 = some 'é' := by decide
  simp only [StringItem.toChar, h, h2]

/-! how a local problem reaches the `exprErrors` of the body -/

theorem exprErrors_lit {g : Grammar} {n : Nat} {ins : Bool} {items : List StringItem} {m : String}
    (h : compileLit ins items = .err m) : m ∈ exprErrors g (n+1) (.lit ins items) := by
  simp [exprErrors, h]

theorem exprErrors_range_lo {g : Grammar} {n : Nat} {lo hi : StringItem} {m : String}
    (h : lo.toChar = .err m) : m ∈ exprErrors g (n+1) (.range lo hi) := by
  simp [exprErrors, h]

theorem exprErrors_range_hi {g : Grammar} {n : Nat} {lo hi : StringItem} {m : String}
    (h : hi.toChar = .err m) : m ∈ exprErrors g (n+1) (.range lo hi) := by
  simp only [exprErrors, h, List.mem_append]
  exact Or.inr (List.mem_singleton.2 rfl)

theorem exprErrors_field_type {g : Grammar} {n : Nat} {name : Option FieldName} {boxed : Bool} {typ : String}
    (h : identOk typ = false) :
    ("'" ++ typ ++ "' cannot be used as a Rust identifier") ∈ exprErrors g (n+1) (.field name boxed typ) := by
  simp only [exprErrors, List.mem_append]
  exact Or.inl (nameErr_of_not_identOk h)

theorem exprErrors_field_name {g : Grammar} {n : Nat} {f : String} {boxed : Bool} {typ : String}
    (h : identOk f = false) :
    ("'" ++ f ++ "' cannot be used as a Rust identifier") ∈
      exprErrors g (n+1) (.field (some (.ident f)) boxed typ) := by
  simp only [exprErrors, List.mem_append]
  exact Or.inr (nameErr_of_not_identOk h)

theorem exprErrors_incl_missing {g : Grammar} {n : Nat} {name : String} (h : g.findRule name = none) :
    ("Could not find normal (not char or extern) rule named " ++ name) ∈ exprErrors g (n+1) (.incl name) := by
  simp [exprErrors, h]

/-- direct sub-expressions (an include counts: the body of the included rule is generated in place) -/
inductive Child (g : Grammar) : Expr → Expr → Prop
  | choice {xs x} : x ∈ xs → Child g x (.choice xs)
  | seq {xs x} : x ∈ xs → Child g x (.seq xs)
  | group {b} : Child g b (.group b)
  | opt {b} : Child g b (.opt b)
  | closure {b al} : Child g b (.closure b al)
  | neg {b} : Child g b (.neg b)
  | pos {b} : Child g b (.pos b)
  | incl {name rule} : g.findRule name = some rule → Child g rule.definition (.incl name)

theorem exprErrors_child {g : Grammar} {n : Nat} {c e : Expr} {m : String} (hc : Child g c e)
    (h : m ∈ exprErrors g n c) : m ∈ exprErrors g (n+1) e := by
  cases hc with
  | choice hx => simp only [exprErrors]; exact List.mem_flatMap.2 ⟨_, hx, h⟩
  | seq hx => simp only [exprErrors]; exact List.mem_flatMap.2 ⟨_, hx, h⟩
  | group => simpa only [exprErrors] using h
  | opt => simpa only [exprErrors] using h
  | closure => simpa only [exprErrors] using h
  | neg => simpa only [exprErrors] using h
  | pos => simpa only [exprErrors] using h
  | incl hf => simpa only [exprErrors, hf] using h

/-- `c` occurs in `e` at depth `d` (through sub-expressions and includes) -/
inductive OccursAt (g : Grammar) (c : Expr) : Nat → Expr → Prop
  | here : OccursAt g c 0 c
  | step {d e' e} : OccursAt g c d e' → Child g e' e → OccursAt g c (d+1) e

/-- a problem found with fuel `n` in an expression occurring at depth `d` of the body is found in
    the body with fuel `n + d` -/
theorem exprErrors_occurs {g : Grammar} {d n : Nat} {c e : Expr} {m : String} (ho : OccursAt g c d e)
    (h : m ∈ exprErrors g n c) : m ∈ exprErrors g (n + d) e := by
  induction ho with
  | here => exact h
  | step _ hch ih => exact exprErrors_child hch ih

/-- a literal problem *anywhere* in the body (at depth `d`, the analysis fuel being exactly
    enough: `fuel = n + d`) rejects the grammar -/
theorem reject_problem_anywhere {g : Grammar} {st : Settings} {d n : Nat} {r : Rule} {c : Expr} {m : String}
    (hr : RuleEntry.rule r ∈ g.rules) (ho : OccursAt g c d r.definition) (h : m ∈ exprErrors g n c) :
    accepts g st (n + d) = false :=
  reject_exprError hr (exprErrors_occurs ho h)

theorem exprErrors_mono {g : Grammar} : ∀ {n : Nat} {e : Expr} {m : String},
    m ∈ exprErrors g n e → m ∈ exprErrors g (n+1) e := by
  intro n
  induction n with
  | zero => intro e m h; simp [exprErrors] at h
  | succ n ih =>
    intro e m h
    cases e with
    | choice xs =>
      simp only [exprErrors] at h
      obtain ⟨x, hx, hm⟩ := List.mem_flatMap.1 h
      exact exprErrors_child (.choice hx) (ih hm)
    | seq xs =>
      simp only [exprErrors] at h
      obtain ⟨x, hx, hm⟩ := List.mem_flatMap.1 h
      exact exprErrors_child (.seq hx) (ih hm)
    | group b => simp only [exprErrors] at h; exact exprErrors_child .group (ih h)
    | opt b => simp only [exprErrors] at h; exact exprErrors_child .opt (ih h)
    | closure b al => simp only [exprErrors] at h; exact exprErrors_child .closure (ih h)
    | neg b => simp only [exprErrors] at h; exact exprErrors_child .neg (ih h)
    | pos b => simp only [exprErrors] at h; exact exprErrors_child .pos (ih h)
    | range lo hi => simpa only [exprErrors] using h
    | lit ins body => simpa only [exprErrors] using h
    | eoi => simp [exprErrors] at h
    | incl name =>
      simp only [exprErrors] at h
      cases hf : g.findRule name with
      | none => simpa only [exprErrors, hf] using h
      | some rule =>
        simp only [hf] at h
        exact exprErrors_child (.incl hf) (ih h)
    | field name boxed typ => simpa only [exprErrors] using h

theorem exprErrors_mono_le {g : Grammar} {n k : Nat} {e : Expr} {m : String} (hk : n ≤ k)
    (h : m ∈ exprErrors g n e) : m ∈ exprErrors g k e := by
  induction hk with
  | refl => exact h
  | step _ ih => exact exprErrors_mono ih

/-- … with any larger fuel -/
theorem reject_problem_anywhere_le {g : Grammar} {st : Settings} {d n fuel : Nat} {r : Rule} {c : Expr}
    {m : String} (hr : RuleEntry.rule r ∈ g.rules) (ho : OccursAt g c d r.definition)
    (h : m ∈ exprErrors g n c) (hfuel : n + d ≤ fuel) : accepts g st fuel = false :=
  reject_exprError hr (exprErrors_mono_le hfuel (exprErrors_occurs ho h))

/-! ### identifiers -/

/-- a `@check` path with a bad part -/
theorem reject_bad_check_path {g : Grammar} {st : Settings} {fuel : Nat} {r : Rule} {p : List String}
    {part : String} (hr : RuleEntry.rule r ∈ g.rules) (hp : p ∈ r.checks) (hpart : part ∈ p)
    (h : identOk part = false) : accepts g st fuel = false :=
  reject_of_entry hr (List.append_ne_nil_of_right_ne_nil _
    fun h0 => pathErrors_ne_nil hpart h (List.flatMap_eq_nil_iff.1 h0 p hp))

/-- the checks of a rule are exactly its `@check` directives -/
theorem mem_checks_iff {r : Rule} {p : List String} : p ∈ r.checks ↔ Directive.check p ∈ r.directives := by
  unfold Rule.checks
  rw [List.mem_filterMap]
  constructor
  · rintro ⟨d, hd, hdp⟩
    cases d <;> simp at hdp
    subst hdp; exact hd
  · intro h; exact ⟨_, h, rfl⟩

/-- a bad field type or field name anywhere in the body goes through `reject_exprError` /
    `reject_problem_anywhere` with `exprErrors_field_type` / `exprErrors_field_name`; directly in the body: -/
theorem reject_bad_field_type {g : Grammar} {st : Settings} {n : Nat} {r : Rule} {name : Option FieldName}
    {boxed : Bool} {typ : String} (hr : RuleEntry.rule r ∈ g.rules)
    (hd : r.definition = .field name boxed typ) (h : identOk typ = false) : accepts g st (n+1) = false :=
  reject_exprError hr (by rw [hd]; exact exprErrors_field_type h)

/-- `@char` rule: bad name, bad check path -/
theorem reject_bad_charRule_name {g : Grammar} {st : Settings} {fuel : Nat} {r : CharRule}
    (hr : RuleEntry.charRule r ∈ g.rules) (h : identOk r.name = false) : accepts g st fuel = false :=
  reject_of_entry hr (by simp [entryErrors, charRuleErrors, nameErr_ne_nil h])

theorem reject_bad_charRule_check {g : Grammar} {st : Settings} {fuel : Nat} {r : CharRule} {p : List String}
    {part : String} (hr : RuleEntry.charRule r ∈ g.rules) (hp : p ∈ r.directives) (hpart : part ∈ p)
    (h : identOk part = false) : accepts g st fuel = false :=
  reject_of_entry hr (List.append_ne_nil_of_left_ne_nil (List.append_ne_nil_of_right_ne_nil _
    fun h0 => pathErrors_ne_nil hpart h (List.flatMap_eq_nil_iff.1 h0 p hp)) _)

/-- an undecodable escape in a `@char` rule -/
theorem reject_bad_charRule_item {g : Grammar} {st : Settings} {fuel : Nat} {r : CharRule} {it : StringItem}
    {m : String} (hr : RuleEntry.charRule r ∈ g.rules) (hp : CharRulePart.chr it ∈ r.choices)
    (h : it.toChar = .err m) : accepts g st fuel = false :=
  reject_of_entry hr (List.append_ne_nil_of_right_ne_nil _
    fun h0 => by simpa [h] using List.flatMap_eq_nil_iff.1 h0 _ hp)

/-- `@extern` rule: bad name, bad function path, bad return type path -/
theorem reject_bad_externRule_name {g : Grammar} {st : Settings} {fuel : Nat} {r : ExternRule}
    (hr : RuleEntry.externRule r ∈ g.rules) (h : identOk r.name = false) : accepts g st fuel = false :=
  reject_of_entry hr (by simp [entryErrors, externRuleErrors, nameErr_ne_nil h])

theorem reject_bad_externRule_function {g : Grammar} {st : Settings} {fuel : Nat} {r : ExternRule}
    {part : String} (hr : RuleEntry.externRule r ∈ g.rules) (hpart : part ∈ r.function)
    (h : identOk part = false) : accepts g st fuel = false :=
  reject_of_entry hr (by simp [entryErrors, externRuleErrors, pathErrors_ne_nil hpart h])

theorem reject_bad_externRule_returnType {g : Grammar} {st : Settings} {fuel : Nat} {r : ExternRule}
    {p : List String} {part : String} (hr : RuleEntry.externRule r ∈ g.rules) (hp : r.returnType = some p)
    (hpart : part ∈ p) (h : identOk part = false) : accepts g st fuel = false :=
  reject_of_entry hr (by simp [entryErrors, externRuleErrors, hp, pathErrors_ne_nil hpart h])

example : identOk "1a" = false := by decide +kernel
example : identOk "self" = false := by decide +kernel
example : identOk "Self" = false := by decide +kernel
example : identOk "super" = false := by decide +kernel
example : identOk "a b" = false := by decide +kernel
example : identOk "" = false := by decide +kernel
example : identOk "a-b" = false := by decide +kernel
example : identOk "_x1" = true := by decide +kernel
example : identOk "type" = true := by decide +kernel
example : identOk "crate" = true := by decide +kernel

theorem identOk_nonempty {s : String} (h : identOk s = true) : s.toList ≠ [] := by
  unfold identOk at h
  split at h
  · cases h
  · rename_i heq; rw [heq]; simp

theorem identOk_not_self {s : String} (h : identOk s = true) : s ≠ "self" ∧ s ≠ "Self" ∧ s ≠ "super" := by
  unfold identOk at h
  split at h
  · cases h
  · simp only [Bool.and_eq_true, Bool.not_eq_true', Bool.or_eq_false_iff, beq_eq_false_iff_ne, ne_eq] at h
    exact ⟨h.2.1.1, h.2.1.2, h.2.2⟩

/-! ### include cycles -/

/-- `A = >A;` -/
def gSelfIncl : Grammar := ⟨[.rule ⟨[], "A", .incl "A"⟩]⟩
/-- `A = >B; B = 'x' >A;` -/
def gMutualIncl : Grammar :=
  ⟨[.rule ⟨[], "A", .incl "B"⟩, .rule ⟨[], "B", .seq [.lit false [.chr 'x'], .incl "A"]⟩]⟩
/-- `A = 'y' >B; B = 'x';` -/
def gAcyclicIncl : Grammar :=
  ⟨[.rule ⟨[], "A", .seq [.lit false [.chr 'y'], .incl "B"]⟩, .rule ⟨[], "B", .lit false [.chr 'x']⟩]⟩

example : hasIncludeCycle gSelfIncl 5 = true := by decide +kernel
example : hasIncludeCycle gMutualIncl 5 = true := by decide +kernel
example : hasIncludeCycle gAcyclicIncl 5 = false := by decide +kernel
example : accepts gSelfIncl {} 5 = false := by decide +kernel
example : accepts gMutualIncl {} 5 = false := by decide +kernel
/-- the acyclic include is accepted -/
example : accepts gAcyclicIncl {} 5 = true := by decide +kernel

/-! ### non-vacuity: a valid grammar is accepted; concrete instances of the rejections -/

/-- `@export S = a:A {b:B}; A = 'a'; @string B = 'b'; @char C = 'c'; @extern(f::g -> T) E;` -/
def gValid : Grammar :=
  ⟨[.rule ⟨[.export], "S", .seq [.field (some (.ident "a")) false "A",
        .closure (.field (some (.ident "b")) false "B") false]⟩,
    .rule ⟨[], "A", .lit false [.chr 'a']⟩,
    .rule ⟨[.string], "B", .lit false [.chr 'b']⟩,
    .charRule ⟨[], "C", [.chr (.chr 'c')]⟩,
    .externRule ⟨["f", "g"], some ["T"], "E"⟩]⟩

example : accepts gValid {} 10 = true := by decide +kernel
example : errors gValid {} 10 = [] := by decide +kernel

/-- `@string @export X = 'x';` -/
example : accepts ⟨[.rule ⟨[.string, .export], "X", .lit false [.chr 'x']⟩]⟩ {} 10 = false := by decide +kernel
/-- `Whitespace = ' ';` without `@no_skip_ws` -/
example : accepts ⟨[.rule ⟨[], "Whitespace", .lit false [.chr ' ']⟩]⟩ {} 10 = false := by decide +kernel
example : accepts ⟨[.rule ⟨[.noSkipWs], "Whitespace", .lit false [.chr ' ']⟩]⟩ {} 10 = true := by decide +kernel
/-- `@memoize` with derives = [Debug] -/
example : accepts ⟨[.rule ⟨[.memoize], "X", .lit false [.chr 'x']⟩]⟩ { derives := ["Debug"] } 10 = false := by
  decide +kernel
/-- `X = !(a:X) 'x';` -/
example : accepts ⟨[.rule ⟨[], "X", .seq [.neg (.field (some (.ident "a")) false "X"), .lit false [.chr 'x']]⟩]⟩
    {} 10 = false := by decide +kernel
/-- include of a `@char` rule -/
example : accepts ⟨[.rule ⟨[], "X", .incl "C"⟩, .charRule ⟨[], "C", [.chr (.chr 'c')]⟩]⟩ {} 10 = false := by
  decide +kernel
/-- `@export X = @:A; A = 'a';` -/
example : accepts ⟨[.rule ⟨[.export], "X", .field (some .override) false "A"⟩,
    .rule ⟨[], "A", .lit false [.chr 'a']⟩]⟩ {} 10 = false := by decide +kernel
/-- `X = [@:A | @:B]; …` enum override in an optional (the type set `{A, B}` is built with `strLt`) -/
def gEnumOpt : Grammar :=
  ⟨[.rule ⟨[], "X", .opt (.choice [.field (some .override) false "A", .field (some .override) false "B"])⟩,
    .rule ⟨[], "A", .lit false [.chr 'a']⟩, .rule ⟨[], "B", .lit false [.chr 'b']⟩]⟩

example : accepts gEnumOpt {} 10 = false := by decide +kernel
/-- `X = @:A b:A;` mixing -/
example : accepts ⟨[.rule ⟨[], "X", .seq [.field (some .override) false "A", .field (some (.ident "b")) false "A"]⟩,
    .rule ⟨[], "A", .lit false [.chr 'a']⟩]⟩ {} 10 = false := by decide +kernel
/-- `X = i'é';` -/
example : accepts ⟨[.rule ⟨[], "X", .lit true [.chr 'é']⟩]⟩ {} 10 = false := by decide +kernel
/-- `X = '\u{D800}';` -/
example : accepts ⟨[.rule ⟨[], "X", .lit false [.utf8 ['D', '8', '0', '0']]⟩]⟩ {} 10 = false := by decide +kernel

end Peg
