import PegVerif.SpecLR
import PegVerif.Proofs.LeftRec
import PegVerif.Proofs.Refine
/-
  Soundness of the syntactic "certainly consumes input" analysis `LRC.prog` (SpecLR.lean) for the
  implementation model `Peg.eval`:

    a successful evaluation of a construct / rule accepted by `prog` ends strictly further.

  Stated as an invariant `ProgSound env L rec` of the open-recursion evaluator (`step_progSound`),
  closed by induction on the fuel (`eval_progSound`).  The non-strict parts (other sequence parts,
  whitespace skipping, later loop iterations, `@check`s) and the transport of `Within` / `CacheW`
  come from `LR.RInv` (LeftRec.lean).
-/
namespace Peg
namespace LRC
open LR

def ProgE (env : Env) (e : Expr) : Prop := ∃ d, prog env.g d e = true

def ProgR (env : Env) (name : String) : Prop := ∃ d, progRule env.g (prog env.g d) name = true

/-! ### inversion of `prog` -/

section
variable {env : Env}

/-- one unfolding of `prog`, read construct by construct -/
theorem ProgE.inv {e} (h : ProgE env e) : match e with
    | .choice as => ∀ a ∈ as, ProgE env a
    | .seq ps => ∃ p ∈ ps, ProgE env p
    | .group x => ProgE env x
    | .closure x plus => plus = true ∧ ProgE env x
    | .lit ins body => ∀ mm, compileLit ins body = .ok mm → litNullable mm = false
    | .incl r => ∀ rule, env.g.findRule r = some rule → ProgE env rule.definition
    | .field _ _ typ => ProgR env typ
    | .range _ _ => True
    | .opt _ | .neg _ | .pos _ | .eoi => False := by
  obtain ⟨d, hd⟩ := h
  -- without analysis fuel nothing is accepted
  cases d with
  | zero => cases hd
  | succ d =>
  cases e with
  | choice as =>
    simp only [prog, List.all_eq_true] at hd
    exact fun a ha => ⟨d, hd a ha⟩
  | seq ps =>
    simp only [prog, List.any_eq_true] at hd
    obtain ⟨p, hp, h⟩ := hd
    exact ⟨p, hp, d, h⟩
  | group x => exact ⟨d, hd⟩
  | closure x plus =>
    simp only [prog, Bool.and_eq_true] at hd
    exact ⟨hd.1, d, hd.2⟩
  | lit ins body => exact fun mm hc => by simpa [prog, hc] using hd
  | incl r => exact fun rule hf => ⟨d, by simpa only [prog, hf] using hd⟩
  | field => exact ⟨d, hd⟩
  | range => trivial
  | opt | neg | pos | eoi => cases hd

theorem ProgE.choice {as} (h : ProgE env (.choice as)) : ∀ a ∈ as, ProgE env a := h.inv

theorem ProgE.closure {x plus} (h : ProgE env (.closure x plus)) : plus = true ∧ ProgE env x := h.inv

/-- … and of `progRule`, by what the name resolves to -/
theorem ProgR.inv {name} (h : ProgR env name) : ∀ {x}, env.g.find name = x → match x with
    | some (.rule r) => r.flags.leftRecursive = false ∧ r.flags.memoize = false ∧ ProgE env r.definition
    | some (.charRule cr) => ∀ id, CharRulePart.ident id ∈ cr.choices → ProgR env id
    | some (.externRule _) => False
    | none => name = "char" := by
  obtain ⟨d, hd⟩ := h
  intro x hf
  simp only [progRule, hf] at hd
  match x with
  | some (.rule r) =>
    simp only [Bool.and_eq_true, Bool.not_eq_true'] at hd
    exact ⟨hd.1.1, hd.1.2, d, hd.2⟩
  | some (.charRule cr) =>
    simp only [List.all_eq_true] at hd
    exact fun id hid => ProgE.inv (e := .field none false id) ⟨d, hd _ hid⟩
  | some (.externRule _) => cases hd
  | none => simpa using hd

/-- a terminal that `prog` accepts consumes input when it matches -/
theorem progE_terminal {e : Expr} {mt} (hterm : terminalOf e = some (.ok mt)) (hp : ProgE env e) :
    ∀ s v s', mt s = .ok v s' → s'.rest.length < s.rest.length := by
  intro s v s' h
  cases e <;> simp only [terminalOf, Option.some.injEq, reduceCtorEq] at hterm
  case range lo hi =>
    split at hterm <;> cases hterm
    obtain ⟨v0, h0⟩ := map_ok h
    exact parseCharacterRange_len h0
  case lit ins body =>
    split at hterm <;> cases hterm
    rename_i mm hm
    exact (LitMatcher.parse_len h).2 (by cases mm <;> exact hp.inv _ hm)
  case eoi => exact hp.inv.elim

end

/-! ### strictness of a computation, and its combinators -/

/-- a success of `f`, started within the input with a well-formed cache, ends strictly further -/
def Strict (L : Nat) (s : St) {α} (f : Global → Out α) : Prop :=
  ∀ g v s' g', Within L s → CacheW L g → f g = some (.ok v s', g') → s.off < s'.off

/-- soundness of `prog` for an evaluator `rec`: what `prog` accepts is strict -/
structure ProgSound (env : Env) (L : Nat) (rec : Rec) : Prop where
  expr : ∀ ctx e s, ProgE env e → Strict L s (rec.expr ctx e s)
  rule : ∀ name s, ProgR env name → Strict L s (rec.rule name s)

theorem Strict.pure {L s α} {r : Res α} (hr : ∀ v s', r = .ok v s' → s.off < s'.off) :
    Strict L s (fun g => some (r, g)) := by
  intro g v s' g' _ _ hx
  simp only [Option.some.injEq, Prod.mk.injEq] at hx
  exact hr _ _ hx.1

theorem Strict.panic {L s α} (m : String) : Strict L s (fun g => some ((.panic m : Res α), g)) :=
  Strict.pure (fun _ _ he => by cases he)

theorem Strict.err {L s α} (e : PErr) : Strict L s (fun g => some ((.err e : Res α), g)) :=
  Strict.pure (fun _ _ he => by cases he)

theorem Strict.map {L s α β} {r : Res α} (f : α → β) (hr : ∀ v s', r = .ok v s' → s.off < s'.off) :
    Strict L s (fun g => some (r.map f, g)) :=
  Strict.pure (fun _ s' he => by obtain ⟨v0, h0⟩ := map_ok he; exact hr v0 s' h0)

theorem Strict.congr {L s α} {f f' : Global → Out α} (he : ∀ g, f g = f' g) (h : Strict L s f') :
    Strict L s f :=
  congr_pred he h

theorem Strict.of_recordError {L s e α} {f : Global → Out α} (h : Strict L (s.recordError e) f) :
    Strict L s f :=
  fun g v s' g' hs hc hx => by simpa using h g v s' g' (within_recordError.2 hs) hc hx

/-- the node shape `caseR`: a success is strict if the sub-computation is and the continuation moves forward,
    or if the continuation is strict; a failure continues from the start -/
theorem Strict.caseR {L s α β} {f : Global → Out α} {ok : α → St → Global → Out β}
    {err : PErr → Global → Out β} (hf : Inv L s f)
    (hok : ∀ v s1, (Strict L s f ∧ Inv L s1 (ok v s1)) ∨ Strict L s1 (ok v s1))
    (herr : ∀ e, Strict L s (err e)) : Strict L s (fun g => caseR (f g) ok err) := by
  intro g v s' g' hs hc hx
  rcases caseR_inv hx with ⟨v1, s1, g1, hfg, hx⟩ | ⟨e, g1, hfg, hx⟩ | ⟨m, _, h⟩
  · obtain ⟨hc1, hf1⟩ := (hf _ _ _ hfg).2 hs hc
    obtain ⟨ho, hw1⟩ := Fwd.ok_iff.1 hf1
    rcases hok v1 s1 with ⟨hsf, hk⟩ | hk
    · have := hsf _ _ _ _ hs hc hfg
      have := (Fwd.ok_iff.1 ((hk _ _ _ hx).2 hw1 hc1).2).1
      omega
    · have := hk _ _ _ _ hw1 hc1 hx
      omega
  · exact herr e _ _ _ _ hs ((hf _ _ _ hfg).2 hs hc).1 hx
  · cases h

/-- the first part is strict, the continuation only moves forward -/
theorem bindR_strict_l {L s α β} {f : Global → Out α} {k : α → St → Global → Out β}
    (hf : Inv L s f) (hsf : Strict L s f) (hk : ∀ v s1, Inv L s1 (k v s1)) :
    Strict L s (fun g => bindR (f g) k) :=
  Strict.caseR hf (fun v s1 => .inl ⟨hsf, hk v s1⟩) Strict.err

/-- the first part only moves forward, the continuation is strict -/
theorem bindR_strict_r {L s α β} {f : Global → Out α} {k : α → St → Global → Out β}
    (hf : Inv L s f) (hk : ∀ v s1, Strict L s1 (k v s1)) :
    Strict L s (fun g => bindR (f g) k) :=
  Strict.caseR hf (fun v s1 => .inr (hk v s1)) Strict.err

theorem withSkipWs_strict {L α} {rec : Rec} (hrec : RInv L rec) {ctx : Ctx} {s : St}
    {k : St → Global → Out α} (hk : ∀ s, Strict L s (k s)) :
    Strict L s (fun g => withSkipWs rec ctx s g k) := by
  unfold withSkipWs
  split
  · exact bindR_strict_r (hrec.rule _ _) (fun _ s => hk s)
  · exact hk s

section
variable {env : Env} {rec : Rec} {L : Nat}

/-! ### expression level -/

theorem evalAlts_prog (hinv : RInv L rec) (h : ProgSound env L rec) {ctx : Ctx} {fields} :
    ∀ as s, (∀ a ∈ as, ProgE env a) → Strict L s (evalAlts env rec ctx fields as s) := by
  intro as
  induction as with
  | nil => exact fun s _ => Strict.err _
  | cons a as ih =>
    intro s hall
    refine congr_pred (evalAlts_step env ctx fields rec a as s) (Strict.caseR (hinv.expr ctx a s)
      (fun r s' => .inl ⟨h.expr _ _ _ (hall a (List.mem_cons_self ..)), ?_⟩)
      fun e => (ih _ fun a ha => hall a (List.mem_cons_of_mem _ ha)).of_recordError)
    split
    · exact Inv.okSame _
    · exact Inv.panic _

theorem evalSeq_prog (hinv : RInv L rec) (h : ProgSound env L rec) {ctx : Ctx} :
    ∀ ps seen acc s, (∃ p ∈ ps, ProgE env p) → Strict L s (evalSeq env rec ctx ps seen acc s) := by
  intro ps
  induction ps with
  | nil => intro seen acc s hex; obtain ⟨p, hp, _⟩ := hex; cases hp
  | cons p ps ih =>
    intro seen acc s ⟨q, hq, hpq⟩
    refine congr_pred (fun g => by rw [evalSeq]) ?_
    rcases List.mem_cons.1 hq with rfl | hq'
    · refine bindR_strict_l (hinv.expr ctx q s) (h.expr _ _ _ hpq) fun r s' => ?_
      dsimp only
      split
      · exact Inv.panic _
      · exact evalSeq_inv hinv _ _ _ _
    · refine bindR_strict_r (hinv.expr ctx p s) fun r s' => ?_
      dsimp only
      split
      · exact Strict.panic _
      · exact ih _ _ _ ⟨q, hq', hpq⟩

theorem stepExpr_prog (hinv : RInv L rec) (h : ProgSound env L rec) (n : Nat) (ctx : Ctx) (e : Expr)
    (s : St) (hp : ProgE env e) : Strict L s (stepExpr env rec n ctx e s) := by
  match hterm : terminalOf e with
  | some (.ok mt) =>
    exact congr_pred (stepExpr_terminal hterm s) <| withSkipWs_strict hinv fun s => Strict.pure fun _ _ he =>
      ((isMatcher_of_terminalOf hterm).off_lt_iff he).mpr (progE_terminal hterm hp _ _ _ he)
  | some (.error msg) => exact congr_pred (stepExpr_terminal_error hterm s) (Strict.panic _)
  | none =>
  cases e with
  | range | lit | eoi => simp [terminalOf] at hterm
  | choice alts =>
    match alts, hp with
    | [], _ => exact Strict.panic _
    | [a], hp => exact h.expr _ _ _ (hp.choice a (List.mem_cons_self ..))
    | a :: b :: rest, hp => exact evalAlts_prog hinv h _ _ hp.choice
  | seq parts =>
    match parts, hp with
    | [], hp => obtain ⟨p, hm, _⟩ := hp.inv; cases hm
    | [a], hp =>
      obtain ⟨p, hm, hpp⟩ := hp.inv
      have : p = a := by simpa using hm
      subst this
      exact h.expr _ _ _ hpp
    | a :: b :: rest, hp =>
      refine bindR_strict_l (evalSeq_inv hinv _ _ _ _) (evalSeq_prog hinv h _ _ _ _ hp.inv)
        (fun (_, acc) s' => ?_)
      dsimp only
      split
      · exact Inv.okSame _
      · exact Inv.panic _
  | group b => exact h.expr _ _ _ hp.inv
  | opt b => exact hp.inv.elim
  | closure b plus =>
    obtain ⟨rfl, hb⟩ := hp.closure
    show Strict L s (fun g => stepExpr env rec n ctx (.closure b true) s g)
    simp only [stepExpr]
    split
    · exact Strict.panic _
    · cases n with
      | zero => exact fun _ _ _ _ _ _ hx => nomatch hx
      | succ k =>
        -- the first iteration is a node: the body is strict and the rest of the loop moves forward; when it fails,
        -- `+` has seen no iteration and fails (`rfl` computes that answer)
        refine congr_pred (fun g => by rw [evalLoop_step, bindR_caseR]; rfl) (Strict.caseR (hinv.expr ctx b s)
          (fun r s1 => .inl ⟨h.expr _ _ _ hb, ?_⟩) fun e => Strict.err _)
        refine (Inv.closed L).bind (f := ?f) ?_ fun _ _ => ?_
        · split
          · exact evalLoop_inv (hinv.expr ctx b) _ _ _ _
          · exact Inv.panic _
        · exact ite_pred (Inv.err _) (Inv.okSame _)
  | neg b => exact hp.inv.elim
  | pos b => exact hp.inv.elim
  | incl r =>
    show Strict L s (fun g => stepExpr env rec n ctx (.incl r) s g)
    simp only [stepExpr]
    split
    · exact Strict.panic _
    · exact h.expr _ _ _ (hp.inv _ ‹_›)
  | field name boxed typ =>
    show Strict L s (fun g => stepExpr env rec n ctx (.field name boxed typ) s g)
    simp only [stepExpr]
    refine withSkipWs_strict hinv (fun s =>
      bindR_strict_l (hinv.rule typ s) (h.rule _ _ hp.inv) (fun v s' => ?_))
    cases name with
    | none => exact Inv.okSame _
    | some nm =>
      dsimp only
      split
      · exact Inv.okSame _
      · exact Inv.panic _

/-! ### rule level -/

theorem ruleBody_prog (hinv : RInv L rec) (h : ProgSound env L rec) (r : Rule) (s : St)
    (hp : ProgE env r.definition) : Strict L s (ruleBody env rec r s) := by
  show Strict L s (fun g => ruleBody env rec r s g)
  cases hf : getFields env.g env.nf r.definition with
  | ok fields =>
    simp only [ruleBody_eq hf]
    refine ite_pred (Strict.panic _) (bindR_strict_l (hinv.expr _ _ _) (h.expr _ _ _ hp) fun p s' => ?_)
    split
    · exact runChecks_inv _ _ _
    · exact Inv.panic _
  | err | fuel => simp only [ruleBody, hf]; exact Strict.panic _

theorem normalRule_prog (hinv : RInv L rec) (h : ProgSound env L rec) (n : Nat) (r : Rule) (s : St)
    (hl : r.flags.leftRecursive = false) (hm : r.flags.memoize = false)
    (hp : ProgE env r.definition) : Strict L s (normalRule env rec n r s) := by
  intro g v s' g' hs hc hx
  obtain ⟨g0, heq, _⟩ := normalRule_eq_some hx
  rw [memoBody_plain hl (by simp [hm])] at heq
  exact ruleBody_prog hinv h r s hp (g.emit (.traceStart r.name s.off)) _ _ _ hs (hc.of_cache rfl) heq

theorem charParts_prog (hinv : RInv L rec) (h : ProgSound env L rec) (name : String) :
    ∀ ps s, (∀ id, CharRulePart.ident id ∈ ps → ProgR env id) →
      Strict L s (charParts rec name ps s) := by
  intro ps
  induction ps with
  | nil => exact fun s _ => Strict.err _
  | cons p ps ih =>
    intro s hall
    refine congr_pred (charParts_step rec name p ps s) (Strict.caseR (And.left ?part)
      (fun v s' => .inl ⟨And.right ?part, Inv.okSame _⟩)
      fun _ => ih s fun id hid => hall id (List.mem_cons_of_mem _ hid))
    cases p with
    | chr item =>
      dsimp only
      split
      · exact ⟨Inv.pure fun hs => ((isMatcher_parseCharacterLiteral _).fwd hs).map _,
          Strict.map _ fun _ _ he =>
            ((isMatcher_parseCharacterLiteral _).off_lt_iff he).mpr (parseCharacterLiteral_len he)⟩
      · exact ⟨Inv.panic _, Strict.panic _⟩
    | range lo hi =>
      dsimp only
      split
      · exact ⟨Inv.pure fun hs => ((isMatcher_parseCharacterRange _ _).fwd hs).map _,
          Strict.map _ fun _ _ he =>
            ((isMatcher_parseCharacterRange _ _).off_lt_iff he).mpr (parseCharacterRange_len he)⟩
      · exact ⟨Inv.panic _, Strict.panic _⟩
    | ident id => exact ⟨hinv.rule id s, h.rule _ _ (hall id (List.mem_cons_self ..))⟩

theorem charRule_prog (hinv : RInv L rec) (h : ProgSound env L rec) (r : CharRule) (s : St)
    (hall : ∀ id, CharRulePart.ident id ∈ r.choices → ProgR env id) :
    Strict L s (charRule env rec r s) := by
  intro g v s' g' hs hc hx
  unfold charRule at hx
  split at hx
  · exact charParts_prog hinv h _ _ _ hall _ _ _ _ hs hc hx
  · split at hx
    · cases hx
    · rename_i c hcd
      split at hx
      · cases hx
      · rename_i g1 hcc
        have hg : g1.cache = g.cache := (charChecks_inv hcc).2.1
        exact charParts_prog hinv h _ _ _ hall _ _ _ _ hs (hc.of_cache hg) hx

theorem stepRule_prog (hinv : RInv L rec) (h : ProgSound env L rec) (n : Nat) (name : String) (s : St)
    (hp : ProgR env name) : Strict L s (stepRule env rec n name s) := by
  intro g v s' g' hs hc hx
  unfold stepRule at hx
  split at hx
  · rename_i r hf
    obtain ⟨hl, hm, hpe⟩ := hp.inv hf
    exact normalRule_prog hinv h n r s hl hm hpe _ _ _ _ hs hc hx
  · rename_i r hf
    exact charRule_prog hinv h r s (hp.inv hf) _ _ _ _ hs hc hx
  · rename_i r hf
    exact (hp.inv hf).elim
  · rename_i hf
    have hn := hp.inv hf
    subst hn
    simp only [beq_self_eq_true, if_true, Option.some.injEq, Prod.mk.injEq] at hx
    obtain ⟨v0, h0⟩ := map_ok hx.1
    exact (isMatcher_parseChar.off_lt_iff h0).mpr (parseChar_len h0)

end

theorem step_progSound {env : Env} {L : Nat} {rec : Rec} (hinv : LR.RInv L rec)
    (h : ProgSound env L rec) (n : Nat) : ProgSound env L (step env rec n) :=
  ⟨stepExpr_prog hinv h n, stepRule_prog hinv h n⟩

theorem eval_progSound (env : Env) (L : Nat) : ∀ n, ProgSound env L (eval env n) := by
  intro n
  induction n with
  | zero =>
    exact ⟨fun _ _ _ _ _ _ _ _ _ _ hx => by simp [eval] at hx,
      fun _ _ _ _ _ _ _ _ _ hx => by simp [eval] at hx⟩
  | succ n ih => exact step_progSound (LR.eval_inv env L n) ih n

end LRC
end Peg
