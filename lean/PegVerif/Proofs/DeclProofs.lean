import PegVerif.Compile
import PegVerif.Runtime
import PegVerif.Extracted.Tables
import PegVerif.Proofs.Arity
import PegVerif.Proofs.BuildProofs
/-
  Property C03 (the documented type mapping) and C16 (the declared types and their order are a
  function of the grammar AST, not of any traversal/insertion order).

  1. the tables extracted from the Rust sources on every run equal the tables of the model
     (these statements are the tie between the source and the model: if the source changes, they break)
  2. the keyword list covers the Rust reference
  3. the type mapping of `Compile.fieldTypeText` / `enumText` / `structText` / `ruleDecls`
  4. `insertType` / `combineTypes` build a canonical (sorted, duplicate-free) list that does not
     depend on the order of insertion
  5. declarations come out in rule order
-/
namespace Peg
open Compile

/-! ## 1. extracted tables = model -/

/-- reading of the Rust `Arity` variant names -/
def arityOfString : String → Option Arity
  | "One" => some .one
  | "Optional" => some .optional
  | "Multiple" => some .multiple
  | _ => none

/-- the Rust name of an arity -/
def Arity.rustName : Arity → String
  | .one => "One"
  | .optional => "Optional"
  | .multiple => "Multiple"

theorem arityOfString_rustName (a : Arity) : arityOfString a.rustName = some a := by
  cases a <;> rfl

def allArities : List Arity := [.one, .optional, .multiple]

theorem mem_allArities (a : Arity) : a ∈ allArities := by cases a <;> decide

/-- `combine_arities_for_choice` (choice.rs) has exactly nine arms, one for every pair of arities in
    lexicographic order, and every arm agrees with the model's `combineChoice` -/
theorem combineChoiceArms_eq :
    Extracted.combineChoiceArms.map (fun t => (arityOfString t.1, arityOfString t.2.1, arityOfString t.2.2)) =
      allArities.flatMap fun a => allArities.map fun b => (some a, some b, some (combineChoice a b)) := by
  decide +kernel

theorem combineChoiceArms_length : Extracted.combineChoiceArms.length = 9 := rfl

/-- the arms are a function (no pair occurs twice) -/
theorem combineChoiceArms_functional :
    (Extracted.combineChoiceArms.map fun t => (t.1, t.2.1)).Nodup := by decide +kernel

/-- `set_arity_to_optional` (optional.rs) -/
theorem toOptionalArms_eq :
    Extracted.toOptionalArms.map (fun t => (arityOfString t.1, arityOfString t.2)) =
      allArities.map fun a => (some a, some (toOptional a)) := by decide +kernel

theorem toOptionalArms_complete (a : Arity) :
    (a.rustName, (toOptional a).rustName) ∈ Extracted.toOptionalArms := by cases a <;> decide +kernel

/-- closure.rs sets every field of a closure body to `Multiple` (model: `getFields … (.closure …)`) -/
theorem closureArity_eq : Extracted.closureArity = "Multiple" := rfl
theorem closureArity_model : arityOfString Extracted.closureArity = some .multiple := rfl

/-- sequence.rs sets a field occurring twice in a sequence to `Multiple` (model: `seqMerge`) -/
theorem sequenceRepeatArity_eq : Extracted.sequenceRepeatArity = "Multiple" := rfl
theorem sequenceRepeatArity_model : arityOfString Extracted.sequenceRepeatArity = some .multiple := rfl

theorem getFields_closure_multiple {g : Grammar} {n : Nat} {b : Expr} {al : Bool} {fs : List FieldDesc}
    (h : getFields g (n+1) (.closure b al) = .ok fs) : ∀ f ∈ fs, f.arity = .multiple := by
  obtain ⟨fs', -, rfl⟩ := getFields_inv h
  exact closure_fields_multiple fs'

theorem safeIdentUsesKeywords : Extracted.safeIdentUsesKeywords = true := rfl

/-- `record_error` keeps the *newer* error on ties (`<=`), `is_further_than` is strict (`>`) -/
theorem recordErrorCmp_eq : Extracted.recordErrorCmp = "<=" := rfl
theorem isFurtherThanCmp_eq : Extracted.isFurtherThanCmp = ">" := rfl

/-- … and this is what the model does -/
theorem recordError_model (s : St) (f e : PErr) (h : s.far = some f) :
    (s.recordError e).far = if f.pos ≤ e.pos then some e else some f := by
  unfold St.recordError
  simp only [h]
  split <;> simp [h]

theorem isFurtherThan_model (s o : St) : s.isFurtherThan o = decide (s.off > o.off) := rfl

/-- the Rust names of the grammar's `SimpleEscape*` variants -/
def SimpleEsc.rustName : SimpleEsc → String
  | .newline => "SimpleEscapeNewline"
  | .cr => "SimpleEscapeCarriageReturn"
  | .tab => "SimpleEscapeTab"
  | .backslash => "SimpleEscapeBackslash"
  | .quote => "SimpleEscapeQuote"
  | .dquote => "SimpleEscapeDQuote"

/-- `From<&SimpleEscape> for char` (string.rs): six arms, in the order of the extraction (sorted by name) -/
theorem simpleEscapes_eq :
    Extracted.simpleEscapes =
      [SimpleEsc.backslash, .cr, .dquote, .newline, .quote, .tab].map fun e => (e.rustName, e.toChar.toNat) := by
  decide +kernel

theorem simpleEscapes_complete (e : SimpleEsc) : (e.rustName, e.toChar.toNat) ∈ Extracted.simpleEscapes := by
  rw [simpleEscapes_eq]
  cases e <;> simp

theorem simpleEscapes_length : Extracted.simpleEscapes.length = 6 := rfl

theorem simpleEscapes_values :
    SimpleEsc.newline.toChar.toNat = 10 ∧ SimpleEsc.cr.toChar.toNat = 13 ∧ SimpleEsc.tab.toChar.toNat = 9 ∧
    SimpleEsc.backslash.toChar.toNat = 92 ∧ SimpleEsc.quote.toChar.toNat = 39 ∧
    SimpleEsc.dquote.toChar.toNat = 34 := by decide

/-- the Rust name of a `ParseErrorSpecifics` variant -/
def Spec.rustName : Spec → String
  | .expectedAnyCharacter => "ExpectedAnyCharacter"
  | .expectedCharacter _ => "ExpectedCharacter"
  | .expectedCharacterRange _ _ => "ExpectedCharacterRange"
  | .expectedString _ => "ExpectedString"
  | .expectedCharacterClass _ => "ExpectedCharacterClass"
  | .expectedEoi => "ExpectedEoi"
  | .negativeLookaheadFailed => "NegativeLookaheadFailed"
  | .checkFunctionFailed _ => "CheckFunctionFailed"
  | .externRuleFailed _ => "ExternRuleFailed"
  | .leftRecursionSentinel => "LeftRecursionSentinel"
  | .other => "Other"

/-- `ParseErrorSpecifics` (runtime/src/error.rs) has exactly these eleven variants, in this order -/
theorem specificsCtors_eq :
    Extracted.specificsCtors =
      ["ExpectedAnyCharacter", "ExpectedCharacter", "ExpectedCharacterRange", "ExpectedString",
       "ExpectedCharacterClass", "ExpectedEoi", "NegativeLookaheadFailed", "CheckFunctionFailed",
       "ExternRuleFailed", "LeftRecursionSentinel", "Other"] := rfl

theorem specificsCtors_length : Extracted.specificsCtors.length = 11 := rfl

/-- … and they are the constructors of the model's `Spec`, in declaration order -/
theorem specificsCtors_model (s : Spec) : Extracted.specificsCtors[s.ctorIdx]? = some s.rustName := by
  cases s <;> rfl

theorem specificsCtors_onto : ∀ i, i < 11 → ∃ s : Spec, s.ctorIdx = i := by
  intro i hi
  match i, hi with
  | 0, _ => exact ⟨.expectedAnyCharacter, rfl⟩
  | 1, _ => exact ⟨.expectedCharacter 'a', rfl⟩
  | 2, _ => exact ⟨.expectedCharacterRange 'a' 'a', rfl⟩
  | 3, _ => exact ⟨.expectedString [], rfl⟩
  | 4, _ => exact ⟨.expectedCharacterClass "", rfl⟩
  | 5, _ => exact ⟨.expectedEoi, rfl⟩
  | 6, _ => exact ⟨.negativeLookaheadFailed, rfl⟩
  | 7, _ => exact ⟨.checkFunctionFailed "", rfl⟩
  | 8, _ => exact ⟨.externRuleFailed "", rfl⟩
  | 9, _ => exact ⟨.leftRecursionSentinel, rfl⟩
  | 10, _ => exact ⟨.other, rfl⟩
  | n+11, h => omega

theorem headerCrcAlgo_eq : Extracted.headerCrcAlgo = "CRC_32_ISO_HDLC" := rfl

/-- the three fixed line prefixes of the generated file's header -/
def headerLinePrefixes : List String :=
  ["// This file was generated by Peginator v", "// CRC-32/ISO-HDLC of the grammar file: ",
   "// Any changes to it will be lost on regeneration"]

/-- split a character list at newlines -/
def splitLines : List Char → List (List Char)
  | [] => [[]]
  | c :: cs =>
    match splitLines cs with
    | [] => [[]]
    | l :: ls => if c = '\n' then [] :: l :: ls else (c :: l) :: ls

/-- the template as a whole -/
theorem headerTemplate_eq :
    Extracted.headerTemplate =
      "// This file was generated by Peginator v{VERSION} built at {BUILD_TIME}\n" ++
      "// CRC-32/ISO-HDLC of the grammar file: {crc32:08x}\n" ++
      "// Any changes to it will be lost on regeneration\n" := by
  -- compared as lists of characters: a literal is `String.ofList` of its characters, which `rw` sees, whereas the
  -- kernel takes long over the strings themselves (it has to build their UTF-8 encoding)
  rw [← String.toList_inj, Extracted.headerTemplate]
  simp only [String.toList_append]
  repeat rw [String.toList_ofList]
  decide +kernel

/-- the header template consists of exactly three lines (each terminated by a newline), and they start
    with the three fixed prefixes, in order -/
theorem headerTemplate_lines :
    (splitLines Extracted.headerTemplate.toList).length = 4 ∧
    (splitLines Extracted.headerTemplate.toList)[3]? = some [] ∧
    (List.zipWith (fun p l => p.toList.isPrefixOf l) headerLinePrefixes
      (splitLines Extracted.headerTemplate.toList)) = [true, true, true] := by
  rw [← List.zipWith_map_left (g := fun (p l : List Char) => p.isPrefixOf l) (f := String.toList), headerTemplate_eq]
  simp only [headerLinePrefixes, List.map, String.toList_append]
  -- the literals as lists of characters, as in `headerTemplate_eq`
  repeat rw [String.toList_ofList]
  decide +kernel

/-! ## 2. the keyword list covers the Rust reference -/

/-- strict, reserved and weak keywords of the Rust reference (2018+ editions) that can be written as
    raw identifiers -/
def referenceKeywords : List String :=
  ["as", "break", "const", "continue", "else", "enum", "extern", "false", "fn", "for", "if", "impl", "in",
   "let", "loop", "match", "mod", "move", "mut", "pub", "ref", "return", "static", "struct", "trait", "true",
   "type", "unsafe", "use", "where", "while", "async", "await", "dyn", "abstract", "become", "box", "do",
   "final", "macro", "override", "priv", "typeof", "unsized", "virtual", "yield", "try"]

/-- the list of `safe_ident` is the reference list, in its order, with `self`, `Self`, `super` put in -/
theorem referenceKeywords_eq :
    referenceKeywords = Extracted.rustKeywords.filter fun k => !["self", "Self", "super"].contains k := by
  decide +kernel

/-- every keyword that can be a raw identifier is escaped by `safe_ident` -/
theorem keywords_cover_reference : ∀ k ∈ referenceKeywords, k ∈ Extracted.rustKeywords := by
  rw [referenceKeywords_eq]
  exact fun k hk => (List.mem_filter.mp hk).1

/-- `self`, `Self`, `super` are in the list too, but cannot be raw identifiers: `identOk` rejects them -/
theorem keywords_nonraw :
    (∀ k ∈ ["self", "Self", "super"], k ∈ Extracted.rustKeywords ∧ identOk k = false) := by decide +kernel

/-- `crate` is not in the list (`r#crate` is not legal either), and `identOk` lets it through: it may be a segment
    of a path; as the name of a rule, a field or a type it is refused by `nameErr` -/
theorem keywords_crate : "crate" ∉ Extracted.rustKeywords ∧ identOk "crate" = true := by decide +kernel

/-- the list is exactly the reference list plus the three non-raw ones -/
theorem keywords_exact :
    ∀ k ∈ Extracted.rustKeywords, k ∈ referenceKeywords ∨ k ∈ ["self", "Self", "super"] := by
  intro k hk
  rw [referenceKeywords_eq, List.mem_filter]
  by_cases h : ["self", "Self", "super"].contains k = true
  · exact .inr (List.contains_iff_mem.mp h)
  · exact .inl ⟨hk, by simpa using h⟩

/-- every keyword that passes `identOk` is written raw -/
theorem safeIdent_keyword {k : String} (h : k ∈ Extracted.rustKeywords) :
    safeIdent Extracted.rustKeywords k = "r#" ++ k := by
  unfold safeIdent
  rw [if_pos (List.contains_iff_mem.2 h)]

theorem safeIdent_nonkeyword {k : String} (h : k ∉ Extracted.rustKeywords) :
    safeIdent Extracted.rustKeywords k = k := by
  unfold safeIdent
  rw [if_neg fun hc => h (List.contains_iff_mem.1 hc)]

/-! ## 3. the type mapping -/

section mapping
variable (kws : List String)

/-- the element type of a field (the `let inner` of `fieldTypeText`) -/
def innerTypeText (parent : String) (f : FieldDesc) : String :=
  if f.types.length > 1 then parent ++ "_" ++ f.name
  else match f.types.head? with
    | some (t, boxed) =>
      let raw := if t == "char" then "char" else safeIdent kws t
      if boxed then "Box<" ++ raw ++ ">" else raw
    | none => "?"

theorem fieldTypeText_eq (parent : String) (f : FieldDesc) :
    fieldTypeText kws parent f =
      match f.arity with
      | .one => innerTypeText kws parent f
      | .optional => "Option<" ++ innerTypeText kws parent f ++ ">"
      | .multiple => "Vec<" ++ innerTypeText kws parent f ++ ">" := rfl

/-- `Box` appears exactly when the single type is marked boxed -/
theorem innerTypeText_single {parent : String} {f : FieldDesc} {t : String} {boxed : Bool}
    (h : f.types = [(t, boxed)]) :
    innerTypeText kws parent f =
      (if boxed then "Box<" ++ (if t == "char" then "char" else safeIdent kws t) ++ ">"
       else (if t == "char" then "char" else safeIdent kws t)) := by
  simp [innerTypeText, h]

/-- `char` stays `char` (never escaped, whatever the keyword list) -/
theorem innerTypeText_char {parent : String} {f : FieldDesc} (h : f.types = [("char", false)]) :
    innerTypeText kws parent f = "char" := by
  simp [innerTypeText_single kws h]

theorem innerTypeText_char_boxed {parent : String} {f : FieldDesc} (h : f.types = [("char", true)]) :
    innerTypeText kws parent f = "Box<char>" := by
  simp [innerTypeText_single kws h]

/-- more than one type: the generated enum `Parent_field` -/
theorem innerTypeText_enum {parent : String} {f : FieldDesc} (h : f.types.length > 1) :
    innerTypeText kws parent f = parent ++ "_" ++ f.name := by
  simp [innerTypeText, h]

/-- one variant of a generated enum -/
def variantText (tb : String × Bool) : String :=
  if tb.2 then safeIdent kws tb.1 ++ "(Box<" ++ safeIdent kws tb.1 ++ ">),"
  else safeIdent kws tb.1 ++ "(" ++ safeIdent kws tb.1 ++ "),"

theorem enumText_eq (st : Settings) (name : String) (f : FieldDesc) :
    enumText kws st name f =
      "#[allow(non_camel_case_types)]" ++ derivesText st ++ "pubenum" ++ safeIdent kws name ++ "{" ++
        String.join (f.types.map (variantText kws)) ++ "}" := by
  unfold enumText variantText
  congr 3

/-- one variant per type, in the (sorted) order of the type list -/
theorem enumText_variants_length (f : FieldDesc) : (f.types.map (variantText kws)).length = f.types.length :=
  List.length_map _

/-- `Box` around exactly the marked types -/
theorem variantText_boxed (t : String) :
    variantText kws (t, true) = safeIdent kws t ++ "(Box<" ++ safeIdent kws t ++ ">)," := rfl
theorem variantText_plain (t : String) :
    variantText kws (t, false) = safeIdent kws t ++ "(" ++ safeIdent kws t ++ ")," := rfl

/-- no fields and no `@position`: a unit struct -/
theorem structText_unit (st : Settings) (name : String) :
    structText kws st name [] false = derivesText st ++ "pubstruct" ++ safeIdent kws name ++ ";" := rfl

/-- one text per field of a struct -/
def fieldText (parent : String) (f : FieldDesc) : String :=
  "pub" ++ safeIdent kws f.name ++ ":" ++ fieldTypeText kws parent f ++ ","

/-- fields without `@position` -/
theorem structText_fields (st : Settings) (name : String) {fields : List FieldDesc} (h : fields ≠ []) :
    structText kws st name fields false =
      derivesText st ++ "pubstruct" ++ safeIdent kws name ++ "{" ++
        String.join (fields.map (fieldText kws name)) ++ "" ++ "}" := by
  cases fields with
  | nil => exact absurd rfl h
  | cons f fs => rfl

/-- `@position` adds the range field after the fields (also to an otherwise empty struct) -/
theorem structText_position (st : Settings) (name : String) (fields : List FieldDesc) :
    structText kws st name fields true =
      derivesText st ++ "pubstruct" ++ safeIdent kws name ++ "{" ++
        String.join (fields.map (fieldText kws name)) ++ "pubposition:std::ops::Range<usize>," ++ "}" := by
  unfold structText
  simp only [Bool.not_true, Bool.and_false, Bool.false_eq_true, if_false, if_true]
  rfl

/-- one struct member per field, in field order -/
theorem structText_members_length (name : String) (fields : List FieldDesc) :
    (fields.map (fieldText kws name)).length = fields.length := List.length_map _

variable (g : Grammar) (st : Settings) (fuel : Nat) (r : Rule)

/-- `@string` ↦ an alias of `String` -/
theorem ruleDecls_string {fields : List FieldDesc} (hf : getFields g fuel r.definition = .ok fields)
    (hs : r.flags.string = true) (hp : r.flags.position = false) :
    ruleDecls kws g st fuel r = ["pubtype" ++ safeIdent kws r.name ++ "=String;"] := by
  simp [ruleDecls, hf, hs, hp]

/-- `@string @position` ↦ a struct with `string` and `position` -/
theorem ruleDecls_string_position {fields : List FieldDesc} (hf : getFields g fuel r.definition = .ok fields)
    (hs : r.flags.string = true) (hp : r.flags.position = true) :
    ruleDecls kws g st fuel r =
      [derivesText st ++ "pubstruct" ++ safeIdent kws r.name ++
        "{pubstring:String,pubposition:std::ops::Range<usize>}"] := by
  simp [ruleDecls, hf, hs, hp]

/-- single-type override ↦ a type alias of the field's type -/
theorem ruleDecls_override_alias {f : FieldDesc} (hf : getFields g fuel r.definition = .ok [f])
    (hn : f.name = "_override") (hs : r.flags.string = false) (ht : f.types.length ≤ 1) :
    ruleDecls kws g st fuel r = ["pubtype" ++ safeIdent kws r.name ++ "=" ++ fieldTypeText kws r.name f ++ ";"] := by
  simp [ruleDecls, hf, hs, hn, ht]

/-- multi-type override ↦ an enum named after the rule -/
theorem ruleDecls_override_enum {f : FieldDesc} (hf : getFields g fuel r.definition = .ok [f])
    (hn : f.name = "_override") (hs : r.flags.string = false) (ht : f.types.length > 1) :
    ruleDecls kws g st fuel r = [enumText kws st r.name f] := by
  have : ¬ f.types.length ≤ 1 := by omega
  simp [ruleDecls, hf, hs, hn, this]

/-- everything else ↦ a struct followed by one enum `Rule_field` per multi-type field, in field order -/
theorem ruleDecls_struct {fields : List FieldDesc} (hf : getFields g fuel r.definition = .ok fields)
    (hs : r.flags.string = false)
    (hno : ¬ ((fields.length == 1 && fields.head?.map (·.name) == some "_override") = true)) :
    ruleDecls kws g st fuel r =
      structText kws st r.name fields r.flags.position ::
        (fields.filter (fun f => f.types.length > 1)).map
          (fun f => enumText kws st (r.name ++ "_" ++ f.name) f) := by
  simp only [ruleDecls, hf, hs, Bool.false_eq_true, if_false, if_neg hno]

/-- a rule the field analysis rejects declares nothing (and the grammar is rejected: C15) -/
theorem ruleDecls_err {m : String} (hf : getFields g fuel r.definition = .err m) :
    ruleDecls kws g st fuel r = [] := by
  simp [ruleDecls, hf]

/-- the enum declared for a multi-type field has the name the struct member refers to -/
theorem struct_enum_names_agree {f : FieldDesc} (h : f.types.length > 1) :
    innerTypeText kws r.name f = r.name ++ "_" ++ f.name ∧
    enumText kws st (r.name ++ "_" ++ f.name) f =
      "#[allow(non_camel_case_types)]" ++ derivesText st ++ "pubenum" ++
        safeIdent kws (r.name ++ "_" ++ f.name) ++ "{" ++ String.join (f.types.map (variantText kws)) ++ "}" :=
  ⟨innerTypeText_enum kws h, enumText_eq kws st _ f⟩

end mapping

/-! ## 4. order independence of the type sets (C16) -/

/-! ### `strLt` is a strict total order -/

theorem strLt_iff {a b : String} : strLt a b = true ↔ Build.str a < Build.str b := decide_eq_true_iff

/-- the form to evaluate: `ByteArray.toList` is a well-founded loop, which `decide` does not unfold and the kernel
    evaluates only at a high price (cf. `Build.str_eq`) -/
theorem strLt_eq (a b : String) :
    strLt a b = decide (a.toByteArray.data.toList < b.toByteArray.data.toList) := by
  rw [← Build.str_eq, ← Build.str_eq]
  rfl

theorem Build.str_inj {a b : String} (h : Build.str a = Build.str b) : a = b := by
  rw [Build.str_eq, Build.str_eq] at h
  exact String.toByteArray_inj.1 (ByteArray.ext (Array.toList_inj.1 h))

theorem strLt_irrefl (a : String) : ¬ strLt a a = true := fun h => List.lt_irrefl _ (strLt_iff.1 h)

theorem strLt_trans {a b c : String} (h1 : strLt a b = true) (h2 : strLt b c = true) : strLt a c = true :=
  strLt_iff.2 (List.lt_trans (strLt_iff.1 h1) (strLt_iff.1 h2))

theorem strLt_asymm {a b : String} (h : strLt a b = true) : ¬ strLt b a = true :=
  fun h2 => List.lt_asymm (strLt_iff.1 h) (strLt_iff.1 h2)

theorem strLt_trichotomy (a b : String) : strLt a b = true ∨ a = b ∨ strLt b a = true := by
  by_cases h1 : strLt a b = true
  · exact .inl h1
  by_cases h2 : strLt b a = true
  · exact .inr (.inr h2)
  rw [strLt_iff] at h1 h2
  exact .inr (.inl (Build.str_inj (List.le_antisymm (List.not_lt.1 h2) (List.not_lt.1 h1))))

theorem strLt_ne {a b : String} (h : strLt a b = true) : a ≠ b := by
  rintro rfl
  exact strLt_irrefl a h

theorem strLt_of_not {a b : String} (hne : a ≠ b) (h : ¬ strLt b a = true) : strLt a b = true := by
  rcases strLt_trichotomy a b with h1 | h1 | h1
  · exact h1
  · exact absurd h1 hne
  · exact absurd h1 h

example : strLt "A" "B" = true := by rw [strLt_eq]; decide
example : strLt "B" "A" = false := by rw [strLt_eq]; decide
example : strLt "A" "AB" = true := by rw [strLt_eq]; decide
example : strLt "Z" "a" = true := by rw [strLt_eq]; decide
/-- byte order, not code point count: 'é' (C3 A9) sorts after 'z' (7A) -/
example : strLt "z" "é" = true := by rw [strLt_eq]; decide

/-! ### sorted, duplicate-free type lists -/

/-- `BTreeMap` iteration order: strictly increasing keys (hence duplicate-free) -/
def SortedKeys (l : List (String × Bool)) : Prop := l.Pairwise (fun a b => strLt a.1 b.1 = true)

theorem SortedKeys.nil : SortedKeys [] := List.Pairwise.nil

theorem SortedKeys.singleton (kv : String × Bool) : SortedKeys [kv] := List.pairwise_singleton _ _

theorem sortedKeys_cons {kv : String × Bool} {l : List (String × Bool)} :
    SortedKeys (kv :: l) ↔ (∀ x ∈ keys l, strLt kv.1 x = true) ∧ SortedKeys l := by
  unfold SortedKeys keys
  rw [List.pairwise_cons]
  constructor
  · rintro ⟨h1, h2⟩
    refine ⟨fun x hx => ?_, h2⟩
    obtain ⟨a, ha, rfl⟩ := List.mem_map.1 hx
    exact h1 a ha
  · rintro ⟨h1, h2⟩
    exact ⟨fun a ha => h1 _ (List.mem_map.2 ⟨a, ha, rfl⟩), h2⟩

theorem SortedKeys.nodup {l : List (String × Bool)} (h : SortedKeys l) : (keys l).Nodup :=
  List.pairwise_map.mpr (h.imp fun hab => strLt_ne hab)

theorem insertType_sorted {l : List (String × Bool)} (hs : SortedKeys l) (kv : String × Bool) :
    SortedKeys (insertType l kv) := by
  obtain ⟨k', b'⟩ := kv
  induction l with
  | nil => exact SortedKeys.singleton _
  | cons hd rest ih =>
    obtain ⟨k, b⟩ := hd
    obtain ⟨h1, h2⟩ := sortedKeys_cons.1 hs
    simp only [insertType]
    split
    · exact sortedKeys_cons.2 ⟨h1, h2⟩
    · rename_i hk
      have hk : k ≠ k' := by simpa using hk
      split
      · rename_i hlt
        refine sortedKeys_cons.2 ⟨?_, hs⟩
        intro x hx
        simp only [keys, List.map_cons, List.mem_cons] at hx
        rcases hx with rfl | hx
        · exact hlt
        · exact strLt_trans hlt (h1 x hx)
      · rename_i hlt
        refine sortedKeys_cons.2 ⟨?_, ih h2⟩
        intro x hx
        rcases (keys_insertType rest (k', b') x).1 hx with hx | hx
        · exact h1 x hx
        · subst hx
          exact strLt_of_not hk hlt

theorem combineTypes_sorted {l : List (String × Bool)} (hs : SortedKeys l) (r : List (String × Bool)) :
    SortedKeys (combineTypes l r) := by
  unfold combineTypes
  induction r generalizing l with
  | nil => exact hs
  | cons kv r ih => exact ih (insertType_sorted hs kv)

theorem SortedKeys.inj {l : List (String × Bool)} (hs : SortedKeys l) {x y : String × Bool} (hx : x ∈ l) (hy : y ∈ l) :
    x.1 = y.1 → x = y :=
  List.Pairwise.forall_of_forall_of_flip (R := fun a b => a.1 = b.1 → a = b) (fun _ _ _ => rfl)
    (hs.imp fun h e => absurd e (strLt_ne h)) (hs.imp fun h e => absurd e.symm (strLt_ne h)) hx hy

theorem boxedFlag_of_mem {l : List (String × Bool)} (hs : SortedKeys l) {k : String} {b : Bool}
    (h : (k, b) ∈ l) : boxedFlag l k = b := by
  rw [Bool.eq_iff_iff, boxedFlag_iff]
  constructor
  · rintro ⟨t, ht, e, hb⟩
    cases hs.inj ht h e
    exact hb
  · exact fun hb => ⟨_, h, rfl, hb⟩

theorem mem_iff_of_sorted {l : List (String × Bool)} (hs : SortedKeys l) (kv : String × Bool) :
    kv ∈ l ↔ kv.1 ∈ keys l ∧ boxedFlag l kv.1 = kv.2 := by
  constructor
  · exact fun h => ⟨List.mem_map_of_mem h, boxedFlag_of_mem hs h⟩
  · rintro ⟨hk, hb⟩
    obtain ⟨⟨k, b⟩, hm, rfl⟩ := List.mem_map.1 hk
    rw [boxedFlag_of_mem hs hm] at hb
    subst hb; exact hm

/-- **canonicity**: a sorted duplicate-free list is determined by its key set and the flag of every key -/
theorem sorted_ext {l₁ l₂ : List (String × Bool)} (h₁ : SortedKeys l₁) (h₂ : SortedKeys l₂)
    (hk : ∀ x, x ∈ keys l₁ ↔ x ∈ keys l₂) (hb : ∀ x, boxedFlag l₁ x = boxedFlag l₂ x) : l₁ = l₂ := by
  have nd {l : List (String × Bool)} (h : SortedKeys l) : l.Nodup :=
    List.Pairwise.imp (fun h e => strLt_ne h (congrArg Prod.fst e)) h
  refine List.Perm.eq_of_pairwise (le := fun a b : String × Bool => strLt a.1 b.1 = true)
    (fun a b _ _ hab hba => absurd hba (strLt_asymm hab)) h₁ h₂
    ((List.perm_ext_iff_of_nodup (nd h₁) (nd h₂)).2 fun kv => ?_)
  rw [mem_iff_of_sorted h₁, mem_iff_of_sorted h₂, hk, hb]

/-- **order independence** (C16): the combined type set does not depend on the order in which the
    types are inserted -/
theorem combineTypes_perm {l r r' : List (String × Bool)} (hs : SortedKeys l) (hp : r.Perm r') :
    combineTypes l r = combineTypes l r' := by
  apply sorted_ext (combineTypes_sorted hs r) (combineTypes_sorted hs r')
  · intro x
    rw [keys_combineTypes, keys_combineTypes]
    unfold keys
    rw [(hp.map _).mem_iff]
  · intro x
    rw [boxedFlag_combineTypes, boxedFlag_combineTypes]
    unfold boxedFlag
    rw [hp.any_eq]

/-- the same for the fold that `combineTypes` abbreviates -/
theorem foldl_insertType_perm {l r r' : List (String × Bool)} (hs : SortedKeys l) (hp : r.Perm r') :
    r.foldl insertType l = r'.foldl insertType l := combineTypes_perm hs hp

theorem combineTypes_append (l a b : List (String × Bool)) :
    combineTypes (combineTypes l a) b = combineTypes l (a ++ b) := by
  unfold combineTypes
  rw [List.foldl_append]

theorem combineTypes_comm_right {l : List (String × Bool)} (hs : SortedKeys l) (a b : List (String × Bool)) :
    combineTypes (combineTypes l a) b = combineTypes (combineTypes l b) a := by
  rw [combineTypes_append, combineTypes_append]
  exact combineTypes_perm hs List.perm_append_comm

/-- the two operands can be swapped when both are sorted (merging arm 1 into arm 2 or arm 2 into arm 1) -/
theorem combineTypes_comm {a b : List (String × Bool)} (ha : SortedKeys a) (hb : SortedKeys b) :
    combineTypes a b = combineTypes b a := by
  apply sorted_ext (combineTypes_sorted ha b) (combineTypes_sorted hb a)
  · intro x; rw [keys_combineTypes, keys_combineTypes]; exact Or.comm
  · intro x; rw [boxedFlag_combineTypes, boxedFlag_combineTypes, Bool.or_comm]

theorem combineTypes_idem {a : List (String × Bool)} (ha : SortedKeys a) : combineTypes a a = a := by
  apply sorted_ext (combineTypes_sorted ha a) ha
  · intro x; rw [keys_combineTypes]; exact or_self_iff
  · intro x; rw [boxedFlag_combineTypes, Bool.or_self]

/-- starting from the empty map, the result is the canonical form of `r` whatever its order -/
theorem combineTypes_nil_perm {r r' : List (String × Bool)} (hp : r.Perm r') :
    combineTypes [] r = combineTypes [] r' := combineTypes_perm SortedKeys.nil hp

theorem strLt_A_B : strLt "A" "B" = true := by rw [strLt_eq]; decide
theorem strLt_B_A : strLt "B" "A" = false := by rw [strLt_eq]; decide
/-- concrete instance: `B*`, `A`, `B` in any order gives `[A, B*]` -/
example : combineTypes [] [("B", true), ("A", false), ("B", false)] = [("A", false), ("B", true)] := by
  simp [combineTypes, insertType, strLt_A_B, strLt_B_A]
example : combineTypes [] [("B", false), ("B", true), ("A", false)] = [("A", false), ("B", true)] := by
  simp [combineTypes, insertType, strLt_A_B]

/-! ### every type list produced by `getFields` is canonical -/

def TypesSorted (fs : List FieldDesc) : Prop := ∀ f ∈ fs, SortedKeys f.types

/-- **C16 for the field analysis**: every type list the generator computes is in canonical
    (sorted, duplicate-free) form – the `BTreeMap` iteration order of the real generator – so the enum
    variants and their order are a function of the set of types, not of the order of occurrence -/
theorem getFields_types_sorted {g : Grammar} {n : Nat} {e : Expr} {fs : List FieldDesc}
    (h : getFields g n e = .ok fs) : TypesSorted fs :=
  getFields_forall (Q := fun f => SortedKeys f.types)
    ⟨fun _ _ _ h => h, fun _ ts _ _ h => combineTypes_sorted h ts⟩ (fun _ _ _ => SortedKeys.singleton _) h

/-- the variants of every generated enum are in strictly increasing byte order of their type names,
    without duplicates -/
theorem getFields_types_nodup {g : Grammar} {n : Nat} {e : Expr} {fs : List FieldDesc}
    (h : getFields g n e = .ok fs) : ∀ f ∈ fs, (keys f.types).Nodup :=
  fun f hf => (getFields_types_sorted h f hf).nodup

/-! ## 5. declarations come out in rule order -/

/-- the declarations of one entry -/
def entryDecls (kws : List String) (g : Grammar) (st : Settings) (fuel : Nat) : RuleEntry → List String
  | .rule r => ruleDecls kws g st fuel r
  | .charRule r => ["pubtype" ++ safeIdent kws r.name ++ "=char;"]
  | .externRule r =>
    ["pubtype" ++ safeIdent kws r.name ++ "=" ++
      (match r.returnType with
       | some p => "::".intercalate (p.map (safeIdent kws))
       | none => "String") ++ ";"]

theorem decls_eq (kws : List String) (g : Grammar) (st : Settings) (fuel : Nat) :
    decls kws g st fuel = g.rules.flatMap (entryDecls kws g st fuel) := by
  unfold decls
  congr 1

/-- the declarations of the entries come in grammar order: everything declared for the entries before `e`
    precedes what is declared for `e`, everything declared for the entries after it follows -/
theorem decls_rule_order' (kws : List String) (g : Grammar) (st : Settings) (fuel : Nat)
    (rs₁ rs₂ : List RuleEntry) (e : RuleEntry) (h : g.rules = rs₁ ++ e :: rs₂) :
    decls kws g st fuel =
      rs₁.flatMap (entryDecls kws g st fuel) ++ entryDecls kws g st fuel e ++
        rs₂.flatMap (entryDecls kws g st fuel) := by
  rw [decls_eq, h, List.flatMap_append, List.flatMap_cons, List.append_assoc]

theorem decls_length (kws : List String) (g : Grammar) (st : Settings) (fuel : Nat) :
    (decls kws g st fuel).length = (g.rules.map fun e => (entryDecls kws g st fuel e).length).sum := by
  rw [decls_eq, List.length_flatMap]

/-- `@char` and `@extern` entries declare exactly one alias each -/
theorem entryDecls_char_length (kws : List String) (g : Grammar) (st : Settings) (fuel : Nat) (r : CharRule) :
    (entryDecls kws g st fuel (.charRule r)).length = 1 := rfl
theorem entryDecls_extern_length (kws : List String) (g : Grammar) (st : Settings) (fuel : Nat) (r : ExternRule) :
    (entryDecls kws g st fuel (.externRule r)).length = 1 := rfl

/-- the declarations are a function of the AST alone (no ambient state): trivially, `decls` is a
    closed Lean function; what matters is that the *model* is tied to the generator by `gendiff` -/
theorem decls_deterministic (kws : List String) (g g' : Grammar) (st : Settings) (fuel : Nat) (h : g = g') :
    decls kws g st fuel = decls kws g' st fuel := by rw [h]

end Peg
