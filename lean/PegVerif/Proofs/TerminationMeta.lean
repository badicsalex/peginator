import PegVerif.Proofs.ImplBridge
import PegVerif.Proofs.FrontEndConf
import PegVerif.Proofs.MetaChecks
/-
  The front end answers on every text: `C01_terminates_impl` (ImplBridge.lean) at `FrontEnd.metaEnv` – the extracted
  grammar-of-grammars is well-formed (MetaChecks.lean), the other hypotheses are in FrontEndConf.lean –, and
  `FrontEnd.parse` says "out of fuel" only where the evaluator has no answer.
-/
namespace Peg

theorem panic_ne_out_of_fuel (m : String) : "panic: " ++ m ≠ "out of fuel" := by
  intro h
  have h1 := congrArg String.toList h
  simp [String.toList_append] at h1

/-- "out of fuel" is the evaluator's `none` and nothing else -/
theorem FrontEnd.parse_ne_fuel {n : Nat} {text : List UInt8} {p : Res Val × Global}
    (h : parseAdvanced FrontEnd.metaEnv n "Grammar" text 0 = some p) : FrontEnd.parse n text ≠ .other "out of fuel" := by
  obtain ⟨r, gl⟩ := p
  unfold FrontEnd.parse
  rw [h]
  cases r with
  | ok v s =>
    simp only
    cases FrontEnd.toGrammar n v
    · intro hc; injection hc with hc; exact absurd hc (by decide)
    · intro hc; cases hc
  | err e => intro hc; cases hc
  | panic m => intro hc; injection hc with hc; exact panic_ne_out_of_fuel m hc

/-- **The front end terminates on every text**: for every large enough fuel `Grammar::from_str`
    (the implementation model run on the grammar-of-grammars) does not run out of fuel. -/
theorem frontEnd_terminates_stable (text : List UInt8) :
    ∃ n0, ∀ n, n0 ≤ n → FrontEnd.parse n text ≠ .other "out of fuel" := by
  obtain ⟨n0, r', g', h, _⟩ :=
    C01_terminates_impl FrontEnd.metaEnv metaEnv_pure metaGrammar_noLeftrec metaGrammar_wf "Grammar" text 0
  exact ⟨n0, fun n hle => FrontEnd.parse_ne_fuel ((eval_mono FrontEnd.metaEnv hle).rule _ _ _ _ h)⟩

theorem frontEnd_terminates : ∀ text, ∃ n, FrontEnd.parse n text ≠ .other "out of fuel" := by
  intro text
  obtain ⟨n0, h⟩ := frontEnd_terminates_stable text
  exact ⟨n0, h n0 (Nat.le_refl _)⟩

end Peg
