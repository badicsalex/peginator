import PegVerif.Eval
import PegVerif.Spec
import PegVerif.Proofs.EvalMono
import PegVerif.Proofs.SpecMono
import PegVerif.Proofs.MapRules
import PegVerif.Proofs.Complete
import PegVerif.Proofs.Arity
import PegVerif.Proofs.SpecLemmas
/-
  C13 – `>Rule` behaves exactly like writing the rule's body (parenthesised) in place; the
  directives of the included rule have no effect at the include site.

  1. One step: an include is, by definition of the model, the group around the included rule's
     *definition*, evaluated in the includer's context; nothing else of the included rule
     (directives, flags, checks, name) is consulted.
  2. Textual inlining: `inlineE g k e` (every include of a defined rule replaced by the
     parenthesised, recursively inlined body; `k` = depth fuel as in `getFields`) and
     `Grammar.inlineAll g k` (`Env.inlined env k`).
     The proofs go through a *relation*: `Inl g e e'` ("`e'` is `e` with any number of include
     sites – at any depth, also inside bodies already pasted in – replaced by the parenthesised
     body"; it is the congruence generated by `Inl.site : Inl g (>name) (definition)`) and a
     grammar `g.mapDefs φ` with `Inl g r.definition (φ r)` for every rule (every normal rule's
     definition replaced by an `Inl`-related one; names, directives, entry kinds, `@char` /
     `@extern` entries unchanged).  `inlineE` / `inlineAll` are instances; so are one level, one
     rule, one site, and the grammar itself (`φ r = r.definition`, `Inl.refl`).
     Because an include hop and a group both cost exactly one unit of every fuel in the model
     (`getFields`, `Spec.eval`, `eval`), everything holds *at equal fuel, as an equation*: (a) the
     field analysis, (b) the reference semantics, (c) the implementation model – result, *error
     payload*, furthest-error bookkeeping, cache, log, user context.  For (b) and (c) the equation is
     between evaluators (`eval_inl`): `g.mapDefs φ` and `g` have the same one, on every expression and
     rule, and it does not tell `Inl`-related expressions apart (`RespInl`; the two halves are proved
     in one induction on the fuel, each step of the first using the second at the include sites).
     No acyclicity, purity, `@leftrec`/`@memoize` or field-analysis hypothesis is needed for (a)–(c):
     on an include cycle both sides run out of fuel together, and where `getFields` fails it fails
     identically on both sides (`env'.nf = env.nf`).
  3. Acyclicity is needed only for "the result contains no include any more".  Formulation chosen:
     *`getFields` succeeds* (the generator's own field analysis follows the include chain with the
     same fuel discipline; `.fuel` for every fuel = include cycle, `Err` = missing rule).
-/
namespace Peg

/-! ## 1. one-step facts -/

/-- an include *is* the group around the included rule's definition (reference semantics) -/
theorem Spec.stepExpr_incl (env : Env) (rec : Spec.SRec) (n : Nat) (ctx : Ctx) (name : String) (rule : Rule)
    (s : St) (h : env.g.findRule name = some rule) :
    Spec.stepExpr env rec n ctx (.incl name) s = Spec.stepExpr env rec n ctx (.group rule.definition) s := by
  simp only [Spec.stepExpr, h]

/-- the same for the field analysis: the include contributes the fields of the definition -/
theorem getFields_incl (g : Grammar) (n : Nat) (name : String) (rule : Rule)
    (h : g.findRule name = some rule) :
    getFields g (n + 1) (.incl name) = getFields g (n + 1) (.group rule.definition) := by
  simp only [getFields, h]

/-- the right-hand sides spelled out: only `rule.definition` occurs, evaluated in the *includer's*
    context `ctx` (its whitespace flag and rule-level fields) -/
theorem stepExpr_incl_def (env : Env) (rec : Rec) (n : Nat) (ctx : Ctx) (name : String) (rule : Rule)
    (s : St) (g : Global) (h : env.g.findRule name = some rule) :
    stepExpr env rec n ctx (.incl name) s g = rec.expr ctx rule.definition s g := by
  simp only [stepExpr, h]

theorem Spec.stepExpr_incl_def (env : Env) (rec : Spec.SRec) (n : Nat) (ctx : Ctx) (name : String)
    (rule : Rule) (s : St) (h : env.g.findRule name = some rule) :
    Spec.stepExpr env rec n ctx (.incl name) s = rec.expr ctx rule.definition s := by
  simp only [Spec.stepExpr, h]

theorem getFields_incl_def (g : Grammar) (n : Nat) (name : String) (rule : Rule)
    (h : g.findRule name = some rule) :
    getFields g (n + 1) (.incl name) = getFields g n rule.definition := by
  simp only [getFields, h]

/-- **The directives of the included rule have no effect at the include site.**  Two environments
    (any settings, hooks, grammars) in which `name` resolves to rules with the same definition –
    whatever their directives – evaluate `>name` identically. -/
theorem stepExpr_incl_directives (env env₂ : Env) (rec : Rec) (n n₂ : Nat) (ctx : Ctx) (name : String)
    (rule rule₂ : Rule) (s : St) (g : Global)
    (h : env.g.findRule name = some rule) (h₂ : env₂.g.findRule name = some rule₂)
    (hd : rule₂.definition = rule.definition) :
    stepExpr env₂ rec n₂ ctx (.incl name) s g = stepExpr env rec n ctx (.incl name) s g := by
  simp only [stepExpr, h, h₂, hd]

theorem Spec.stepExpr_incl_directives (env env₂ : Env) (rec : Spec.SRec) (n n₂ : Nat) (ctx : Ctx)
    (name : String) (rule rule₂ : Rule) (s : St)
    (h : env.g.findRule name = some rule) (h₂ : env₂.g.findRule name = some rule₂)
    (hd : rule₂.definition = rule.definition) :
    Spec.stepExpr env₂ rec n₂ ctx (.incl name) s = Spec.stepExpr env rec n ctx (.incl name) s := by
  simp only [Spec.stepExpr, h, h₂, hd]

/-- in particular: replacing the directive list of the included rule changes nothing -/
theorem stepExpr_incl_setDirectives (env : Env) (rec : Rec) (n : Nat) (ctx : Ctx) (name : String)
    (rule : Rule) (ds : List Directive) (g₂ : Grammar) (s : St) (g : Global)
    (h : env.g.findRule name = some rule)
    (h₂ : g₂.findRule name = some { rule with directives := ds }) :
    stepExpr { env with g := g₂ } rec n ctx (.incl name) s g = stepExpr env rec n ctx (.incl name) s g :=
  stepExpr_incl_directives env { env with g := g₂ } rec n n ctx name rule _ s g h h₂ rfl

/-! ## 2. textual inlining -/

/-- `inlineE g k e`: every `>name` with `name` a defined normal rule replaced by the parenthesised,
    recursively inlined definition.  `k` is depth fuel: one unit per AST level or include hop
    (exactly the fuel discipline of `getFields`); at `k = 0` the expression is left alone.
    Includes of missing rules stay. -/
def inlineE (g : Grammar) : Nat → Expr → Expr
  | 0, e => e
  | k+1, e =>
    match e with
    | .choice alts => .choice (alts.map (inlineE g k))
    | .seq parts => .seq (parts.map (inlineE g k))
    | .group b => .group (inlineE g k b)
    | .opt b => .opt (inlineE g k b)
    | .closure b p => .closure (inlineE g k b) p
    | .neg b => .neg (inlineE g k b)
    | .pos b => .pos (inlineE g k b)
    | .range lo hi => .range lo hi
    | .lit i b => .lit i b
    | .eoi => .eoi
    | .incl name =>
      match g.findRule name with
      | none => .incl name
      | some rule => .group (inlineE g k rule.definition)
    | .field nm b t => .field nm b t

/-- replace the definition of a normal rule by `φ rule`; other entries untouched -/
def RuleEntry.mapDef (φ : Rule → Expr) : RuleEntry → RuleEntry
  | .rule r => .rule { r with definition := φ r }
  | e => e

/-- every normal rule's definition replaced by `φ rule`; names, directives, `@char` / `@extern`
    entries and the order of the entries unchanged -/
def Grammar.mapDefs (g : Grammar) (φ : Rule → Expr) : Grammar :=
  { rules := g.rules.map (RuleEntry.mapDef φ) }

/-- every normal rule's definition inlined (names, directives, other entries unchanged) -/
def Grammar.inlineAll (g : Grammar) (k : Nat) : Grammar :=
  g.mapDefs fun r => inlineE g k r.definition

/-- `e'` is `e` with any number of include sites replaced by the parenthesised (again related) body.
    The lists of a choice / sequence are given as a list of (old, new) pairs – a first-order way of
    saying "pointwise related lists of equal length". -/
inductive Inl (g : Grammar) : Expr → Expr → Prop
  | choice (ps : List (Expr × Expr)) :
      (∀ p, p ∈ ps → Inl g p.1 p.2) → Inl g (.choice (ps.map Prod.fst)) (.choice (ps.map Prod.snd))
  | seq (ps : List (Expr × Expr)) :
      (∀ p, p ∈ ps → Inl g p.1 p.2) → Inl g (.seq (ps.map Prod.fst)) (.seq (ps.map Prod.snd))
  | group {b b' : Expr} : Inl g b b' → Inl g (.group b) (.group b')
  | opt {b b' : Expr} : Inl g b b' → Inl g (.opt b) (.opt b')
  | closure {b b' : Expr} (p : Bool) : Inl g b b' → Inl g (.closure b p) (.closure b' p)
  | neg {b b' : Expr} : Inl g b b' → Inl g (.neg b) (.neg b')
  | pos {b b' : Expr} : Inl g b b' → Inl g (.pos b) (.pos b')
  | range (lo hi : StringItem) : Inl g (.range lo hi) (.range lo hi)
  | lit (i : Bool) (b : List StringItem) : Inl g (.lit i b) (.lit i b)
  | eoi : Inl g .eoi .eoi
  | field (nm : Option FieldName) (b : Bool) (t : String) : Inl g (.field nm b t) (.field nm b t)
  | inclKeep (name : String) : Inl g (.incl name) (.incl name)
  | inclInline {name : String} {rule : Rule} {b' : Expr} :
      g.findRule name = some rule → Inl g rule.definition b' → Inl g (.incl name) (.group b')

/-- list-shaped congruence rules (handy for building `Inl` proofs of concrete terms / contexts) -/
theorem Inl.choice_cons {g : Grammar} {a a' : Expr} {as as' : List Expr} (h : Inl g a a')
    (ht : Inl g (.choice as) (.choice as')) : Inl g (.choice (a :: as)) (.choice (a' :: as')) := by
  cases ht with
  | choice ps hps =>
    exact Inl.choice ((a, a') :: ps) (by
      intro p hp
      cases hp with
      | head => exact h
      | tail _ hp' => exact hps p hp')

theorem Inl.seq_cons {g : Grammar} {a a' : Expr} {as as' : List Expr} (h : Inl g a a')
    (ht : Inl g (.seq as) (.seq as')) : Inl g (.seq (a :: as)) (.seq (a' :: as')) := by
  cases ht with
  | seq ps hps =>
    exact Inl.seq ((a, a') :: ps) (by
      intro p hp
      cases hp with
      | head => exact h
      | tail _ hp' => exact hps p hp')

/-- the alternatives transformed by a function -/
theorem Inl.choice_map {g : Grammar} (f : Expr → Expr) :
    ∀ {as : List Expr}, (∀ a, a ∈ as → Inl g a (f a)) → Inl g (.choice as) (.choice (as.map f))
  | [], _ => .choice [] fun _ h => nomatch h
  | a :: _, h => .choice_cons (h a (List.mem_cons_self ..)) (choice_map f fun x hx => h x (List.mem_cons_of_mem _ hx))

/-- the parts transformed by a function -/
theorem Inl.seq_map {g : Grammar} (f : Expr → Expr) :
    ∀ {as : List Expr}, (∀ a, a ∈ as → Inl g a (f a)) → Inl g (.seq as) (.seq (as.map f))
  | [], _ => .seq [] fun _ h => nomatch h
  | a :: _, h => .seq_cons (h a (List.mem_cons_self ..)) (seq_map f fun x hx => h x (List.mem_cons_of_mem _ hx))

/-- nothing replaced -/
theorem Inl.refl (g : Grammar) : ∀ e : Expr, Inl g e e
  | .choice as => by
    have := Inl.choice_map (g := g) (as := as) (fun a => a) (fun a _ => Inl.refl g a)
    rwa [List.map_id'] at this
  | .seq ps => by
    have := Inl.seq_map (g := g) (as := ps) (fun a => a) (fun a _ => Inl.refl g a)
    rwa [List.map_id'] at this
  | .group b => .group (Inl.refl g b)
  | .opt b => .opt (Inl.refl g b)
  | .closure b p => .closure p (Inl.refl g b)
  | .neg b => .neg (Inl.refl g b)
  | .pos b => .pos (Inl.refl g b)
  | .range lo hi => .range lo hi
  | .lit i b => .lit i b
  | .eoi => .eoi
  | .incl name => .inclKeep name
  | .field nm b t => .field nm b t
termination_by e => sizeOf e
decreasing_by
  all_goals simp_wf
  all_goals first
    | omega
    | (rename_i h; have := List.sizeOf_lt_of_mem h; omega)

/-- a single replaced site, at the root: `>name ↦ (definition)` -/
theorem Inl.site (g : Grammar) {name : String} {rule : Rule} (h : g.findRule name = some rule) :
    Inl g (.incl name) (.group rule.definition) :=
  .inclInline h (Inl.refl g _)

/-! ### `inlineE` is an instance; the lookups in `g.mapDefs φ` -/

theorem inl_inlineE (g : Grammar) : ∀ k e, Inl g e (inlineE g k e) := by
  intro k
  induction k with
  | zero => intro e; simp only [inlineE]; exact Inl.refl g e
  | succ k ih =>
    intro e
    cases e with
    | choice as => simp only [inlineE]; exact .choice_map _ (fun a _ => ih a)
    | seq ps => simp only [inlineE]; exact .seq_map _ (fun a _ => ih a)
    | group b => simp only [inlineE]; exact .group (ih b)
    | opt b => simp only [inlineE]; exact .opt (ih b)
    | closure b p => simp only [inlineE]; exact .closure p (ih b)
    | neg b => simp only [inlineE]; exact .neg (ih b)
    | pos b => simp only [inlineE]; exact .pos (ih b)
    | range lo hi => simp only [inlineE]; exact .range lo hi
    | lit i b => simp only [inlineE]; exact .lit i b
    | eoi => simp only [inlineE]; exact .eoi
    | incl name =>
      simp only [inlineE]
      cases h : g.findRule name with
      | none => exact .inclKeep name
      | some rule => exact .inclInline h (ih _)
    | field nm b t => simp only [inlineE]; exact .field nm b t

/-- `g.mapDefs φ` unfolds to the rule-wise edit `g.mapRules fun r => { r with definition := φ r }` -/
theorem Grammar.find_mapDefs (g : Grammar) (φ : Rule → Expr) (name : String) :
    (g.mapDefs φ).find name = (g.find name).map (RuleEntry.mapRule fun r => { r with definition := φ r }) :=
  Grammar.find_mapRules (f := fun r => { r with definition := φ r }) (fun _ => rfl) g name

theorem Grammar.findRule_mapDefs (g : Grammar) (φ : Rule → Expr) (name : String) :
    (g.mapDefs φ).findRule name = (g.findRule name).map (fun r => { r with definition := φ r }) :=
  Grammar.findRule_map (fun r => { r with definition := φ r }) (fun _ => rfl) g name

/-! ### (a) the field analysis -/

private theorem mapMCR_pairs {α β γ} (F : α → CR γ) (F' : β → CR γ) (ps : List (α × β))
    (h : ∀ p, p ∈ ps → F' p.2 = F p.1) : mapMCR F' (ps.map Prod.snd) = mapMCR F (ps.map Prod.fst) := by
  rw [mapMCR_map, mapMCR_map, mapMCR_ext h]

/-- **(a)** the generator computes the same field descriptors (hence the same public types, the same
    `Err`, or the same fuel exhaustion) for the inlined expression in the inlined grammar – at
    every fuel -/
theorem getFields_inl {g : Grammar} {φ : Rule → Expr} (hφ : ∀ r, Inl g r.definition (φ r)) :
    ∀ n e e', Inl g e e' → getFields (g.mapDefs φ) n e' = getFields g n e := by
  intro n
  induction n with
  | zero => intro e e' _; simp only [getFields]
  | succ n ih =>
    intro e e' hI
    cases hI with
    | choice ps h => simp only [getFields]; rw [mapMCR_pairs _ _ ps (fun p hp => ih _ _ (h p hp))]
    | seq ps h => simp only [getFields]; rw [mapMCR_pairs _ _ ps (fun p hp => ih _ _ (h p hp))]
    | group h => simp only [getFields]; exact ih _ _ h
    | opt h => simp only [getFields]; rw [ih _ _ h]
    | closure p h => simp only [getFields]; rw [ih _ _ h]
    | neg h => simp only [getFields]; rw [ih _ _ h]
    | pos h => simp only [getFields]; rw [ih _ _ h]
    | range lo hi => rfl
    | lit i b => rfl
    | eoi => rfl
    | field nm b t => cases nm <;> rfl
    | inclKeep name =>
      simp only [getFields, Grammar.findRule_mapDefs]
      cases g.findRule name with
      | none => rfl
      | some r => exact ih _ _ (hφ r)
    | inclInline h hI' =>
      simp only [getFields, h]
      exact ih _ _ hI'

/-! ### environments -/

/-- the environment with the grammar replaced (settings, hooks, field-analysis fuel unchanged) -/
def Env.withG (env : Env) (g' : Grammar) : Env := { env with g := g' }

@[simp] theorem Env.withG_g (env : Env) (g' : Grammar) : (env.withG g').g = g' := rfl
@[simp] theorem Env.withG_hooks (env : Env) (g' : Grammar) : (env.withG g').hooks = env.hooks := rfl
@[simp] theorem Env.withG_settings (env : Env) (g' : Grammar) : (env.withG g').settings = env.settings := rfl
@[simp] theorem Env.withG_nf (env : Env) (g' : Grammar) : (env.withG g').nf = env.nf := rfl

/-- the environment of the inlined grammar -/
def Env.inlined (env : Env) (k : Nat) : Env := env.withG (env.g.inlineAll k)

@[simp] theorem Rule.flags_withDef (r : Rule) (d : Expr) : ({ r with definition := d } : Rule).flags = r.flags := rfl
@[simp] theorem Rule.checks_withDef (r : Rule) (d : Expr) : ({ r with definition := d } : Rule).checks = r.checks := rfl

/-- the generated code consults the same field lists (`get_filtered_rule_fields` inputs) -/
theorem ownFields_inl {env : Env} {φ : Rule → Expr} (hφ : ∀ r, Inl env.g r.definition (φ r)) {e e' : Expr}
    (hI : Inl env.g e e') : ownFields (env.withG (env.g.mapDefs φ)) e' = ownFields env e := by
  unfold ownFields
  simp only [Env.withG_g, Env.withG_nf]
  rw [getFields_inl hφ _ _ _ hI]

/-! ### (b) the reference semantics -/

namespace Spec

/-- the evaluator does not tell `Inl`-related expressions apart -/
def RespInl (g : Grammar) (rec : SRec) : Prop :=
  ∀ ctx e e', Inl g e e' → rec.expr ctx e' = rec.expr ctx e

section
variable {env : Env} {φ : Rule → Expr} (hφ : ∀ r, Inl env.g r.definition (φ r)) {rec : SRec}
include hφ

theorem stepExpr_inl (hR : RespInl env.g rec) (n : Nat) (ctx : Ctx)
    {e e' : Expr} (hI : Inl env.g e e') :
    stepExpr (env.withG (env.g.mapDefs φ)) rec n ctx e' = stepExpr env rec n ctx e := by
  funext s
  -- a construct with parts: `stepExpr_shape` in both directions
  have node : Shape (Inl env.g) e e' → stepExpr (env.withG (env.g.mapDefs φ)) rec n ctx e' s = stepExpr env rec n ctx e s := fun hS =>
    eq_of_some_iff
      (fun _ => stepExpr_shape rfl (Nat.le_refl n)
        (fun x x' (hx : Inl env.g x' x) => ⟨ownFields_inl hφ hx, fun s r h => hR ctx _ _ hx ▸ h⟩) hS.flip
        (ownFields_inl hφ hI))
      (fun _ => stepExpr_shape rfl (Nat.le_refl n)
        (fun x x' hx => ⟨(ownFields_inl hφ hx).symm, fun s r h => (hR ctx _ _ hx).symm ▸ h⟩) hS
        (ownFields_inl hφ hI).symm)
  cases hI with
  | choice ps h => exact node (.choice_map Prod.fst Prod.snd ps h)
  | seq ps h => exact node (.seq_map Prod.fst Prod.snd ps h)
  | group h => exact node (.group h)
  | opt h => exact node (.opt h)
  | closure p h => exact node (.closure p h)
  | neg h => exact node (.neg h)
  | pos h => exact node (.pos h)
  | range lo hi => rfl
  | lit i b => rfl
  | eoi => rfl
  | field nm b t => rfl
  | inclKeep name =>
    simp only [stepExpr, Env.withG_g, Grammar.findRule_mapDefs]
    cases env.g.findRule name with
    | none => rfl
    | some r => exact congrFun (hR ctx _ _ (hφ r)) s
  | inclInline h hI' =>
    simp only [stepExpr, h]
    exact congrFun (hR ctx _ _ hI') s

theorem ruleBody_inl (hR : RespInl env.g rec) (u : Nat) (r : Rule) (s : St) :
    ruleBody (env.withG (env.g.mapDefs φ)) u rec { r with definition := φ r } s = ruleBody env u rec r s := by
  have he : ∀ ctx, rec.expr ctx (φ r) = rec.expr ctx r.definition := fun ctx => hR ctx _ _ (hφ r)
  unfold ruleBody
  simp only [Env.withG_g, Env.withG_nf, Env.withG_settings, Rule.flags_withDef, Rule.checks_withDef,
    getFields_inl hφ _ _ _ (hφ r), he, runChecks_hooks (envA := env) (envB := env.withG (env.g.mapDefs φ)) rfl]
  rfl

theorem stepRule_inl (hR : RespInl env.g rec) (u : Nat) (name : String) :
    stepRule (env.withG (env.g.mapDefs φ)) u rec name = stepRule env u rec name := by
  funext s
  unfold stepRule
  simp only [Env.withG_g, Grammar.find_mapDefs]
  cases env.g.find name with
  | none => rfl
  | some e =>
    cases e with
    | rule r => exact ruleBody_inl hφ hR u r s
    | charRule r =>
      simp only [Option.map, RuleEntry.mapRule, charRule,
        charChecksOk_hooks (envA := env) (envB := env.withG (env.g.mapDefs φ)) rfl]
    | externRule r => rfl

/-- **(b)** the reference semantics of the inlined grammar *is* the reference semantics of the original – at every
    fuel, on every expression and rule –, and it does not tell `Inl`-related expressions apart -/
theorem eval_inl (u : Nat) :
    ∀ m, eval (env.withG (env.g.mapDefs φ)) u m = eval env u m ∧ RespInl env.g (eval env u m) := by
  intro m
  induction m with
  | zero => exact ⟨rfl, fun _ _ _ _ => rfl⟩
  | succ m ih =>
    obtain ⟨ih, hR⟩ := ih
    refine ⟨?_, fun ctx e e' hI =>
      (stepExpr_inl hφ hR m ctx (Inl.refl _ e')).symm.trans (stepExpr_inl hφ hR m ctx hI)⟩
    simp only [eval, ih, step, SRec.mk.injEq]
    exact ⟨funext fun ctx => funext fun e => stepExpr_inl hφ hR m ctx (Inl.refl _ e),
      funext fun name => stepRule_inl hφ hR u name⟩

end
end Spec

/-! ### (c) the implementation model -/

/-- the evaluator does not tell `Inl`-related expressions apart -/
def RespInl (g : Grammar) (rec : Rec) : Prop :=
  ∀ ctx e e', Inl g e e' → rec.expr ctx e' = rec.expr ctx e

section
variable {env : Env} {φ : Rule → Expr} (hφ : ∀ r, Inl env.g r.definition (φ r)) {rec : Rec}
include hφ

theorem evalSeq_inl (hR : RespInl env.g rec) (ctx : Ctx) :
    ∀ ps : List (Expr × Expr), (∀ p, p ∈ ps → Inl env.g p.1 p.2) → ∀ seen acc s gl,
      evalSeq (env.withG (env.g.mapDefs φ)) rec ctx (ps.map Prod.snd) seen acc s gl =
        evalSeq env rec ctx (ps.map Prod.fst) seen acc s gl := by
  intro ps
  induction ps with
  | nil => intro _ seen acc s gl; rfl
  | cons p ps ih =>
    intro h seen acc s gl
    have ih' := ih (fun b hb => h b (List.mem_cons_of_mem _ hb))
    have hp := h p (List.mem_cons_self ..)
    simp only [List.map, evalSeq]
    rw [hR ctx _ _ hp, ownFields_inl hφ hp]
    simp only [ih']

theorem evalAlts_inl (hR : RespInl env.g rec) (ctx : Ctx)
    (fields : List FieldDesc) :
    ∀ as : List (Expr × Expr), (∀ p, p ∈ as → Inl env.g p.1 p.2) → ∀ s gl,
      evalAlts (env.withG (env.g.mapDefs φ)) rec ctx fields (as.map Prod.snd) s gl =
        evalAlts env rec ctx fields (as.map Prod.fst) s gl := by
  intro as
  induction as with
  | nil => intro _ s gl; rfl
  | cons a as ih =>
    intro h s gl
    have ih' := ih (fun b hb => h b (List.mem_cons_of_mem _ hb))
    have ha := h a (List.mem_cons_self ..)
    simp only [List.map, evalAlts]
    rw [hR ctx _ _ ha, ownFields_inl hφ ha]
    simp only [ih']

/-- one construct: the generated code for the inlined expression behaves identically – result,
    error payload, furthest-error bookkeeping and global state -/
theorem stepExpr_inl (hR : RespInl env.g rec) (n : Nat) (ctx : Ctx)
    {e e' : Expr} (hI : Inl env.g e e') :
    stepExpr (env.withG (env.g.mapDefs φ)) rec n ctx e' = stepExpr env rec n ctx e := by
  funext s gl
  cases hI with
  | choice ps h =>
    have hf := ownFields_inl hφ (Inl.choice ps h)
    rcases ps with _ | ⟨a, _ | ⟨b, rest⟩⟩
    · rfl
    · simp only [List.map, stepExpr, hR ctx _ _ (h a (List.mem_cons_self ..))]
    · simp only [List.map] at hf
      simp only [List.map, stepExpr, hf]
      exact evalAlts_inl hφ hR ctx _ (a :: b :: rest) h s gl
  | seq ps h =>
    have hf := ownFields_inl hφ (Inl.seq ps h)
    rcases ps with _ | ⟨a, _ | ⟨b, rest⟩⟩
    · rfl
    · simp only [List.map, stepExpr, hR ctx _ _ (h a (List.mem_cons_self ..))]
    · have := evalSeq_inl hφ hR ctx (a :: b :: rest) h [] [] s gl
      simp only [List.map] at hf this
      simp only [List.map, stepExpr, hf, this]
  | group h => simp only [stepExpr]; rw [hR ctx _ _ h]
  | opt h => simp only [stepExpr]; rw [hR ctx _ _ h, ownFields_inl hφ h]
  | closure p h => simp only [stepExpr]; rw [hR ctx _ _ h, ownFields_inl hφ h]
  | neg h => simp only [stepExpr]; rw [hR ctx _ _ h]
  | pos h => simp only [stepExpr]; rw [hR ctx _ _ h]
  | range lo hi => rfl
  | lit i b => rfl
  | eoi => rfl
  | field nm b t => rfl
  | inclKeep name =>
    simp only [stepExpr, Env.withG_g, Grammar.findRule_mapDefs]
    cases env.g.findRule name with
    | none => rfl
    | some r => exact congrFun (congrFun (hR ctx _ _ (hφ r)) s) gl
  | inclInline h hI' =>
    simp only [stepExpr, h]
    exact congrFun (congrFun (hR ctx _ _ hI') s) gl

theorem ruleBody_inl (hR : RespInl env.g rec) (r : Rule) :
    ruleBody (env.withG (env.g.mapDefs φ)) rec { r with definition := φ r } = ruleBody env rec r := by
  funext s gl
  have he : ∀ ctx, rec.expr ctx (φ r) = rec.expr ctx r.definition := fun ctx => hR ctx _ _ (hφ r)
  unfold ruleBody
  simp only [Env.withG_g, Env.withG_nf, Env.withG_settings, Rule.flags_withDef, Rule.checks_withDef,
    getFields_inl hφ _ _ _ (hφ r), he, runChecks_congr_hooks (Env.withG_hooks env _)]
  rfl

/-- a rule call: same entry kind, same name, same directives (hence same `@memoize` / `@leftrec`
    wrapper, same cache keys, same tracer events), `Inl`-related body -/
theorem stepRule_inl (hR : RespInl env.g rec) (n : Nat) (name : String) :
    stepRule (env.withG (env.g.mapDefs φ)) rec n name = stepRule env rec n name := by
  funext s gl
  unfold stepRule
  simp only [Env.withG_g, Grammar.find_mapDefs]
  cases env.g.find name with
  | none => rfl
  | some e =>
    cases e with
    | rule r => simp only [Option.map, RuleEntry.mapRule, normalRule, Rule.flags_withDef, ruleBody_inl hφ hR r]
    | charRule r =>
      simp only [Option.map, RuleEntry.mapRule, charRule, charChecks_congr_hooks (Env.withG_hooks env _)]
    | externRule r => rfl

/-- **(c), strong form.**  The model of the generated parser of the inlined grammar *is* the model of the
    original – at every fuel, on every expression and rule, for every start state and global state, with any
    `@memoize` / `@leftrec` rules and any hooks: same result, same error, same furthest-error bookkeeping, same
    cache, log and user context –, and it does not tell `Inl`-related expressions apart. -/
theorem eval_inl :
    ∀ n, eval (env.withG (env.g.mapDefs φ)) n = eval env n ∧ RespInl env.g (eval env n) := by
  intro n
  induction n with
  | zero => exact ⟨rfl, fun _ _ _ _ => rfl⟩
  | succ n ih =>
    obtain ⟨ih, hR⟩ := ih
    refine ⟨?_, fun ctx e e' hI =>
      (stepExpr_inl hφ hR n ctx (Inl.refl _ e')).symm.trans (stepExpr_inl hφ hR n ctx hI)⟩
    simp only [eval, ih, step, Rec.mk.injEq]
    exact ⟨funext fun ctx => funext fun e => stepExpr_inl hφ hR n ctx (Inl.refl _ e),
      funext fun name => stepRule_inl hφ hR n name⟩

end

/-! ## the statements for `inlineE` / `inlineAll`, rule calls and whole parses -/

/-- (a) for the textual inlining: `k` (inlining depth of the expression) and `K` (inlining depth used
    for the grammar) are arbitrary and independent -/
theorem getFields_inline (g : Grammar) (K k n : Nat) (e : Expr) :
    getFields (g.inlineAll K) n (inlineE g k e) = getFields g n e :=
  getFields_inl (fun r => inl_inlineE g K r.definition) n e _ (inl_inlineE g k e)

/-- the rule-level field lists (what the public struct / enum of a rule is generated from) of the
    inlined grammar are those of the original grammar -/
theorem getFields_inlineAll_rule (g : Grammar) (K n : Nat) (r : Rule) :
    getFields (g.inlineAll K) n ({ r with definition := inlineE g K r.definition } : Rule).definition =
      getFields g n r.definition :=
  getFields_inline g K K n r.definition

/-- **Replacement at an arbitrary position, same grammar** (the congruence statement): for every
    context `C`, `C[>name]` and `C[(definition)]` – more generally any two `Inl`-related
    expressions – evaluate identically, including error and global state.  (`Inl` is the
    congruence generated by `Inl.site`; `Inl.refl` covers the untouched parts of `C`.) -/
theorem eval_inl_expr_same (env : Env) (n : Nat) (ctx : Ctx) {e e' : Expr} (hI : Inl env.g e e')
    (s : St) (gl : Global) :
    (eval env n).expr ctx e' s gl = (eval env n).expr ctx e s gl :=
  congrFun (congrFun ((eval_inl (fun r => Inl.refl env.g r.definition) n).2 ctx e e' hI) s) gl

theorem Spec.eval_inl_expr_same (env : Env) (u m : Nat) (ctx : Ctx) {e e' : Expr} (hI : Inl env.g e e')
    (s : St) :
    (Spec.eval env u m).expr ctx e' s = (Spec.eval env u m).expr ctx e s :=
  congrFun ((Spec.eval_inl (fun r => Inl.refl env.g r.definition) u m).2 ctx e e' hI) s

/-- the root instance: whole evaluations (not just one step) of `>name` and `(definition)` coincide -/
theorem eval_incl_group (env : Env) (n : Nat) (ctx : Ctx) {name : String} {rule : Rule}
    (h : env.g.findRule name = some rule) (s : St) (gl : Global) :
    (eval env n).expr ctx (.group rule.definition) s gl = (eval env n).expr ctx (.incl name) s gl :=
  eval_inl_expr_same env n ctx (Inl.site env.g h) s gl

/-- (b) for the textual inlining, expressions -/
theorem Spec.eval_inline_expr (env : Env) (K k u m : Nat) (ctx : Ctx) (e : Expr) (s : St) :
    (Spec.eval (env.inlined K) u m).expr ctx (inlineE env.g k e) s = (Spec.eval env u m).expr ctx e s := by
  rw [show Spec.eval (env.inlined K) u m = Spec.eval env u m from
    (Spec.eval_inl (fun r => inl_inlineE env.g K r.definition) u m).1]
  exact Spec.eval_inl_expr_same env u m ctx (inl_inlineE env.g k e) s

/-- (c) for the textual inlining: the two grammars have one evaluator -/
theorem eval_inline (env : Env) (K n : Nat) : eval (env.inlined K) n = eval env n :=
  (eval_inl (fun r => inl_inlineE env.g K r.definition) n).1

/-- (c) for the textual inlining, expressions -/
theorem eval_inline_expr (env : Env) (K k n : Nat) (ctx : Ctx) (e : Expr) (s : St) (gl : Global) :
    (eval (env.inlined K) n).expr ctx (inlineE env.g k e) s gl = (eval env n).expr ctx e s gl := by
  rw [eval_inline]
  exact eval_inl_expr_same env n ctx (inl_inlineE env.g k e) s gl

/-- (c) for the textual inlining, rules -/
theorem eval_inline_rule (env : Env) (K n : Nat) (name : String) (s : St) (gl : Global) :
    (eval (env.inlined K) n).rule name s gl = (eval env n).rule name s gl := by
  rw [eval_inline]

/-- whole parses -/
theorem parseAdvanced_inline (env : Env) (K n : Nat) (rule : String) (inp : List UInt8) (u : Nat) :
    parseAdvanced (env.inlined K) n rule inp u = parseAdvanced env n rule inp u :=
  eval_inline_rule env K n rule (St.new inp) (Global.init u)

/-! ### the property theorems -/

/-- **C13** (implementation model).  The generated parser of the grammar with all includes
    replaced by the parenthesised bodies and the generated parser of the original grammar give the
    same answer whenever both answer (any fuels): same acceptance, tree, positions, consumed bytes –
    and moreover the same error and the same final global state. -/
theorem C13_inline (env : Env) (K : Nat) (rule : String) (inp : List UInt8) (u n n' : Nat)
    {r r' : Res Val} {g g' : Global}
    (h : parseAdvanced env n rule inp u = some (r, g))
    (h' : parseAdvanced (env.inlined K) n' rule inp u = some (r', g')) :
    (r', g') = (r, g) := by
  rw [parseAdvanced_inline] at h'
  exact eval_rule_det env h' h

/-- C13 in the `Spec.abs` form of the other transparency properties -/
theorem C13_inline_abs (env : Env) (K : Nat) (rule : String) (inp : List UInt8) (u n n' : Nat)
    {r r' : Res Val} {g g' : Global}
    (h : parseAdvanced env n rule inp u = some (r, g))
    (h' : parseAdvanced (env.inlined K) n' rule inp u = some (r', g')) :
    Spec.abs r' = Spec.abs r :=
  congrArg (fun p => Spec.abs p.1) (C13_inline env K rule inp u n n' h h')

/-- **C13_error.**  The *error* (position and expected-set of the furthest failure) is the same too –
    with no restriction on `@memoize` / `@leftrec` rules or on the hooks. -/
theorem C13_error (env : Env) (K : Nat) (rule : String) (inp : List UInt8) (u n n' : Nat)
    {e : PErr} {r' : Res Val} {g g' : Global}
    (h : parseAdvanced env n rule inp u = some (.err e, g))
    (h' : parseAdvanced (env.inlined K) n' rule inp u = some (r', g')) :
    r' = .err e :=
  congrArg Prod.fst (C13_inline env K rule inp u n n' h h')

/-- the two parsers answer at exactly the same fuels -/
theorem C13_answers_iff (env : Env) (K n : Nat) (rule : String) (inp : List UInt8) (u : Nat) :
    (parseAdvanced (env.inlined K) n rule inp u).isSome = (parseAdvanced env n rule inp u).isSome := by
  rw [parseAdvanced_inline]

/-- the two parsers are the same function (`parseAdvanced_inline`), so what C01 says of the parser of the original
    grammar it says of the parser of the *inlined* grammar: it computes the reference answer of the original grammar -/
theorem C13_inlined_refines_spec (env : Env) (hp : PureHooks env.hooks) (hnl : NoLeftrec env.g) (K : Nat)
    (rule : String) (inp : List UInt8) (u n : Nat) {r' g'}
    (h : parseAdvanced (env.inlined K) n rule inp u = some (r', g')) :
    ∃ m, Spec.parse env u m rule inp = some (Spec.abs r') :=
  parse_sound env hp hnl rule inp u n (parseAdvanced_inline env K n rule inp u ▸ h)

/-- … and answers whenever the reference semantics of the original grammar answers -/
theorem C13_inlined_complete (env : Env) (hp : PureHooks env.hooks) (hnl : NoLeftrec env.g) (K : Nat)
    (rule : String) (inp : List UInt8) (u m : Nat) {r}
    (h : Spec.parse env u m rule inp = some r) :
    ∃ n r' g', parseAdvanced (env.inlined K) n rule inp u = some (r', g') ∧ Spec.abs r' = r := by
  simp only [parseAdvanced_inline]
  exact parse_complete env hp hnl rule inp u m h

/-! ## acyclicity: when does the inlining remove *all* includes?

  Formulation chosen: "`getFields` succeeds".  The field analysis follows every include hop with the
  same fuel discipline as `inlineE`, reports a missing rule as `Err` and an include cycle as
  `CR.fuel` (for every fuel), so `getFields g n e = .ok fs` says: every include reachable from `e`
  names a defined rule and the include nesting below `e` is shallower than `n`.  This is also what
  the generator itself requires of a compilable grammar. -/

/-- no include anywhere in the expression -/
inductive NoIncl : Expr → Prop
  | choice {as : List Expr} : (∀ a, a ∈ as → NoIncl a) → NoIncl (.choice as)
  | seq {ps : List Expr} : (∀ a, a ∈ ps → NoIncl a) → NoIncl (.seq ps)
  | group {b : Expr} : NoIncl b → NoIncl (.group b)
  | opt {b : Expr} : NoIncl b → NoIncl (.opt b)
  | closure {b : Expr} (p : Bool) : NoIncl b → NoIncl (.closure b p)
  | neg {b : Expr} : NoIncl b → NoIncl (.neg b)
  | pos {b : Expr} : NoIncl b → NoIncl (.pos b)
  | range (lo hi : StringItem) : NoIncl (.range lo hi)
  | lit (i : Bool) (b : List StringItem) : NoIncl (.lit i b)
  | eoi : NoIncl .eoi
  | field (nm : Option FieldName) (b : Bool) (t : String) : NoIncl (.field nm b t)

/-- (a) in the "enough fuel on both sides" form: whatever the field analysis of the original
    computes, the analysis of the inlined grammar computes with any fuel at least as large -/
theorem getFields_inline_ok (g : Grammar) (K k : Nat) {n n' : Nat} {e : Expr} {fs : List FieldDesc}
    (h : getFields g n e = .ok fs) (hn : n ≤ n') :
    getFields (g.inlineAll K) n' (inlineE g k e) = .ok fs := by
  rw [getFields_inline]
  exact getFields_mono h hn

/-- … and conversely -/
theorem getFields_inline_ok' (g : Grammar) (K k : Nat) {n n' : Nat} {e : Expr} {fs : List FieldDesc}
    (h : getFields (g.inlineAll K) n (inlineE g k e) = .ok fs) (hn : n ≤ n') :
    getFields g n' e = .ok fs := by
  rw [getFields_inline] at h
  exact getFields_mono h hn

/-- **Complete inlining.**  If the field analysis of `e` succeeds with fuel `n`, inlining with depth fuel `n`
    leaves no include (and a larger depth gives the same expression: `inlineE_stable`). -/
theorem noIncl_inlineE (g : Grammar) :
    ∀ n e fs, getFields g n e = .ok fs → NoIncl (inlineE g n e) := by
  intro n
  induction n with
  | zero => intro e fs h; cases h
  | succ n ih =>
    intro e fs h
    have hs := getFields_succ_inv h
    have hl : ∀ {l : List Expr}, (∀ a ∈ l, getFields g n a = .ok (fieldsOf g n a)) →
        ∀ a', a' ∈ l.map (inlineE g n) → NoIncl a' := fun hl a' ha' => by
      obtain ⟨a, ha, rfl⟩ := List.mem_map.1 ha'
      exact ih a _ (hl a ha)
    cases e with
    | choice l => exact .choice (hl hs.1)
    | seq l => exact .seq (hl hs.1)
    | group b => exact .group (ih _ _ hs)
    | opt b => obtain ⟨_, h1, -⟩ := hs; exact .opt (ih _ _ h1)
    | closure b p => obtain ⟨_, h1, -⟩ := hs; exact .closure p (ih _ _ h1)
    | neg b => exact .neg (ih _ _ hs.1)
    | pos b => exact .pos (ih _ _ hs.1)
    | range lo hi => exact .range lo hi
    | lit i b => exact .lit i b
    | eoi => exact .eoi
    | incl name =>
      obtain ⟨rule, hr, hb⟩ := hs
      simp only [inlineE, hr]
      exact .group (ih _ _ hb)
    | field nm b t => exact .field nm b t

/-- if the field analysis succeeds (fuel `k`) on every rule definition – as it must for the grammar to
    compile – no rule of `g.inlineAll k` contains an include -/
theorem noIncl_inlineAll (g : Grammar) (k : Nat)
    (h : ∀ r, RuleEntry.rule r ∈ g.rules → ∃ fs, getFields g k r.definition = .ok fs) :
    ∀ r', RuleEntry.rule r' ∈ (g.inlineAll k).rules → NoIncl r'.definition := by
  intro r' hr'
  simp only [Grammar.inlineAll, Grammar.mapDefs, List.mem_map] at hr'
  obtain ⟨e, he, heq⟩ := hr'
  cases e with
  | rule r =>
    cases heq
    obtain ⟨fs, hfs⟩ := h r he
    exact noIncl_inlineE g k _ fs hfs
  | charRule r => cases heq
  | externRule r => cases heq

/-- once nothing is left to inline, more fuel changes nothing (so "the" inlined expression is
    well defined) -/
theorem inlineE_stable (g : Grammar) :
    ∀ n e fs k, getFields g n e = .ok fs → n ≤ k → inlineE g k e = inlineE g n e := by
  intro n
  induction n with
  | zero => intro e fs k h; cases h
  | succ n ih =>
    intro e fs k h hk
    obtain ⟨k, rfl⟩ : ∃ k', k = k' + 1 := ⟨k - 1, by omega⟩
    have hnk : n ≤ k := by omega
    have hs := getFields_succ_inv h
    cases e with
    | choice l | seq l =>
      simp only [inlineE]
      rw [List.map_congr_left fun a ha => ih a _ k (hs.1 a ha) hnk]
    | group b => simp only [inlineE, ih _ _ _ hs hnk]
    | opt b | closure b p => obtain ⟨_, hb, -⟩ := hs; simp only [inlineE, ih _ _ _ hb hnk]
    | neg b | pos b => simp only [inlineE, ih _ _ _ hs.1 hnk]
    | incl name =>
      obtain ⟨rule, hr, hb⟩ := hs
      simp only [inlineE, hr, ih _ _ _ hb hnk]
    | range lo hi | lit i b | eoi | field nm b t => rfl

/-! ## non-vacuity: a concrete grammar -/

namespace IncludeExample

/-- `@export S = >A $;   A = 'a' >B x:X;   @string @no_skip_ws @memoize B = 'b' | 'c';   X = 'x';` -/
def g : Grammar :=
  ⟨[.rule ⟨[.export], "S", .choice [.seq [.incl "A", .eoi]]⟩,
    .rule ⟨[], "A", .choice [.seq [.lit false [.chr 'a'], .incl "B", .field (some (.ident "x")) false "X"]]⟩,
    .rule ⟨[.string, .noSkipWs, .memoize], "B",
      .choice [.seq [.lit false [.chr 'b']], .seq [.lit false [.chr 'c']]]⟩,
    .rule ⟨[], "X", .choice [.seq [.lit false [.chr 'x']]]⟩]⟩

def env : Env := { g := g, settings := {}, hooks := default, nf := 10 }

/-- the textual result: both include levels replaced by the parenthesised bodies -/
example : inlineE g 10 (.choice [.seq [.incl "A", .eoi]]) =
    .choice [.seq [.group (.choice [.seq [.lit false [.chr 'a'],
      .group (.choice [.seq [.lit false [.chr 'b']], .seq [.lit false [.chr 'c']]]),
      .field (some (.ident "x")) false "X"]]), .eoi]] := rfl

/-- the hypothesis of `noIncl_inlineAll` holds: the field analysis succeeds on every rule -/
theorem fieldsOk : ∀ r, RuleEntry.rule r ∈ g.rules → ∃ fs, getFields g 10 r.definition = .ok fs := by
  intro r hr
  simp only [g, List.mem_cons, RuleEntry.rule.injEq, List.mem_nil_iff, or_false] at hr
  rcases hr with rfl | rfl | rfl | rfl <;> exact ⟨_, rfl⟩

example : ∀ r', RuleEntry.rule r' ∈ (g.inlineAll 10).rules → NoIncl r'.definition :=
  noIncl_inlineAll g 10 fieldsOk

/-- hypotheses of the `Spec`-mediated corollaries -/
example : PureHooks env.hooks ∧ NoLeftrec env.g := by
  refine ⟨NV.pure_default, ?_⟩
  intro r hr
  simp only [env, g, List.mem_cons, RuleEntry.rule.injEq, List.mem_nil_iff, or_false] at hr
  rcases hr with rfl | rfl | rfl | rfl <;> rfl

/-- one site, in context (`A = 'a' >B x:X` ↦ `A = 'a' ('b' | 'c') x:X`), built from the congruence rules -/
example : Inl g
    (.choice [.seq [.lit false [.chr 'a'], .incl "B", .field (some (.ident "x")) false "X"]])
    (.choice [.seq [.lit false [.chr 'a'],
      .group (.choice [.seq [.lit false [.chr 'b']], .seq [.lit false [.chr 'c']]]),
      .field (some (.ident "x")) false "X"]]) :=
  .choice_cons
    (.seq_cons (.lit _ _) (.seq_cons (Inl.site g (name := "B") rfl) (.seq_cons (.field _ _ _) (Inl.refl g _))))
    (Inl.refl g _)

/-- both parsers run and agree – on a success (`"a bx"`: the blank in front of `b` is skipped although
    `B` is `@no_skip_ws`; no cache entry is made although `B` is `@memoize`; the value of the include
    is not a string although `B` is `@string` – the directives of `B` have no effect at the include
    site, while a *call* of `B` obeys them) and on a failure (`"ad"`: same error, expected `'c'` at 1) -/
example :
    let run := fun (env : Env) (rule : String) (inp : List UInt8) =>
      match parseAdvanced env 30 rule inp 0 with
      | some (.ok v st, gl) => (st.off, gl.cache.length, none, v.render)
      | some (.err e, gl) => (0, gl.cache.length, some e, "")
      | _ => (99, 99, none, "")
    (run env "S" [97, 32, 98, 120] = (4, 0, none, "S { x: X }") ∧
     run (env.inlined 10) "S" [97, 32, 98, 120] = (4, 0, none, "S { x: X }") ∧
     run env "S" [97, 100] = (0, 0, some ⟨1, .expectedCharacter 'c'⟩, "") ∧
     run (env.inlined 10) "S" [97, 100] = (0, 0, some ⟨1, .expectedCharacter 'c'⟩, "") ∧
     run env "B" [98] = (1, 1, none, "S\"62\"") ∧
     (run env "B" [32, 98]).1 = 0) = true := by decide +kernel

end IncludeExample

end Peg
