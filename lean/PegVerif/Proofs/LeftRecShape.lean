import PegVerif.Proofs.CompleteLR
import PegVerif.Proofs.Plumbing
import PegVerif.Proofs.Flags
import PegVerif.Proofs.MapRules
/-
  C07, the usual shape, *syntactically*:  `@leftrec A = l:*A x… | b…`.

  LeftRec.lean proves `C07_direct_memoBody` under the *semantic* hypothesis `DirectLeftRec` ("with
  the failing seed the body gives `b0`; with seed `v_i` it gives `ext i v_i`, strictly further; with
  seed `v_m` it fails or does not get further").  This file discharges that hypothesis for a whole
  class of grammars, from
    * a *syntactic* description of the rule (`LeftRecShape`: decidable clauses + `PureHooks`), and
    * the greedy iteration `b x*` computed in the *reference semantics* `Spec.eval` (`Greedy`).

  Main results
    * `eval_sim`        cache independence: on a set `R` of rules closed under references and free of
                        `@memoize`/`@leftrec`, the model's result (incl. `far`) does not depend on the
                        global state, and is the result in the grammar without `@leftrec` directives;
    * `shape_direct`    the shape theorem, on the user contexts at which the hooks answer as at the one
                        of the reference run (`DirectLeftRecOn (HookAgree env.hooks · u)`);
      `shape_DirectLeftRec` = `DirectLeftRec` itself (every user context) when the hooks' answers do
                        not depend on the user context;
    * `shape_memoBody`, `shape_rule`, `shape_parse`  the rule returns the left-nested tree and ends
                        where the greedy iteration ends, after exactly `m + 2` body evaluations;
    * `shape_reject`    no base match ⇒ the rule fails;
    * `Greedy.rec_field` each extension holds the previous result in its recursive field;
    * `ShapeExample`, `ShapeExample2`  non-vacuity (all hypotheses by `rfl` / `decide`).

  Why `DirectLeftRecOn` and `∃ st`:
    * `DirectLeftRec` quantifies over every global state, hence every user context; hooks may read
      the context, so with `PureHooks` alone only the variant restricted to the contexts at which
      they answer alike is true.
    * the cached end states `st i` carry the implementation's error bookkeeping `far`, which the
      reference semantics does not have; the theorem gives `st` with `clr (st i) = pos i`.
    * `@memoize` rules reachable from `x…`/`b…` are excluded: `DirectLeftRec` quantifies over
      arbitrary caches, and a cached entry of a memoized rule is returned as is.
    * the recursive call `l:*A` is preceded by whitespace skipping: if that consumes something, the
      call is at another offset and is *not* a hit on the seed (`NoLeadWs` excludes this).
-/
namespace Peg
namespace LRS
open Spec

/-! ## 1. rule sets closed under "calls", without `@memoize` / `@leftrec` -/

mutual
/-- every rule referenced by the expression (fields, includes) is in `R` -/
def okE (R : List String) : Expr → Bool
  | .choice alts => okL R alts
  | .seq parts => okL R parts
  | .group b => okE R b
  | .opt b => okE R b
  | .closure b _ => okE R b
  | .neg b => okE R b
  | .pos b => okE R b
  | .incl r => R.contains r
  | .field _ _ typ => R.contains typ
  | _ => true
def okL (R : List String) : List Expr → Bool
  | [] => true
  | e :: es => okE R e && okL R es
end

/-- the entries named `n` are fine: a normal rule is neither `@memoize` nor `@leftrec` and its body
    only references rules of `R`; the identifier parts of a `@char` rule are in `R`; the body
    found by an include of `n` only references rules of `R` -/
def entryOk (g : Grammar) (R : List String) (n : String) : Bool :=
  (match g.find n with
   | some (.rule r) => !r.flags.leftRecursive && !r.flags.memoize && okE R r.definition
   | some (.charRule r) => r.choices.all (fun p => match p with | .ident id => R.contains id | _ => true)
   | _ => true) &&
  (match g.findRule n with
   | some r => okE R r.definition
   | none => true)

/-- `R` is closed under references, contains the whitespace rule, and none of its rules is
    `@memoize` or `@leftrec` -/
def closedB (g : Grammar) (R : List String) : Bool :=
  R.contains "Whitespace" && R.all (entryOk g R)

theorem okL_cons {R : List String} {e : Expr} {es : List Expr} :
    okL R (e :: es) = true ↔ okE R e = true ∧ okL R es = true := by
  simp [okL]

theorem okL_mem {R : List String} : ∀ {es : List Expr}, okL R es = true → ∀ e ∈ es, okE R e = true
  | [], _, e, he => by cases he
  | x :: xs, h, e, he => by
    obtain ⟨h1, h2⟩ := okL_cons.1 h
    rcases List.mem_cons.1 he with rfl | he
    · exact h1
    · exact okL_mem h2 e he

theorem closedB_ws {g : Grammar} {R : List String} (h : closedB g R = true) :
    R.contains "Whitespace" = true := by
  unfold closedB at h
  simp only [Bool.and_eq_true] at h
  exact h.1

theorem closedB_entry {g : Grammar} {R : List String} (h : closedB g R = true) {n : String}
    (hn : R.contains n = true) : entryOk g R n = true := by
  unfold closedB at h
  simp only [Bool.and_eq_true, List.all_eq_true] at h
  exact h.2 n (by simpa using hn)

/-! ## 2. simulation: on `R`, the evaluator does not look at the cache

  `Rel u u2 f f2`: whatever `f2` answers from a global state with user context `u2`, `f` answers
  from *any* global state with user context `u` – same result (value, end state including `far`,
  error), the user contexts stay put.  Used with `f2` = evaluation in the grammar without
  `@leftrec` from a clean global state, `f` = evaluation in the original grammar from the global
  state the grow loop hands to the body (seeded cache). -/

/-- the hooks answer alike at the two user contexts -/
def HookAgree (H : Hooks) (u u2 : Nat) : Prop :=
  (∀ f bs, (H.extern f bs u).1 = (H.extern f bs u2).1) ∧ (∀ f v, (H.check f v u).1 = (H.check f v u2).1)

theorem HookAgree.refl (H : Hooks) (u : Nat) : HookAgree H u u := ⟨fun _ _ => rfl, fun _ _ => rfl⟩

def Rel (u u2 : Nat) {α} (f f2 : Global → Out α) : Prop :=
  ∀ g g2 r g2', f2 g2 = some (r, g2') → g.uctx = u → g2.uctx = u2 →
    ∃ g', f g = some (r, g') ∧ g'.uctx = u ∧ g2'.uctx = u2

structure USim (R : List String) (u u2 : Nat) (rec rec2 : Rec) : Prop where
  expr : ∀ ctx e s, okE R e = true → Rel u u2 (rec.expr ctx e s) (rec2.expr ctx e s)
  rule : ∀ name s, R.contains name = true → Rel u u2 (rec.rule name s) (rec2.rule name s)

section Sim
variable {u u2 : Nat}

theorem Rel.pure {α} (r : Res α) : Rel u u2 (fun g => some (r, g)) (fun g => some (r, g)) := by
  intro g g2 r' g2' h hg hg2
  cases h
  exact ⟨g, rfl, hg, hg2⟩

theorem Rel.congr {α} {f f' f2 f2' : Global → Out α} (he : ∀ g, f g = f' g) (he2 : ∀ g, f2 g = f2' g)
    (h : Rel u u2 f' f2') : Rel u u2 f f2 :=
  congr_pred (p := fun f => Rel u u2 f f2) he (congr_pred (p := Rel u u2 f') he2 h)

theorem Rel.ite {α} {c : Prop} [Decidable c] {f f' f2 f2' : Global → Out α} (h1 : Rel u u2 f f2)
    (h2 : Rel u u2 f' f2') :
    Rel u u2 (fun g => if c then f g else f' g) (fun g => if c then f2 g else f2' g) := by
  by_cases hc : c
  · simp only [hc, if_true]; exact h1
  · simp only [hc, if_false]; exact h2

theorem Rel.caseR {α β} {f f2 : Global → Out α} {ok ok2 : α → St → Global → Out β}
    {err err2 : PErr → Global → Out β} (hf : Rel u u2 f f2) (hok : ∀ v s1, Rel u u2 (ok v s1) (ok2 v s1))
    (herr : ∀ e, Rel u u2 (err e) (err2 e)) :
    Rel u u2 (fun g => caseR (f g) ok err) (fun g => caseR (f2 g) ok2 err2) := by
  intro g g2 r g2' h hg hg2
  dsimp only at h ⊢
  cases hx : f2 g2 with
  | none => rw [hx] at h; cases h
  | some y =>
    obtain ⟨g1, h1, hg1, hg12⟩ := hf g g2 _ _ hx hg hg2
    rw [hx] at h
    rw [h1]
    match y, h with
    | (.ok v s1, g12), h => exact hok v s1 g1 g12 _ _ h hg1 hg12
    | (.err e, g12), h => exact herr e g1 g12 _ _ h hg1 hg12
    | (.panic m, g12), h => cases h; exact ⟨g1, rfl, hg1, hg12⟩

/-- both sides after a change of the global object that keeps the user context (events logged) -/
theorem Rel.comap {α} {f f2 : Global → Out α} (φ : Global → Global) (hφ : ∀ g, (φ g).uctx = g.uctx)
    (h : Rel u u2 f f2) : Rel u u2 (fun g => f (φ g)) (fun g => f2 (φ g)) :=
  fun g g2 r g2' hx hg hg2 => h (φ g) (φ g2) r g2' hx ((hφ g).trans hg) ((hφ g2).trans hg2)

theorem Rel.bind {α β} {f f2 : Global → Out α} {k k2 : α → St → Global → Out β}
    (hf : Rel u u2 f f2) (hk : ∀ v s1, Rel u u2 (k v s1) (k2 v s1)) :
    Rel u u2 (fun g => bindR (f g) k) (fun g => bindR (f2 g) k2) :=
  Rel.caseR hf hk fun _ => Rel.pure _

variable {env : Env} {R : List String} {rec rec2 : Rec}

theorem withSkipWs_sim {α} (hws : R.contains "Whitespace" = true) (hrec : USim R u u2 rec rec2)
    {ctx : Ctx} {s : St} {k k2 : St → Global → Out α} (hk : ∀ s, Rel u u2 (k s) (k2 s)) :
    Rel u u2 (fun g => withSkipWs rec ctx s g k) (fun g => withSkipWs rec2 ctx s g k2) := by
  unfold withSkipWs
  split
  · exact Rel.bind (hrec.rule _ _ hws) (fun _ s => hk s)
  · exact hk s

theorem evalSeq_sim (hrec : USim R u u2 rec rec2) {ctx : Ctx} :
    ∀ ps seen acc s, okL R ps = true →
      Rel u u2 (evalSeq env rec ctx ps seen acc s) (evalSeq env rec2 ctx ps seen acc s) := by
  intro ps
  induction ps with
  | nil => intro seen acc s _; exact Rel.pure _
  | cons p ps ih =>
    intro seen acc s hok
    obtain ⟨h1, h2⟩ := okL_cons.1 hok
    refine Rel.congr (fun g => by rw [evalSeq]) (fun g => by rw [evalSeq])
      (Rel.bind (hrec.expr ctx p s h1) (fun r s' => ?_))
    cases hm : mergePart (filterRuleFields ctx.ruleFields (ownFields env p)) seen acc r with
    | error m => simp only [hm]; exact Rel.pure _
    | ok v => simp only [hm]; exact ih _ _ _ h2

theorem evalAlts_sim (hrec : USim R u u2 rec rec2) {ctx : Ctx} {fields} :
    ∀ as s, okL R as = true →
      Rel u u2 (evalAlts env rec ctx fields as s) (evalAlts env rec2 ctx fields as s) := by
  intro as
  induction as with
  | nil => intro s _; exact Rel.pure _
  | cons a as ih =>
    intro s hok
    obtain ⟨h1, h2⟩ := okL_cons.1 hok
    refine Rel.congr (evalAlts_step env ctx fields _ a as s) (evalAlts_step env ctx fields _ a as s)
      (Rel.caseR (hrec.expr ctx a s h1) (fun r s' => ?_) fun e => ih _ h2)
    cases convertArm fields (ownFields env a) r <;> exact Rel.pure _

theorem evalLoop_sim {body body2 : St → Global → Out Parsed} (hb : ∀ s, Rel u u2 (body s) (body2 s))
    {fields} : ∀ k iters acc s,
      Rel u u2 (evalLoop body fields k iters acc s) (evalLoop body2 fields k iters acc s) := by
  intro k
  induction k with
  | zero => intro iters acc s g g2 r g2' h; simp [evalLoop] at h
  | succ k ih =>
    intro iters acc s
    refine Rel.congr (evalLoop_step fields body k iters acc s) (evalLoop_step fields body2 k iters acc s)
      (Rel.caseR (hb s) (fun r s' => ?_) fun e => Rel.pure _)
    cases extendAll fields acc r
    · exact Rel.pure _
    · exact ih _ _ _

theorem closed_incl {g : Grammar} (hcl : closedB g R = true) {n : String} (hn : R.contains n = true)
    {rule : Rule} (hf : g.findRule n = some rule) : okE R rule.definition = true := by
  have := closedB_entry hcl hn
  unfold entryOk at this
  simp only [hf, Bool.and_eq_true] at this
  exact this.2

theorem stepExpr_sim (hcl : closedB env.g R = true) (hrec : USim R u u2 rec rec2) (n : Nat) (ctx : Ctx)
    (e : Expr) (s : St) (he : okE R e = true) :
    Rel u u2 (stepExpr env rec n ctx e s) (stepExpr env rec2 n ctx e s) := by
  have hws := closedB_ws hcl
  match hterm : terminalOf e with
  | some (.ok m) =>
    exact Rel.congr (stepExpr_terminal hterm s) (stepExpr_terminal hterm s)
      (withSkipWs_sim hws hrec fun _ => Rel.pure _)
  | some (.error msg) =>
    exact Rel.congr (stepExpr_terminal_error hterm s) (stepExpr_terminal_error hterm s) (Rel.pure _)
  | none =>
  cases e with
  | range | lit | eoi => simp [terminalOf] at hterm
  | choice alts =>
    simp only [okE] at he
    match alts, he with
    | [], _ => exact Rel.pure _
    | [a], he => exact hrec.expr ctx a s (okL_cons.1 he).1
    | a :: b :: rest, he => exact evalAlts_sim hrec _ _ he
  | seq parts =>
    simp only [okE] at he
    match parts, he with
    | [], _ => exact Rel.pure _
    | [a], he => exact hrec.expr ctx a s (okL_cons.1 he).1
    | a :: b :: rest, he =>
      refine Rel.bind (evalSeq_sim hrec _ _ _ _ he) (fun v s' => ?_)
      obtain ⟨seen, acc⟩ := v
      cases hp : project (filterRuleFields ctx.ruleFields (ownFields env (.seq (a :: b :: rest)))) acc with
      | error m => simp only [hp]; exact Rel.pure _
      | ok v => simp only [hp]; exact Rel.pure _
  | group b => simp only [okE] at he; exact hrec.expr ctx b s he
  | opt b =>
    simp only [okE] at he
    refine Rel.congr (opt_step env ctx rec n b s) (opt_step env ctx rec2 n b s)
      (Rel.caseR (hrec.expr ctx b s he) (fun _ _ => Rel.pure _) fun e => ?_)
    cases defaults (filterRuleFields ctx.ruleFields (ownFields env b)) <;> exact Rel.pure _
  | closure b plus =>
    simp only [okE] at he
    show Rel u u2 (fun g => stepExpr env rec n ctx (.closure b plus) s g)
      (fun g => stepExpr env rec2 n ctx (.closure b plus) s g)
    simp only [stepExpr]
    cases hinit : closureInit (filterRuleFields ctx.ruleFields (ownFields env b)) with
    | error m => simp only []; exact Rel.pure _
    | ok init =>
      simp only []
      exact Rel.bind (evalLoop_sim (hrec.expr ctx b · he) _ _ _ _)
        (fun v s' => Rel.ite (Rel.pure _) (Rel.pure _))
  | neg b =>
    simp only [okE] at he
    exact Rel.congr (neg_step env ctx rec n b s) (neg_step env ctx rec2 n b s)
      (Rel.caseR (hrec.expr ctx b s he) (fun _ _ => Rel.pure _) fun _ => Rel.pure _)
  | pos b =>
    simp only [okE] at he
    exact Rel.bind (hrec.expr ctx b s he) (fun _ _ => Rel.pure _)
  | incl r =>
    simp only [okE] at he
    show Rel u u2 (fun g => stepExpr env rec n ctx (.incl r) s g)
      (fun g => stepExpr env rec2 n ctx (.incl r) s g)
    simp only [stepExpr]
    cases hf : env.g.findRule r with
    | none => simp only []; exact Rel.pure _
    | some rule => simp only []; exact hrec.expr ctx _ s (closed_incl hcl he hf)
  | field name boxed typ =>
    simp only [okE] at he
    show Rel u u2 (fun g => stepExpr env rec n ctx (.field name boxed typ) s g)
      (fun g => stepExpr env rec2 n ctx (.field name boxed typ) s g)
    simp only [stepExpr]
    refine withSkipWs_sim hws hrec (fun s => Rel.bind (hrec.rule typ s he) (fun v s' => ?_))
    cases name with
    | none => exact Rel.pure _
    | some nm =>
      simp only []
      cases hp : postprocessField ctx.ruleFields nm.key typ v with
      | error m => simp only []; exact Rel.pure _
      | ok fv => simp only []; exact Rel.pure _

/-! ### rule level -/

theorem runChecks_sim (hp : PureHooks env.hooks) (hh : HookAgree env.hooks u u2) :
    ∀ fs v s, Rel u u2 (runChecks env fs v s) (runChecks env fs v s) := by
  intro fs
  induction fs with
  | nil => intro v s; exact Rel.pure _
  | cons f fs ih =>
    intro v s g g2 r g2' h hg hg2
    subst hg hg2
    simp only [runChecks] at h ⊢
    have e : (env.hooks.check ("::".intercalate f) v g.uctx).1 =
        (env.hooks.check ("::".intercalate f) v g2.uctx).1 := hh.2 _ _
    rw [e]
    split at h
    · rename_i hc
      cases h
      simp only [if_pos hc]
      refine ⟨_, rfl, ?_, ?_⟩ <;> exact hp.2 _ _ _
    · rename_i hc
      simp only [if_neg hc]
      refine ih _ _ _ _ _ _ h ?_ ?_ <;> exact hp.2 _ _ _

theorem ruleBody_sim (hrec : USim R u u2 rec rec2) (hp : PureHooks env.hooks)
    (hh : HookAgree env.hooks u u2) (r0 : Rule) (hok : okE R r0.definition = true) (s : St) :
    Rel u u2 (ruleBody env rec r0 s) (ruleBody env rec2 r0 s) := by
  show Rel u u2 (fun g => ruleBody env rec r0 s g) (fun g => ruleBody env rec2 r0 s g)
  cases hf : getFields env.g env.nf r0.definition with
  | ok fields =>
    simp only [ruleBody_eq hf]
    refine Rel.ite (Rel.pure _) (Rel.bind (hrec.expr _ _ _ hok) fun p s' => ?_)
    cases ruleValue r0 fields s p s' with
    | ok v => exact runChecks_sim hp hh _ _ _
    | error m => exact Rel.pure _
  | err | fuel => simp only [ruleBody, hf]; exact Rel.pure _

theorem charParts_sim (hrec : USim R u u2 rec rec2) (name : String) : ∀ ps s,
    (ps.all (fun p => match p with | .ident id => R.contains id | _ => true) = true) →
    Rel u u2 (charParts rec name ps s) (charParts rec2 name ps s) := by
  intro ps
  induction ps with
  | nil => intro s _; exact Rel.pure _
  | cons p ps ih =>
    intro s hok
    simp only [List.all_cons, Bool.and_eq_true] at hok
    refine Rel.congr (charParts_step rec name p ps s) (charParts_step rec2 name p ps s)
      (Rel.caseR ?_ (fun _ _ => Rel.pure _) fun _ => ih s hok.2)
    cases p with
    | chr item => dsimp only; cases item.toChar <;> exact Rel.pure _
    | range lo hi => dsimp only; cases lo.toChar <;> cases hi.toChar <;> exact Rel.pure _
    | ident id => exact hrec.rule id s hok.1

theorem charRule_sim (hrec : USim R u u2 rec rec2) (r0 : CharRule)
    (hok : r0.choices.all (fun p => match p with | .ident id => R.contains id | _ => true) = true)
    (s : St) : Rel u u2 (charRule env rec r0 s) (charRule env rec2 r0 s) := by
  show Rel u u2 (fun g => charRule env rec r0 s g) (fun g => charRule env rec2 r0 s g)
  simp only [charRule]
  refine Rel.ite (charParts_sim hrec _ _ _ hok) ?_
  cases decodeHead s.rest with
  | none => exact Rel.pure _
  | some c =>
    obtain ⟨l, -, hcc⟩ := charChecks_eq env r0.name r0.directives c
    simp only [hcc]
    cases charChecksOk env r0.directives c <;> simp only [Bool.false_eq_true, if_false, if_true]
    · exact (Rel.pure _).comap (fun g => { g with log := l ++ g.log }) fun _ => rfl
    · exact (charParts_sim hrec _ _ _ hok).comap (fun g => { g with log := l ++ g.log }) fun _ => rfl

theorem externRule_sim (hp : PureHooks env.hooks) (hh : HookAgree env.hooks u u2) (r0 : ExternRule)
    (s : St) : Rel u u2 (externRule env r0 s) (externRule env r0 s) := by
  intro g g2 r g2' h hg hg2
  subst hg hg2
  unfold externRule at h ⊢
  simp only at h ⊢
  have e : (env.hooks.extern ("::".intercalate r0.function) s.rest g.uctx).1 =
      (env.hooks.extern ("::".intercalate r0.function) s.rest g2.uctx).1 := hh.1 _ _
  rw [e]
  split at h
  · rename_i v adv hres
    cases h; simp only [hres]; refine ⟨_, rfl, ?_, ?_⟩ <;> exact hp.1 _ _ _
  · rename_i msg hres
    cases h; simp only [hres]; refine ⟨_, rfl, ?_, ?_⟩ <;> exact hp.1 _ _ _

end Sim

/-! ## 3. the grammar without `@leftrec` directives

  Stripping the `@leftrec` directive from every rule changes nothing except the `leftRecursive` flag:
  field analysis, the construct evaluators of the implementation model (with the same `rec`), the rule
  bodies, and the whole reference semantics are unchanged.  The stripped grammar satisfies `NoLeftrec`,
  so the completeness theorem of CompleteLR.lean applies to it with an empty class hypothesis
  (`lrHyp_strip`). -/

def stripRule (r : Rule) : Rule := { r with directives := r.directives.filter (fun d => d != .leftrec) }
def stripEntry : RuleEntry → RuleEntry
  | .rule r => .rule (stripRule r)
  | e => e
def stripG (g : Grammar) : Grammar := ⟨g.rules.map stripEntry⟩
def stripEnv (env : Env) : Env := { env with g := stripG env.g }

@[simp] theorem stripRule_name (r : Rule) : (stripRule r).name = r.name := rfl
@[simp] theorem stripRule_definition (r : Rule) : (stripRule r).definition = r.definition := rfl
@[simp] theorem stripEnv_g (env : Env) : (stripEnv env).g = stripG env.g := rfl
@[simp] theorem stripEnv_settings (env : Env) : (stripEnv env).settings = env.settings := rfl
@[simp] theorem stripEnv_hooks (env : Env) : (stripEnv env).hooks = env.hooks := rfl
@[simp] theorem stripEnv_nf (env : Env) : (stripEnv env).nf = env.nf := rfl

/-! ### directives, flags, checks -/

theorem stripRule_checks (r : Rule) : (stripRule r).checks = r.checks :=
  r.checks_filter fun _ => rfl

theorem stripRule_flags (r : Rule) : (stripRule r).flags = { r.flags with leftRecursive := false } := by
  rw [Rule.flags_eq (stripRule r), Rule.flags_eq r]
  simp [stripRule, List.contains_eq_mem, List.mem_filter]

/-! ### stripping is a rule-wise edit of directives (MapRules.lean): lookup, field analysis -/

theorem sameRef_strip : SameRef stripRule :=
  ⟨fun _ => rfl, fun _ => rfl, stripRule_checks, fun r => by rw [stripRule_flags],
   fun r => by rw [stripRule_flags], fun r => by rw [stripRule_flags]⟩

theorem stripEntry_eq : stripEntry = RuleEntry.mapRule stripRule := by
  funext e; cases e <;> rfl

theorem stripG_eq (g : Grammar) : stripG g = g.mapRules stripRule := by
  unfold stripG Grammar.mapRules
  rw [stripEntry_eq]

theorem stripEnv_eq (env : Env) : stripEnv env = env.mapRules stripRule := by
  unfold stripEnv Env.mapRules
  rw [stripG_eq]

theorem stripG_find (g : Grammar) (n : String) : (stripG g).find n = (g.find n).map stripEntry := by
  rw [stripG_eq, stripEntry_eq]
  exact Grammar.find_mapRules sameRef_strip.name g n

theorem stripG_findRule (g : Grammar) (n : String) : (stripG g).findRule n = (g.findRule n).map stripRule := by
  rw [stripG_eq]
  exact Grammar.findRule_map _ sameRef_strip.name g n

theorem noLeftrec_strip (g : Grammar) : NoLeftrec (stripG g) := by
  intro r hr
  simp only [stripG, List.mem_map] at hr
  obtain ⟨e, _, he⟩ := hr
  cases e with
  | rule r' =>
    simp only [stripEntry, RuleEntry.rule.injEq] at he
    subst he
    rw [stripRule_flags]
  | charRule r' => simp [stripEntry] at he
  | externRule r' => simp [stripEntry] at he

theorem getFields_strip (g : Grammar) (n : Nat) (e : Expr) : getFields (stripG g) n e = getFields g n e := by
  rw [stripG_eq, getFields_mapRules sameRef_strip]

theorem ownFields_strip (env : Env) (e : Expr) : ownFields (stripEnv env) e = ownFields env e := by
  rw [stripEnv_eq]
  exact ownFields_mapRules sameRef_strip env e

/-! ### implementation model, same `rec` on both sides -/

theorem evalSeq_strip (env : Env) (rec : Rec) (ctx : Ctx) :
    evalSeq (stripEnv env) rec ctx = evalSeq env rec ctx := by
  funext ps
  induction ps with
  | nil => rfl
  | cons p ps ih => funext seen acc s g; simp only [evalSeq, ownFields_strip, ih]

theorem evalAlts_strip (env : Env) (rec : Rec) (ctx : Ctx) (fields : List FieldDesc) :
    evalAlts (stripEnv env) rec ctx fields = evalAlts env rec ctx fields := by
  funext as
  induction as with
  | nil => rfl
  | cons a as ih => funext s g; simp only [evalAlts, ownFields_strip, ih]

theorem stepExpr_strip (env : Env) (rec : Rec) (n : Nat) (ctx : Ctx) (e : Expr) (s : St) (g : Global) :
    stepExpr (stripEnv env) rec n ctx e s g = stepExpr env rec n ctx e s g := by
  cases e with
  | choice alts =>
    match alts with
    | [] | [_] => rfl
    | _ :: _ :: _ => simp only [stepExpr, ownFields_strip, evalAlts_strip]
  | seq parts =>
    match parts with
    | [] | [_] => rfl
    | _ :: _ :: _ => simp only [stepExpr, ownFields_strip, evalSeq_strip]
  | opt b | closure b p => simp only [stepExpr, ownFields_strip]
  | incl r =>
    simp only [stepExpr, stripEnv_g, stripG_findRule]
    cases env.g.findRule r <;> rfl
  | _ => rfl

theorem ruleBody_strip (env : Env) (rec : Rec) (r : Rule) (s : St) (g : Global) :
    ruleBody (stripEnv env) rec (stripRule r) s g = ruleBody env rec r s g := by
  simp only [ruleBody, stripRule_flags, stripRule_checks, stripRule_name, stripRule_definition,
    stripEnv_g, stripEnv_nf, stripEnv_settings, getFields_strip, runChecks_congr_hooks (stripEnv_hooks env)]

theorem charRule_strip (env : Env) (rec : Rec) (r : CharRule) (s : St) (g : Global) :
    charRule (stripEnv env) rec r s g = charRule env rec r s g := by
  simp only [charRule, charChecks_congr_hooks (stripEnv_hooks env)]

/-! ### reference semantics -/

theorem Spec_evalSeq_strip (env : Env) (rec : Spec.SRec) (ctx : Ctx) :
    Spec.evalSeq (stripEnv env) rec ctx = Spec.evalSeq env rec ctx := by
  funext ps
  induction ps with
  | nil => rfl
  | cons p ps ih => funext seen acc s; simp only [Spec.evalSeq, ownFields_strip, ih]

theorem Spec_evalAlts_strip (env : Env) (rec : Spec.SRec) (ctx : Ctx) (fields : List FieldDesc) :
    Spec.evalAlts (stripEnv env) rec ctx fields = Spec.evalAlts env rec ctx fields := by
  funext as
  induction as with
  | nil => rfl
  | cons a as ih => funext s; simp only [Spec.evalAlts, ownFields_strip, ih]

theorem Spec_externRule_strip (env : Env) (u : Nat) (r : ExternRule) (s : St) :
    Spec.externRule (stripEnv env) u r s = Spec.externRule env u r s := rfl

theorem Spec_eval_strip (env : Env) (u : Nat) : ∀ m, Spec.eval (stripEnv env) u m = Spec.eval env u m := by
  rw [stripEnv_eq]
  exact Spec.eval_mapRules sameRef_strip env u

/-! ## 4. the simulation, between the grammar and its `@leftrec`-free copy -/

section Sim2
variable {u u2 : Nat} {env : Env} {R : List String} {rec rec2 : Rec}

theorem normalRule_plain {env : Env} {rec : Rec} {n : Nat} {r0 : Rule} {s : St} {g : Global}
    (hlr : r0.flags.leftRecursive = false) (hm : r0.flags.memoize = false) :
    normalRule env rec n r0 s g =
      match ruleBody env rec r0 s (g.emit (.traceStart r0.name s.off)) with
      | none => none
      | some (res, g') => some (res, traceResult g' res) := by
  unfold normalRule
  simp only [memoBody_plain hlr (by simp [hm])]
  rfl

theorem stepRule_sim (hcl : closedB env.g R = true) (hrec : USim R u u2 rec rec2)
    (hp : PureHooks env.hooks) (hh : HookAgree env.hooks u u2) (n : Nat) (name : String) (s : St)
    (hn : R.contains name = true) :
    Rel u u2 (stepRule env rec n name s) (stepRule (stripEnv env) rec2 n name s) := by
  have hent := closedB_entry hcl hn
  unfold entryOk at hent
  show Rel u u2 (fun g => stepRule env rec n name s g) (fun g => stepRule (stripEnv env) rec2 n name s g)
  simp only [stepRule, stripEnv_g, stripG_find]
  cases hfind : env.g.find name with
  | none => exact Rel.ite (Rel.pure _) (Rel.ite (Rel.pure _) (Rel.pure _))
  | some ent =>
    cases ent with
    | rule r0 =>
      simp only [hfind, Bool.and_eq_true, Bool.not_eq_true'] at hent
      obtain ⟨⟨⟨hlr, hmemo⟩, hok⟩, _⟩ := hent
      have hlr2 : (stripRule r0).flags.leftRecursive = false := by rw [stripRule_flags]
      have hmemo2 : (stripRule r0).flags.memoize = false := by rw [stripRule_flags]; exact hmemo
      intro g g2 r g2' h hg hg2
      simp only [Option.map_some, stripEntry] at h ⊢
      rw [normalRule_plain hlr2 hmemo2, ruleBody_strip] at h
      rw [normalRule_plain hlr hmemo]
      simp only [stripRule_name] at h
      split at h
      · cases h
      · rename_i res g12 hb
        obtain ⟨g1, e1, hg1, hg12⟩ := ruleBody_sim hrec hp hh r0 hok s
          (g.emit (.traceStart r0.name s.off)) _ _ _ hb hg hg2
        cases h
        simp only [e1]
        exact ⟨_, rfl, by rw [traceResult_uctx]; exact hg1, by rw [traceResult_uctx]; exact hg12⟩
    | charRule r0 =>
      simp only [hfind, Bool.and_eq_true] at hent
      exact Rel.congr (fun _ => rfl) (charRule_strip env rec2 r0 s) (charRule_sim hrec r0 hent.1 s)
    | externRule r0 => exact externRule_sim hp hh r0 s

theorem step_sim (hcl : closedB env.g R = true) (hrec : USim R u u2 rec rec2)
    (hp : PureHooks env.hooks) (hh : HookAgree env.hooks u u2) (n : Nat) :
    USim R u u2 (step env rec n) (step (stripEnv env) rec2 n) := by
  constructor
  · intro ctx e s he
    refine Rel.congr (fun _ => rfl) (fun g => ?_) (stepExpr_sim hcl hrec n ctx e s he)
    exact stepExpr_strip env rec2 n ctx e s g
  · intro name s hn
    exact stepRule_sim hcl hrec hp hh n name s hn

/-- **cache independence.**  On expressions and rules that only reach rules of a closed set `R`
    (no `@memoize`, no `@leftrec` rule in it), the model of the generated parser gives – at equal
    fuel, from any global state – the result (value, end state including `far`, error) it gives in
    the grammar without `@leftrec` directives from any other global state with an equivalent user
    context. -/
theorem eval_sim (hcl : closedB env.g R = true) (hp : PureHooks env.hooks)
    (hh : HookAgree env.hooks u u2) : ∀ n, USim R u u2 (eval env n) (eval (stripEnv env) n) := by
  intro n
  induction n with
  | zero =>
    exact ⟨fun _ _ _ _ _ _ _ _ h => by simp [eval] at h, fun _ _ _ _ _ _ _ h => by simp [eval] at h⟩
  | succ n ih => exact step_sim hcl ih hp hh n

end Sim2

/-! ## 5. `DirectLeftRec`, relative to a set of user contexts

  `DirectLeftRec` (LeftRec.lean) quantifies over *every* global state, hence over every user context.
  The result of a body evaluation may depend on the user context (user hooks read it), so the
  syntactic theorem below proves the variant `DirectLeftRecOn P`: the clauses are required for the
  global states whose user context satisfies `P`, and the body evaluations keep the user context.
  A `P` that holds of every context gives `DirectLeftRec` back; `P = (HookAgree env.hooks · u)`, the contexts
  at which the hooks answer as at `u`, is what pure hooks give. -/

abbrev DirectLeftRecOn (P : Nat → Prop) (body : St → Global → Out Val) (key : String × Nat) (s : St)
    (e0 : PErr) (b0 : Val) (ext : Nat → Val → Val) (st : Nat → St) (m : Nat) : Prop :=
  DirectGen (fun g => P g.uctx) (fun g g' => g'.uctx = g.uctx) body key s e0 b0 ext st m

theorem DirectLeftRecOn.toDirect {P : Nat → Prop} {body : St → Global → Out Val} {key : String × Nat} {s : St}
    {e0 : PErr} {b0 : Val} {ext : Nat → Val → Val} {st : Nat → St} {m : Nat}
    (H : DirectLeftRecOn P body key s e0 b0 ext st m) (hP : ∀ u, P u) :
    DirectLeftRec body key s e0 b0 ext st m where
  base := fun g => by obtain ⟨g', h, _⟩ := H.base g (hP _); exact ⟨g', h⟩
  step := fun i hi g => by obtain ⟨g', h, _⟩ := H.step i hi g (hP _); exact ⟨g', h⟩
  mono := H.mono
  stop := fun g => by
    rcases H.stop g (hP _) with ⟨e, g', h, _⟩ | ⟨v', ns, g', h, hle, _⟩
    · exact .inl ⟨e, g', h⟩
    · exact .inr ⟨v', ns, g', h, hle⟩

/-- `f` answers `r` from every global state whose user context satisfies `P`, keeping the context -/
def Ans (P : Nat → Prop) {α} (f : Global → Out α) (r : Res α) : Prop :=
  ∀ g, P g.uctx → ∃ g', f g = some (r, g') ∧ g'.uctx = g.uctx

/-- the same, from the global states that hold `seed` under `key` -/
def AnsS (P : Nat → Prop) (key : String × Nat) (seed : Res Val) {α} (f : Global → Out α) (r : Res α) :
    Prop :=
  ∀ g, P g.uctx → g.lookup key = some seed → ∃ g', f g = some (r, g') ∧ g'.uctx = g.uctx

/-! ## 5b. from the reference semantics to the model, on `R` -/

section Bridge
variable {env : Env} {R : List String} {u : Nat}

/-- every state is a cursor into some input: this one (only used to instantiate the refinement theorems, each
    time at the state the run starts from) -/
def inpOf (s : St) : List UInt8 := List.replicate s.off 0 ++ s.rest

/-- the grammar without `@leftrec` is in the class of CompleteLR.lean, whatever the avoid sets -/
theorem lrHyp_strip (env : Env) : LRHyp (stripEnv env) (fun _ => []) :=
  lrHyp_of_noLeftrec (noLeftrec_strip env.g) _

/-- with the fresh global state, no growing head and no seed, every cursor stands at every position -/
theorem at_fresh (env : Env) (u : Nat) (s : St) (P : PosP) :
    CLR.At env u (inpOf s) (fun _ => []) [] [] s (Global.init u) P :=
  ⟨CLR.preLR_fresh (by simp [WfSt, inpOf]) (by simp [LR.Within, inpOf]), fun Q hq => (by cases hq),
    compat_init _ _ _⟩

/-- at the fuel `k`, `f2` answers `r'` from the fresh global state; `f` simulates `f2` at equal fuel and is monotone in
    its fuel.  Then `f` answers `r'` from every global state at whose user context the hooks answer as at `u`, at
    every fuel from `k` on. -/
theorem bridge {α} {f : Nat → Global → Out α} {f2 : Global → Out α} {k : Nat} {r' : Res α} {g2' : Global}
    (hsim : ∀ u', HookAgree env.hooks u' u → Rel u' u (f k) f2)
    (hmono : ∀ n g y, k ≤ n → f k g = some y → f n g = some y)
    (hx : f2 (Global.init u) = some (r', g2')) :
    ∀ n, k ≤ n → Ans (HookAgree env.hooks · u) (f n) r' := by
  intro n hn g hg
  obtain ⟨g', e', hu', _⟩ := hsim _ hg g (Global.init u) r' g2' hx rfl rfl
  exact ⟨g', hmono n g _ hn e', hu'⟩

/-- a reference answer of a sequence of parts that only reach `R` is the model's answer (modulo `abs`), from every
    global state, at every fuel from that of the reference on -/
theorem bridge_seq (hcl : closedB env.g R = true) (hp : PureHooks env.hooks)
    {ctx : Ctx} {ps : List Expr} (hok : okL R ps = true)
    {seen : List String} {acc : Parsed} {s1 : St} {k : Nat}
    {r : Res (List String × Parsed)}
    (h : Spec.evalSeq env (Spec.eval env u k) ctx ps seen acc (clr s1) = some r) :
    ∃ r', abs r' = r ∧
      ∀ n, k ≤ n → Ans (HookAgree env.hooks · u) (evalSeq env (eval env n) ctx ps seen acc s1) r' := by
  rw [← Spec_eval_strip, ← Spec_evalSeq_strip, ← SpecLR.eval_eq_spec (noLeftrec_strip env.g) u k []] at h
  obtain ⟨r', g', hx, ha⟩ := (CLR.eval_compLR (env := stripEnv env) hp (lrHyp_strip env) k).seqAt h (at_fresh _ u s1 _)
  rw [evalSeq_strip] at hx
  exact ⟨r', ha, bridge (fun u' hu => evalSeq_sim (eval_sim hcl hp hu k) ps seen acc s1 hok)
    (fun n g y hn => evalSeq_le (eval_mono env hn) ps seen acc s1 g y) hx⟩

theorem bridge_alts (hcl : closedB env.g R = true) (hp : PureHooks env.hooks)
    {ctx : Ctx} {fields : List FieldDesc}
    {as : List Expr} (hok : okL R as = true) {s1 : St} {k : Nat} {r : Res Parsed}
    (h : Spec.evalAlts env (Spec.eval env u k) ctx fields as (clr s1) = some r) :
    ∃ r', abs r' = r ∧
      ∀ n, k ≤ n → Ans (HookAgree env.hooks · u) (evalAlts env (eval env n) ctx fields as s1) r' := by
  rw [← Spec_eval_strip, ← Spec_evalAlts_strip, ← SpecLR.eval_eq_spec (noLeftrec_strip env.g) u k []] at h
  obtain ⟨r', g', hx, ha⟩ := (CLR.eval_compLR (env := stripEnv env) hp (lrHyp_strip env) k).altsAt h (at_fresh _ u s1 _)
  rw [evalAlts_strip] at hx
  exact ⟨r', ha, bridge (fun u' hu => evalAlts_sim (eval_sim hcl hp hu k) as s1 hok)
    (fun n g y hn => evalAlts_le (eval_mono env hn) as s1 g y) hx⟩

theorem bridge_rule (hcl : closedB env.g R = true) (hp : PureHooks env.hooks)
    {name : String} (hn : R.contains name = true)
    {s1 : St} {k : Nat} {r : Res Val}
    (h : (Spec.eval env u k).rule name (clr s1) = some r) :
    ∃ r', abs r' = r ∧ ∀ n, k ≤ n → Ans (HookAgree env.hooks · u) ((eval env n).rule name s1) r' := by
  rw [← Spec_eval_strip, ← SpecLR.eval_eq_spec (noLeftrec_strip env.g) u k []] at h
  obtain ⟨r', g', hx, ha, _⟩ := (CLR.eval_compLR (env := stripEnv env) hp (lrHyp_strip env) k).rule h (at_fresh _ u s1 _)
  exact ⟨r', ha, bridge (fun u' hu => (eval_sim hcl hp hu k).rule name s1 hn)
    (fun n g y hn => (eval_mono env hn).rule name s1 g y) hx⟩

end Bridge

/-! ## 6. the shape `A = l:*A x… | b…` and its body, one seed at a time -/

/-- the recursive field `l:*A` -/
def recFieldE (l A : String) : Expr := .field (some (.ident l)) true A
/-- the recursive alternative `l:*A x…` -/
def recAlt (l A : String) (xs : List Expr) : Expr := .seq (recFieldE l A :: xs)
/-- the generation context of the rule -/
def shapeCtx (env : Env) (r : Rule) (F : List FieldDesc) : Ctx :=
  { skipWs := env.settings.skipWhitespace && !r.flags.noSkipWs, ruleFields := F }
/-- what `generate_postprocess_calls` makes of the recursive call's value: `Box`, enum wrapper if the
    field has several types, `Some` / `vec![…]` according to the field's arity.  For the usual shape
    (the field `l` only occurs here) this is `Some(Box(v))`. -/
def recVal (fl : FieldDesc) (A : String) (v : Val) : Val :=
  let v := Val.boxed v
  let v := if fl.types.length > 1 then Val.variant A v else v
  match fl.arity with
  | .one => v
  | .optional => .some v
  | .multiple => .list [v]
/-- the rule-level fields of the whole choice / of the recursive alternative -/
def choiceF (env : Env) (F : List FieldDesc) (l A : String) (xs rest : List Expr) : List FieldDesc :=
  filterRuleFields F (ownFields env (.choice (recAlt l A xs :: rest)))
def altOwn (env : Env) (l A : String) (xs : List Expr) : List FieldDesc := ownFields env (recAlt l A xs)
def altF (env : Env) (F : List FieldDesc) (l A : String) (xs : List Expr) : List FieldDesc :=
  filterRuleFields F (altOwn env l A xs)
/-- the `position` field of the node (`@position` rules) -/
def posOf (r : Rule) (s s' : St) : Option (Nat × Nat) :=
  if r.flags.position then some (s.off, s'.off) else none

/-- **the syntactic shape.**  `r` is the `@leftrec` struct rule `A = l:*A xs… | rest…` (one recursive
    alternative, first; `rest` are the base alternatives), without `@check`s; the field analysis of
    the generator gives `F`, with `fl` the descriptor of `l`; `R` is a set of rule names closed under
    references, free of `@memoize` / `@leftrec` rules and containing `Whitespace` (`closedB`), that
    contains every rule referenced by `xs` and `rest` (so they cannot reach `A`); hooks are pure.
    Every clause except `pure` is decidable. -/
structure LeftRecShape (env : Env) (r : Rule) (A l : String) (xs rest : List Expr) (R : List String)
    (F : List FieldDesc) (fl : FieldDesc) : Prop where
  find : env.g.find A = some (.rule r)
  lr : r.flags.leftRecursive = true
  notString : r.flags.string = false
  noChecks : r.checks = []
  defn : r.definition = .choice (recAlt l A xs :: rest)
  xs_ne : xs ≠ []
  rest_ne : rest ≠ []
  fields : getFields env.g env.nf r.definition = .ok F
  noOverride : hasField F "_override" = false
  recField : filterRuleFields F (ownFields env (recFieldE l A)) = [fl]
  recFind : findField F l = some fl
  recName : fl.name = l
  recType : fl.types.find? (·.1 == A) = some (A, true)
  closed : closedB env.g R = true
  xs_ok : okL R xs = true
  rest_ok : okL R rest = true
  pure : PureHooks env.hooks

section Body
variable {P : Nat → Prop} {key : String × Nat} {seed : Res Val}

theorem Ans.congr {α} {f f' : Global → Out α} {r : Res α} (he : ∀ g, f g = f' g) (h : Ans P f' r) :
    Ans P f r := fun g hg => by rw [he]; exact h g hg

/-- eventually, in the recursion fuel `n`, `F n` answers `r` from the global states that hold `seed` under `key` -/
def EvS (P : Nat → Prop) (key : String × Nat) (seed : Res Val) {α} (F : Nat → Global → Out α) (r : Res α) :
    Prop :=
  ∃ N, ∀ n, N ≤ n → AnsS P key seed (F n) r

/-- `F n` is determined by the answer of `f n` -/
theorem EvS.map {α β} {f : Nat → Global → Out α} {F : Nat → Global → Out β} {rf : Res α} {r : Res β}
    (hf : EvS P key seed f rf) (h : ∀ n g g1, f n g = some (rf, g1) → F n g = some (r, g1)) :
    EvS P key seed F r :=
  hf.imp fun _ hN n hn g hg hl => (hN n hn g hg hl).imp fun g1 h1 => ⟨h n g g1 h1.1, h1.2⟩

/-- `F n` is determined by the answer of `f n` and the answer of `k (n + c)` from the global state `f n` leaves;
    `k` answers from the fuel `K` on -/
theorem EvS.seq {α β γ} {f : Nat → Global → Out α} {k : Nat → Global → Out β} {F : Nat → Global → Out γ}
    {rf : Res α} {rk : Res β} {r : Res γ} {K : Nat} (hf : EvS P key seed f rf) (c : Nat)
    (hk : ∀ n, K ≤ n → Ans P (k n) rk)
    (h : ∀ n g g1 g2, f n g = some (rf, g1) → k (n + c) g1 = some (rk, g2) → F n g = some (r, g2)) :
    EvS P key seed F r := by
  obtain ⟨N, hN⟩ := hf
  refine ⟨max N K, fun n hn g hg hl => ?_⟩
  obtain ⟨g1, e1, hu1⟩ := hN n (by omega) g hg hl
  obtain ⟨g2, e2, hu2⟩ := hk (n + c) (by omega) g1 (hu1 ▸ hg)
  exact ⟨g2, h n g g1 g2 e1 e2, hu2.trans hu1⟩

/-- the builtin whitespace rule on a state without leading whitespace -/
theorem ws_builtin {env : Env} {rec : Rec} {n : Nat} {s : St} {g : Global}
    (hfind : env.g.find "Whitespace" = none) (h0 : wsPrefixLen s.rest = 0) :
    stepRule env rec n "Whitespace" s g = some (.ok .unit s, g) := by
  unfold stepRule
  simp only [hfind]
  have : ("Whitespace" == "char") = false := by decide +kernel
  simp only [this, Bool.false_eq_true, if_false, beq_self_eq_true, if_true, parseWhitespace, h0,
    List.drop_zero, Nat.add_zero, Res.map]

variable {env : Env} {r : Rule} {A l : String} {xs rest : List Expr} {R : List String}
  {F : List FieldDesc} {fl : FieldDesc}

/-- a call of `A` at fuel `n + 1`: the wrapper around the body, traced -/
theorem rule_eq (H : LeftRecShape env r A l xs rest R F fl) (n : Nat) (s : St) (g : Global) :
    (eval env (n + 1)).rule A s g =
      match memoBody r.flags A (ruleBody env (eval env n) r) n s (g.emit (.traceStart A s.off)) with
      | none => none
      | some (res, g') => some (res, traceResult g' res) := by
  show stepRule env (eval env n) n A s g = _
  simp only [stepRule, H.find, normalRule, find_rule_name H.find]
  rfl

/-- the recursive field at fuel `n + 2`: whitespace skipping, then the call of `A`, its value boxed into the field `l` -/
theorem field_eq (H : LeftRecShape env r A l xs rest R F fl) (n : Nat) (s : St) (g : Global) :
    (eval env (n + 2)).expr (shapeCtx env r F) (recFieldE l A) s g =
      withSkipWs (eval env (n + 1)) (shapeCtx env r F) s g fun sw g1 =>
        bindR ((eval env (n + 1)).rule A sw g1) fun v s' g' => some (.ok [(l, recVal fl A v)] s', g') := by
  have hp : ∀ v, postprocessField F l A v = .ok (recVal fl A v) := fun v => by
    unfold postprocessField recVal
    simp only [H.recFind, H.recType, if_true]
    cases fl.arity <;> rfl
  show stepExpr env (eval env (n + 1)) (n + 1) (shapeCtx env r F) (recFieldE l A) s g = _
  simp only [recFieldE, stepExpr, shapeCtx, FieldName.key, hp]

/-- no leading whitespace for the recursive call: whitespace skipping is off in this rule, or the
    whitespace rule (builtin or user-defined), at `s`, matches the empty string (reference
    semantics) -/
def NoLeadWs (env : Env) (u : Nat) (r : Rule) (s : St) : Prop :=
  (env.settings.skipWhitespace && !r.flags.noSkipWs) = true →
    ∃ k v, (Spec.eval env u k).rule "Whitespace" (clr s) = some (.ok v (clr s))

/-- the decidable special case: the whitespace rule is the builtin one and the input at `s` does
    not start with whitespace -/
theorem noLeadWs_builtin {env : Env} (u : Nat) {r : Rule} {s : St}
    (h : (env.settings.skipWhitespace && !r.flags.noSkipWs) = true →
      env.g.find "Whitespace" = none ∧ wsPrefixLen s.rest = 0) : NoLeadWs env u r s := by
  intro hskip
  obtain ⟨hfind, h0⟩ := h hskip
  refine ⟨1, .unit, ?_⟩
  show Spec.stepRule env u (Spec.eval env u 0) "Whitespace" (clr s) = _
  unfold Spec.stepRule
  have : ("Whitespace" == "char") = false := by decide +kernel
  simp only [hfind, this, Bool.false_eq_true, if_false, beq_self_eq_true, if_true, parseWhitespace,
    clr_rest, h0, List.drop_zero, Nat.add_zero, Res.map, abs]
  rfl

/-- the recursive field `l:*A` at the start state reads the seed -/
theorem field_seed (H : LeftRecShape env r A l xs rest R F fl) {u : Nat} {s : St}
    (hws : NoLeadWs env u r s) (seed : Res Val) :
    EvS (HookAgree env.hooks · u) (A, s.off) seed
      (fun n => (eval env (n + 2)).expr (shapeCtx env r F) (recFieldE l A) s)
      (seed.map fun v => [(l, recVal fl A v)]) := by
  have hcall : ∀ (n : Nat) (sw : St), sw.off = s.off → ∀ g : Global, g.lookup (A, s.off) = some seed →
      ∃ g', bindR ((eval env (n + 1)).rule A sw g) (fun v s' g' => some (.ok [(l, recVal fl A v)] s', g')) =
        some (seed.map fun v => [(l, recVal fl A v)], g') ∧ g'.uctx = g.uctx := by
    intro n sw hsw g hl
    rw [rule_eq H, memoBody_lr_hit H.lr (by rw [hsw]; exact hl)]
    exact ⟨traceResult _ seed, by cases seed <;> rfl, by rw [traceResult_uctx]; rfl⟩
  by_cases hskip : (shapeCtx env r F).skipWs = true
  · obtain ⟨k, vw, hk⟩ := hws hskip
    obtain ⟨r', ha, hN⟩ := bridge_rule H.closed H.pure (closedB_ws H.closed) hk
    obtain ⟨sw, rfl, hclr⟩ := abs_ok ha
    have hsw : sw.off = s.off := by have := congrArg St.off hclr; exact this
    refine ⟨k, fun n hn g hg hl => ?_⟩
    obtain ⟨g1, e1, hu1⟩ := hN (n + 1) (by omega) g hg
    have hl1 : g1.lookup (A, s.off) = some seed :=
      ((LR.eval_inv env 0 (n + 1)).rule "Whitespace" s g _ _ e1).1 _ _ hl
    obtain ⟨g', e', hu'⟩ := hcall n sw hsw g1 hl1
    simp only [field_eq H, withSkipWs, hskip, if_true, e1, bindR]
    exact ⟨g', e', by rw [hu', hu1]⟩
  · refine ⟨0, fun n _ g hg hl => ?_⟩
    simp only [field_eq H, withSkipWs, hskip]
    exact hcall n s rfl g hl

end Body

section Body2
variable {env : Env} {r : Rule} {A l : String} {xs rest : List Expr} {R : List String}
  {F : List FieldDesc} {fl : FieldDesc}

theorem merge_rec (H : LeftRecShape env r A l xs rest R F fl) (x : Val) :
    mergePart [fl] [] [] [(l, x)] = .ok ([l], [(l, x)]) := by
  simp [mergePart, Parsed.get, Parsed.set, H.recName]

/-- the recursive alternative at fuel `n + 3`: the recursive field, then `xs` with what it bound, then the projection -/
theorem alt_eq (H : LeftRecShape env r A l xs rest R F fl) (n : Nat) (s : St) (g : Global) :
    (eval env (n + 3)).expr (shapeCtx env r F) (recAlt l A xs) s g =
      bindR (bindR ((eval env (n + 2)).expr (shapeCtx env r F) (recFieldE l A) s g) fun p sv g1 =>
          match mergePart [fl] [] [] p with
          | .error m => some (.panic ("codegen: " ++ m), g1)
          | .ok (seen, acc) => evalSeq env (eval env (n + 2)) (shapeCtx env r F) xs seen acc sv g1)
        fun p s' g' =>
          match project (altF env F l A xs) p.2 with
          | .ok q => some (.ok q s', g')
          | .error m => some (.panic ("codegen: " ++ m), g') := by
  obtain ⟨y, xs', rfl⟩ := List.exists_cons_of_ne_nil H.xs_ne
  rw [← H.recField]
  rfl

theorem not_override_rule {F : List FieldDesc} (h : hasField F "_override" = false) :
    (F.length == 1 && (F.head?.map (·.name)) == some "_override") = false := by
  cases F with
  | nil => rfl
  | cons f fs =>
    simp only [hasField, List.any_cons, Bool.or_eq_false_iff] at h
    simp [h.1]

/-- the body of the struct rule at fuel `n + 4`: the recursive alternative; if it fails, the base alternatives from the
    start state with its error recorded; then the node -/
theorem body_eq (H : LeftRecShape env r A l xs rest R F fl) (n : Nat) (s : St) (g : Global) :
    ruleBody env (eval env (n + 4)) r s g =
      bindR (caseR ((eval env (n + 3)).expr (shapeCtx env r F) (recAlt l A xs) s g)
          (fun q s' g' =>
            match convertArm (choiceF env F l A xs rest) (altOwn env l A xs) q with
            | .ok p => some (.ok p s', g')
            | .error m => some (.panic ("codegen: " ++ m), g'))
          fun e g' => evalAlts env (eval env (n + 3)) (shapeCtx env r F) (choiceF env F l A xs rest) rest
            (s.recordError e) g')
        (fun p s' g' =>
          match project F p with
          | .ok fs => some (.ok (Val.node A fs (posOf r s s')) s', g')
          | .error m => some (.panic ("codegen: " ++ m), g')) := by
  have hd := H.defn
  obtain ⟨b, rest', rfl⟩ := List.exists_cons_of_ne_nil H.rest_ne
  unfold ruleBody
  simp only [H.fields, H.notString, Bool.false_eq_true, if_false, not_override_rule H.noOverride,
    H.noOverride, H.noChecks, runChecks, find_rule_name H.find]
  rw [hd]
  show bindR (evalAlts env (eval env (n + 3)) (shapeCtx env r F) (choiceF env F l A xs (b :: rest'))
    (recAlt l A xs :: b :: rest') s g) _ = _
  rw [evalAlts_step]
  rfl

end Body2

/-! ## 7. the greedy iteration `b x*` in the reference semantics, and the main theorem -/

/-- **the greedy iteration, in the reference semantics** (`Spec.eval`: no cache, no `far`).
    `pos 0` is where the base alternatives `rest` end when started at `s`, with fields `fs0`;
    `pos (i+1)` is where `xs` end when started at `pos i` (`i < m`), strictly further, with the fields
    of the rule being `fsx i v` when the recursive field holds `v`; at `pos m` the parts `xs` fail or
    match without getting further.  (The plumbing equations `project` / `convertArm` are the
    generator's field bookkeeping: they say how the node's field list is built from the values the
    parts produced.) -/
structure Greedy (env : Env) (u : Nat) (r : Rule) (A l : String) (xs rest : List Expr)
    (F : List FieldDesc) (fl : FieldDesc) (s : St) (pos : Nat → St) (fs0 : Parsed)
    (fsx : Nat → Val → Parsed) (m : Nat) : Prop where
  base : ∃ k p0, Spec.evalAlts env (Spec.eval env u k) (shapeCtx env r F) (choiceF env F l A xs rest)
      rest (clr s) = some (.ok p0 (pos 0)) ∧ project F p0 = .ok fs0
  step : ∀ i, i < m → ∀ v, ∃ k seen acc q q',
    Spec.evalSeq env (Spec.eval env u k) (shapeCtx env r F) xs [l] [(l, recVal fl A v)] (pos i) =
      some (.ok (seen, acc) (pos (i + 1))) ∧
    project (altF env F l A xs) acc = .ok q ∧
    convertArm (choiceF env F l A xs rest) (altOwn env l A xs) q = .ok q' ∧
    project F q' = .ok (fsx i v)
  mono : ∀ i, i < m → (pos i).off < (pos (i + 1)).off
  stop : ∀ v, ∃ k,
    Spec.evalSeq env (Spec.eval env u k) (shapeCtx env r F) xs [l] [(l, recVal fl A v)] (pos m) =
      some (.err noErr) ∨
    ∃ seen acc p' q q' fs,
      Spec.evalSeq env (Spec.eval env u k) (shapeCtx env r F) xs [l] [(l, recVal fl A v)] (pos m) =
        some (.ok (seen, acc) p') ∧ p'.off ≤ (pos m).off ∧
      project (altF env F l A xs) acc = .ok q ∧
      convertArm (choiceF env F l A xs rest) (altOwn env l A xs) q = .ok q' ∧
      project F q' = .ok fs

theorem Greedy.pos_le {env u r A l xs rest F fl s pos fs0 fsx m}
    (G : Greedy env u r A l xs rest F fl s pos fs0 fsx m) : ∀ i, i ≤ m → (pos 0).off ≤ (pos i).off := by
  intro i
  induction i with
  | zero => intro _; exact Nat.le_refl _
  | succ i ih => intro hi; have := G.mono i (by omega); have := ih (by omega); omega

theorem posOf_clr (r : Rule) (s : St) {s1 s2 : St} (h : clr s1 = s2) : posOf r s s2 = posOf r s s1 := by
  subst h; rfl

/-- chains: a start satisfying `B`, and `m` steps -/
theorem chain_exists {α : Type} (G : Nat → α → Prop) (S : Nat → α → α → Prop) (B : α → Prop) :
    ∀ m, (∃ a, G 0 a ∧ B a) → (∀ i, i < m → ∀ a, G i a → ∃ b, G (i + 1) b ∧ S i a b) →
      ∃ st : Nat → α, B (st 0) ∧ (∀ i, i ≤ m → G i (st i)) ∧ ∀ i, i < m → S i (st i) (st (i + 1)) := by
  intro m ⟨a0, ha, hb⟩ hs
  classical
  let st : Nat → α := Nat.rec a0 fun i a => if h : ∃ b, G (i + 1) b ∧ S i a b then h.choose else a
  have hst : ∀ i, i < m → G i (st i) → G (i + 1) (st (i + 1)) ∧ S i (st i) (st (i + 1)) := by
    intro i hi hg
    have h := hs i hi (st i) hg
    show G (i + 1) (dite _ _ _) ∧ S i (st i) (dite _ _ _)
    rw [dif_pos h]
    exact h.choose_spec
  have hG : ∀ i, i ≤ m → G i (st i) := by
    intro i
    induction i with
    | zero => exact fun _ => ha
    | succ i ih => exact fun hi => (hst i (by omega) (ih (by omega))).1
  exact ⟨st, hb, hG, fun i hi => (hst i hi (hG i (by omega))).2⟩

theorem uniform_bound (Q : Nat → Nat → Prop) : ∀ m, (∀ i, i < m → ∃ Ni, ∀ n, Ni ≤ n → Q i n) →
    ∃ N, ∀ i, i < m → ∀ n, N ≤ n → Q i n := by
  intro m
  induction m with
  | zero => intro _; exact ⟨0, fun i hi => by omega⟩
  | succ m ih =>
    intro h
    obtain ⟨N, hN⟩ := ih (fun i hi => h i (by omega))
    obtain ⟨Nm, hNm⟩ := h m (by omega)
    refine ⟨max N Nm, fun i hi n hn => ?_⟩
    by_cases h' : i < m
    · exact hN i h' n (by omega)
    · obtain rfl : i = m := by omega
      exact hNm n (by omega)

/-- base value and extensions of the shape theorem -/
def baseVal (r : Rule) (A : String) (s : St) (pos : Nat → St) (fs0 : Parsed) : Val :=
  Val.node A fs0 (posOf r s (pos 0))
def extVal (r : Rule) (A : String) (s : St) (pos : Nat → St) (fsx : Nat → Val → Parsed) (i : Nat)
    (v : Val) : Val :=
  Val.node A (fsx i v) (posOf r s (pos (i + 1)))

section Main
variable {env : Env} {r : Rule} {A l : String} {xs rest : List Expr} {R : List String}
  {F : List FieldDesc} {fl : FieldDesc} {u : Nat} {s : St} {pos : Nat → St}
  {fs0 : Parsed} {fsx : Nat → Val → Parsed} {m : Nat}

/-- eventually (in the recursion fuel) the body of the rule answers `res` on every global state that
    holds `seed` under `(A, s.off)` and at whose user context the hooks answer as at `u` -/
def BodyAns (env : Env) (u : Nat) (r : Rule) (A : String) (s : St) (seed res : Res Val) : Prop :=
  EvS (HookAgree env.hooks · u) (A, s.off) seed (fun n => ruleBody env (eval env (n + 4)) r s) res

/-- the recursive alternative fails: the body answers the base match -/
theorem body_of_alt_err (H : LeftRecShape env r A l xs rest R F fl)
    (G : Greedy env u r A l xs rest F fl s pos fs0 fsx m) {seed : Res Val} {e : PErr}
    (halt : EvS (HookAgree env.hooks · u) (A, s.off) seed
      (fun n => (eval env (n + 3)).expr (shapeCtx env r F) (recAlt l A xs) s) (.err e)) :
    ∃ sb, clr sb = pos 0 ∧
      BodyAns env u r A s seed (.ok (Val.node A fs0 (posOf r s (pos 0))) sb) := by
  obtain ⟨k, p0, hb, hpr⟩ := G.base
  rw [← clr_recordError s e] at hb
  obtain ⟨r', ha, hN⟩ := bridge_alts H.closed H.pure H.rest_ok hb
  obtain ⟨sb, rfl, hclr⟩ := abs_ok ha
  rw [posOf_clr r s hclr]
  exact ⟨sb, hclr, halt.seq 3 hN fun n g g1 g2 e1 e2 => by
    rw [body_eq H, e1]
    simp only [caseR, e2, bindR, hpr]⟩

/-- the recursive alternative matches (seed `ok v a`, then `xs` from `a`): the body answers the
    extension -/
theorem body_of_alt_ok (H : LeftRecShape env r A l xs rest R F fl) (hws : NoLeadWs env u r s)
    {v : Val} {a : St} {k : Nat} {seen : List String} {acc : Parsed} {p1 : St} {q q' fs : Parsed}
    (hx : Spec.evalSeq env (Spec.eval env u k) (shapeCtx env r F) xs [l] [(l, recVal fl A v)] (clr a) =
      some (.ok (seen, acc) p1))
    (hq : project (altF env F l A xs) acc = .ok q)
    (hconv : convertArm (choiceF env F l A xs rest) (altOwn env l A xs) q = .ok q')
    (hproj : project F q' = .ok fs) :
    ∃ b, clr b = p1 ∧
      BodyAns env u r A s (.ok v a) (.ok (Val.node A fs (posOf r s p1)) b) := by
  obtain ⟨r', ha, hN⟩ := bridge_seq H.closed H.pure H.xs_ok hx
  obtain ⟨b, rfl, hclr⟩ := abs_ok ha
  rw [posOf_clr r s hclr]
  exact ⟨b, hclr, (field_seed H hws (.ok v a)).seq 2 hN
    fun n g g1 g2 e1 e2 => by
      rw [body_eq H, alt_eq H, e1]
      simp only [Res.map, bindR, caseR, merge_rec H, e2, hq, hconv, hproj]⟩

/-- the failing seed: the recursive alternative fails -/
theorem alt_err_of_seed (H : LeftRecShape env r A l xs rest R F fl) (hws : NoLeadWs env u r s) (e : PErr) :
    EvS (HookAgree env.hooks · u) (A, s.off) (.err e)
      (fun n => (eval env (n + 3)).expr (shapeCtx env r F) (recAlt l A xs) s) (.err e) :=
  (field_seed H hws (.err e)).map fun n g g1 e1 => by rw [alt_eq H, e1]; rfl

/-- seed `ok v a`, then `xs` fail from `a`: the recursive alternative fails -/
theorem alt_err_of_xs (H : LeftRecShape env r A l xs rest R F fl) (hws : NoLeadWs env u r s)
    {v : Val} {a : St} {k : Nat}
    (hx : Spec.evalSeq env (Spec.eval env u k) (shapeCtx env r F) xs [l] [(l, recVal fl A v)] (clr a) =
      some (.err noErr)) :
    ∃ e, EvS (HookAgree env.hooks · u) (A, s.off) (.ok v a)
      (fun n => (eval env (n + 3)).expr (shapeCtx env r F) (recAlt l A xs) s) (.err e) := by
  obtain ⟨r', ha, hN⟩ := bridge_seq H.closed H.pure H.xs_ok hx
  obtain ⟨e, rfl⟩ := (abs_err ha).2
  exact ⟨e, (field_seed H hws (.ok v a)).seq 2 hN
    fun n g g1 g2 e1 e2 => by
      rw [alt_eq H, e1]
      simp only [Res.map, bindR, merge_rec H, e2]⟩

/-- **C07, the usual shape, syntactically.**  For a rule of the shape `LeftRecShape`
    (`A = l:*A xs… | rest…`), a start state without leading whitespace (`NoLeadWs`), and the greedy
    iteration `Greedy` of the reference semantics (base at `pos 0`, `m` strict extensions by `xs` at
    `pos 1 … pos m`, then `xs` fail or make no progress): there are implementation states `st i`
    with `clr (st i) = pos i` (same remaining input and offset; only the error bookkeeping `far` is
    the implementation's own) such that for every large enough recursion fuel the body of the rule is
    `DirectLeftRecOn` the user contexts at which the hooks answer as at `u`, with base value `A { fs0 }`
    and extensions `v ↦ A { fsx i v }`. -/
theorem shape_direct (H : LeftRecShape env r A l xs rest R F fl) (hws : NoLeadWs env u r s)
    (G : Greedy env u r A l xs rest F fl s pos fs0 fsx m) :
    ∃ (st : Nat → St) (N : Nat), (∀ i, i ≤ m → clr (st i) = pos i) ∧ ∀ n, N ≤ n →
      DirectLeftRecOn (HookAgree env.hooks · u) (ruleBody env (eval env n) r) (A, s.off) s
        (s.reportError .leftRecursionSentinel) (baseVal r A s pos fs0) (extVal r A s pos fsx) st m := by
  let b0 : Val := baseVal r A s pos fs0
  let ext : Nat → Val → Val := extVal r A s pos fsx
  let e0 := s.reportError .leftRecursionSentinel
  -- the chain of implementation states
  have hbase : ∃ a, clr a = pos 0 ∧ BodyAns env u r A s (.err e0) (.ok b0 a) :=
    body_of_alt_err (seed := .err e0) (e := e0) H G
      (alt_err_of_seed H hws e0)
  have hstep : ∀ i, i < m → ∀ a, clr a = pos i →
      ∃ b, clr b = pos (i + 1) ∧
        BodyAns env u r A s (.ok (nestL ext b0 i) a) (.ok (ext i (nestL ext b0 i)) b) := by
    intro i hi a hca
    obtain ⟨k, seen, acc, q, q', hx, hq, hconv, hproj⟩ := G.step i hi (nestL ext b0 i)
    rw [← hca] at hx
    exact body_of_alt_ok H hws hx hq hconv hproj
  obtain ⟨st, hb, hg, hst⟩ := chain_exists (fun i a => clr a = pos i)
    (fun i a b => BodyAns env u r A s (.ok (nestL ext b0 i) a) (.ok (ext i (nestL ext b0 i)) b))
    (fun a => BodyAns env u r A s (.err e0) (.ok b0 a)) m hbase hstep
  -- the stop clause
  have hstop : ∃ v' ns, ns.off ≤ (st m).off ∧
      BodyAns env u r A s (.ok (nestL ext b0 m) (st m)) (.ok v' ns) := by
    have hcm := hg m (Nat.le_refl _)
    have hoff : (st m).off = (pos m).off := by rw [← hcm]; rfl
    obtain ⟨k, hx | ⟨seen, acc, p', q, q', fs, hx, hle, hq, hconv, hproj⟩⟩ := G.stop (nestL ext b0 m)
    · rw [← hcm] at hx
      obtain ⟨e, halt⟩ := alt_err_of_xs H hws hx
      obtain ⟨sb, h1, h3⟩ := body_of_alt_err H G halt
      refine ⟨_, sb, ?_, h3⟩
      have : sb.off = (pos 0).off := by rw [← h1]; rfl
      have := G.pos_le m (Nat.le_refl _)
      omega
    · rw [← hcm] at hx
      obtain ⟨b, h1, h3⟩ := body_of_alt_ok H hws hx hq hconv hproj
      refine ⟨_, b, ?_, h3⟩
      have : b.off = p'.off := by rw [← h1]; rfl
      omega
  -- one fuel bound for all clauses
  obtain ⟨N0, hN0⟩ := hb
  obtain ⟨Ns, hNs⟩ := uniform_bound
    (fun i n => AnsS (HookAgree env.hooks · u) (A, s.off) (.ok (nestL ext b0 i) (st i))
      (ruleBody env (eval env (n + 4)) r s) (.ok (ext i (nestL ext b0 i)) (st (i + 1)))) m hst
  obtain ⟨v', ns, hle, Nt, hNt⟩ := hstop
  refine ⟨st, max N0 (max Ns Nt) + 4, hg, fun n hn => ?_⟩
  obtain ⟨n, rfl⟩ : ∃ n', n = n' + 4 := ⟨n - 4, by omega⟩
  refine ⟨fun g hg' => ?_, fun i hi g hg' => ?_, fun i hi => ?_, fun g hg' => ?_⟩
  · exact hN0 n (by omega) _ hg' (seeded_lookup _ _ g)
  · exact hNs i hi n (by omega) _ hg' (seeded_lookup _ _ g)
  · have h1 : (st i).off = (pos i).off := by rw [← hg i (by omega)]; rfl
    have h2 : (st (i + 1)).off = (pos (i + 1)).off := by rw [← hg (i + 1) (by omega)]; rfl
    have := G.mono i hi
    omega
  · obtain ⟨g', e', hu'⟩ := hNt n (by omega) (seeded (A, s.off) (.ok (nestL ext b0 m) (st m)) g) hg'
      (seeded_lookup _ _ g)
    exact .inr ⟨v', ns, g', e', hle, hu'⟩

end Main

/-! ## 8. corollaries: `DirectLeftRec`, the rule wrapper, `parse_advanced` -/

section Cor
variable {env : Env} {r : Rule} {A l : String} {xs rest : List Expr} {R : List String}
  {F : List FieldDesc} {fl : FieldDesc} {u : Nat} {s : St} {pos : Nat → St}
  {fs0 : Parsed} {fsx : Nat → Val → Parsed} {m : Nat}

/-- the left-nested tree after `m` extensions -/
def leftTree (r : Rule) (A : String) (s : St) (pos : Nat → St) (fs0 : Parsed)
    (fsx : Nat → Val → Parsed) (m : Nat) : Val :=
  nestL (extVal r A s pos fsx) (baseVal r A s pos fs0) m

/-- hooks whose answers do not depend on the user context: the semantic hypothesis `DirectLeftRec`
    of `C07_direct_memoBody` (LeftRec.lean) itself -/
theorem shape_DirectLeftRec (H : LeftRecShape env r A l xs rest R F fl) (hws : NoLeadWs env u r s)
    (hfree : ∀ u', HookAgree env.hooks u' u)
    (G : Greedy env u r A l xs rest F fl s pos fs0 fsx m) :
    ∃ (st : Nat → St) (N : Nat), (∀ i, i ≤ m → clr (st i) = pos i) ∧ ∀ n, N ≤ n →
      DirectLeftRec (ruleBody env (eval env n) r) (A, s.off) s
        (s.reportError .leftRecursionSentinel) (baseVal r A s pos fs0) (extVal r A s pos fsx) st m := by
  obtain ⟨st, N, h1, h2⟩ := shape_direct H hws G
  exact ⟨st, N, h1, fun n hn => (h2 n hn).toDirect hfree⟩

/-- **C07 for the usual shape, wrapper level**, with the count: on a cache miss the left-recursive
    wrapper (`memoBody`, body run with recursion fuel `n ≥ N`) returns the left-nested tree for every
    loop fuel `k ≥ m + 2` and runs out of loop fuel for `k ≤ m + 1`: it evaluates the body exactly
    `m + 2` times (base, `m` extensions, and the one that fails or makes no progress). -/
theorem shape_memoBody (H : LeftRecShape env r A l xs rest R F fl) {g : Global}
    (hws : NoLeadWs env g.uctx r s)
    (G : Greedy env g.uctx r A l xs rest F fl s pos fs0 fsx m)
    (hmiss : g.lookup (A, s.off) = none) :
    ∃ (se : St) (N : Nat), clr se = pos m ∧ ∀ n, N ≤ n → ∃ g',
      (∀ k, m + 2 ≤ k → memoBody r.flags A (ruleBody env (eval env n) r) k s g =
        some (.ok (leftTree r A s pos fs0 fsx m) se, g')) ∧
      (∀ k, k ≤ m + 1 → memoBody r.flags A (ruleBody env (eval env n) r) k s g = none) ∧
      g'.uctx = g.uctx ∧
      g'.lookup (A, s.off) = some (.ok (leftTree r A s pos fs0 fsx m) se) := by
  obtain ⟨st, N, hclr, hD⟩ := shape_direct H hws G
  refine ⟨st m, N, hclr m (Nat.le_refl _), fun n hn => ?_⟩
  obtain ⟨g', h1, h2, hu, hk⟩ := (hD n hn).memoBody (flags := r.flags) H.lr
    (fun _ _ hg hu => hu ▸ hg) (fun _ _ _ h1 h2 => h2.trans h1) (g := g) (HookAgree.refl _ _) hmiss
  exact ⟨g', h1, h2, hu, hk (ruleBody_keepsKey env n r _ s)⟩

/-- **C07 for the usual shape, rule level.**  A call of `parse_A` (the model: `(eval env n).rule A`)
    at a state `s` without leading whitespace, from a global state that has no entry for
    `(A, s.off)`: for every large enough fuel it returns the left-nested tree
    `ext (m-1) (… (ext 0 b0))`, ending where the greedy iteration `b x*` of the reference semantics
    ends (`clr se = pos m`). -/
theorem shape_rule (H : LeftRecShape env r A l xs rest R F fl) {g : Global}
    (hws : NoLeadWs env g.uctx r s)
    (G : Greedy env g.uctx r A l xs rest F fl s pos fs0 fsx m)
    (hmiss : g.lookup (A, s.off) = none) :
    ∃ (se : St) (N : Nat), clr se = pos m ∧ ∀ n, N ≤ n → ∃ g',
      (eval env n).rule A s g = some (.ok (leftTree r A s pos fs0 fsx m) se, g') := by
  obtain ⟨se, N, hclr, h⟩ := shape_memoBody H (g := g.emit (.traceStart A s.off)) hws G
    (by simpa using hmiss)
  refine ⟨se, max N (m + 2) + 1, hclr, fun n hn => ?_⟩
  obtain ⟨n', rfl⟩ : ∃ n', n = n' + 1 := ⟨n - 1, by omega⟩
  obtain ⟨g', h1, _⟩ := h n' (by omega)
  refine ⟨traceResult g' (.ok (leftTree r A s pos fs0 fsx m) se), ?_⟩
  simp only [rule_eq H, h1 n' (by omega)]

/-- **the other half of "accepts exactly `b x*`"**: if no base alternative matches at `s` (reference
    semantics), the rule fails at `s` – after one body evaluation; the recursive alternative cannot
    start without a base. -/
theorem shape_reject (H : LeftRecShape env r A l xs rest R F fl) {g : Global}
    (hws : NoLeadWs env g.uctx r s)
    (hbase : ∃ k, Spec.evalAlts env (Spec.eval env g.uctx k) (shapeCtx env r F)
      (choiceF env F l A xs rest) rest (clr s) = some (.err noErr))
    (hmiss : g.lookup (A, s.off) = none) :
    ∃ (e : PErr) (N : Nat), ∀ n, N ≤ n → ∃ g',
      (eval env n).rule A s g = some (.err e, g') ∧ g'.uctx = g.uctx := by
  obtain ⟨e0, he0⟩ : ∃ e0, e0 = s.reportError .leftRecursionSentinel := ⟨_, rfl⟩
  obtain ⟨k, hb⟩ := hbase
  rw [← clr_recordError s e0] at hb
  obtain ⟨r', ha, hN⟩ := bridge_alts H.closed H.pure H.rest_ok hb
  obtain ⟨e, rfl⟩ := (abs_err ha).2
  obtain ⟨N, h3⟩ : BodyAns env g.uctx r A s (.err e0) (.err e) :=
    (alt_err_of_seed H hws e0).seq 3 hN
      fun n g g1 g2 e1 e2 => by rw [body_eq H, e1]; simp only [caseR, e2]; rfl
  refine ⟨e, N + 5, fun n hn => ?_⟩
  obtain ⟨n', rfl⟩ : ∃ n', n = n' + 5 := ⟨n - 5, by omega⟩
  obtain ⟨gb, hbody, hub⟩ := h3 n' (by omega)
    (growPre (A, s.off) ((g.emit (.traceStart A s.off)).insert (A, s.off) (.err e0))) (HookAgree.refl _ _)
    (seeded_lookup _ _ _)
  have hmiss' : (g.emit (.traceStart A s.off)).lookup (A, s.off) = none := by simpa using hmiss
  refine ⟨traceResult (gb.insert (A, s.off) (.err e)) (.err e), ?_, by rw [traceResult_uctx]; exact hub⟩
  simp only [rule_eq H, memoBody_lr_miss H.lr hmiss', ← he0,
    (GrowRun.fail (best := .err e0) hbody fun _ _ h => nomatch h).toLoop (n' + 4) (Nat.succ_pos _)]

/-- **C07 for the usual shape, end to end** (`parse_advanced` on the rule `A`): fresh state, fresh
    global state. -/
theorem shape_parse (H : LeftRecShape env r A l xs rest R F fl) (inp : List UInt8) (u : Nat)
    (hws : NoLeadWs env u r (St.new inp))
    (G : Greedy env u r A l xs rest F fl (St.new inp) pos fs0 fsx m) :
    ∃ (se : St) (N : Nat), clr se = pos m ∧ ∀ n, N ≤ n → ∃ g',
      parseAdvanced env n A inp u =
        some (.ok (leftTree r A (St.new inp) pos fs0 fsx m) se, g') :=
  shape_rule (g := Global.init u) H hws G (by simp [Global.init, Global.lookup])

end Cor

/-! ## 8b. the recursive field of every extension holds the previous result -/

theorem hasField_cons (f : FieldDesc) (fs : List FieldDesc) (l : String) :
    hasField (f :: fs) l = ((f.name == l) || hasField fs l) := by
  simp [hasField]

theorem mergePart_get {l : String} : ∀ (inner : List FieldDesc) (seen : List String) (acc r : Parsed)
    {seen' : List String} {acc' : Parsed},
    mergePart inner seen acc r = .ok (seen', acc') → hasField inner l = false →
      acc'.get l = acc.get l := by
  intro inner
  induction inner with
  | nil => intro seen acc r seen' acc' h _; simp only [mergePart, Except.ok.injEq, Prod.mk.injEq] at h
           rw [h.2]
  | cons f fs ih =>
    intro seen acc r seen' acc' h hl
    rw [hasField_cons, Bool.or_eq_false_iff] at hl
    simp only [mergePart] at h
    split at h
    · cases h
    · split at h
      · rw [ih _ _ _ h hl.2, Parsed.get_set, if_neg (by simpa using hl.1)]
      · split at h
        · cases h
        · split at h
          · cases h
          · split at h
            · cases h
            · rw [ih _ _ _ h hl.2, Parsed.get_set, if_neg (by simpa using hl.1)]

theorem spec_evalSeq_get {env : Env} {rec : SRec} {ctx : Ctx} {l : String} :
    ∀ (ps : List Expr) (seen : List String) (acc : Parsed) (s : St) {seen' : List String}
      {acc' : Parsed} {s' : St},
      (∀ x ∈ ps, hasField (filterRuleFields ctx.ruleFields (ownFields env x)) l = false) →
      Spec.evalSeq env rec ctx ps seen acc s = some (.ok (seen', acc') s') → acc'.get l = acc.get l := by
  intro ps
  induction ps with
  | nil =>
    intro seen acc s seen' acc' s' _ h
    simp only [Spec.evalSeq, Option.some.injEq, Res.ok.injEq, Prod.mk.injEq] at h
    rw [h.1.2]
  | cons p ps ih =>
    intro seen acc s seen' acc' s' hx h
    simp only [Spec.evalSeq, bindS] at h
    split at h
    · cases h
    · split at h
      · cases h
      · rename_i sn ac hm
        rw [ih _ _ _ (fun x hx' => hx x (List.mem_cons_of_mem _ hx')) h]
        exact mergePart_get _ _ _ _ hm (hx p List.mem_cons_self)
    · cases h
    · cases h

theorem project_get {l : String} : ∀ (fs : List FieldDesc) (acc : Parsed) {q : Parsed},
    project fs acc = .ok q → hasField fs l = true → q.get l = acc.get l := by
  intro fs
  induction fs with
  | nil => intro acc q _ hl; simp [hasField] at hl
  | cons f fs ih =>
    intro acc q h hl
    simp only [project] at h
    split at h
    · rename_i v p hv hp
      cases h
      rw [Parsed.get_cons]
      by_cases hk : f.name = l
      · rw [if_pos hk, ← hk, hv]
      · rw [if_neg hk]
        rw [hasField_cons, beq_false_of_ne hk, Bool.false_or] at hl
        exact ih acc hp hl
    · cases h
    · cases h

theorem convertArm_go_get {l : String} {inner : List FieldDesc} {q : Parsed}
    (hi : hasField inner l = true) : ∀ (fs : List FieldDesc) {q' : Parsed},
    convertArm.go inner q fs = .ok q' → hasField fs l = true → q'.get l = q.get l := by
  intro fs
  induction fs with
  | nil => intro q' _ hl; simp [hasField] at hl
  | cons f fs ih =>
    intro q' h hl
    simp only [convertArm.go] at h
    split at h
    · rename_i v p' h1 h2
      cases h
      rw [Parsed.get_cons]
      by_cases hk : f.name = l
      · rw [if_pos hk]
        rw [hk, hi] at h1
        simp only [if_true] at h1
        split at h1
        · rename_i v0 hv0; cases h1; exact hv0.symm
        · cases h1
      · rw [if_neg hk]
        rw [hasField_cons, beq_false_of_ne hk, Bool.false_or] at hl
        exact ih h2 hl
    · cases h
    · cases h

theorem convertArm_get {l : String} {fields inner : List FieldDesc} {q q' : Parsed}
    (h : convertArm fields inner q = .ok q') (hf : hasField fields l = true)
    (hi : hasField inner l = true) : q'.get l = q.get l := by
  unfold convertArm at h
  split at h
  · simp [hasField] at hf
  · rename_i f
    have hfl : f.name = l := by
      simp only [hasField, List.any_cons, List.any_nil, Bool.or_false] at hf
      exact eq_of_beq hf
    have hne : inner.isEmpty = false := by
      cases inner with
      | nil => simp [hasField] at hi
      | cons a b => rfl
    simp only [hne, Bool.false_eq_true, if_false] at h
    split at h
    · rename_i v hv
      cases h
      rw [Parsed.get_cons, if_pos hfl, ← hv, hfl]
    · cases h
  · exact convertArm_go_get hi _ h hf

/-- decidable side conditions for the "recursive field" reading: `l` is a field of the rule, of the
    choice and of the recursive alternative, and no part of `xs` has a field named `l` -/
structure RecFieldOnly (env : Env) (F : List FieldDesc) (l A : String) (xs rest : List Expr) : Prop where
  inF : hasField F l = true
  inChoice : hasField (choiceF env F l A xs rest) l = true
  inAltF : hasField (altF env F l A xs) l = true
  inAltOwn : hasField (altOwn env l A xs) l = true
  notInXs : ∀ x ∈ xs, hasField (filterRuleFields F (ownFields env x)) l = false

/-- **each extension holds the previous result in its recursive field**: the field `l` of the node
    built in growth step `i` from the previous result `v` is `recVal fl A v` (= `Some(Box(v))` for the
    usual field descriptor, `recVal_usual`) -/
theorem Greedy.rec_field {env : Env} {u : Nat} {r : Rule} {A l : String} {xs rest : List Expr}
    {F : List FieldDesc} {fl : FieldDesc} {s : St} {pos : Nat → St} {fs0 : Parsed}
    {fsx : Nat → Val → Parsed} {m : Nat} (G : Greedy env u r A l xs rest F fl s pos fs0 fsx m)
    (hr : RecFieldOnly env F l A xs rest) (i : Nat) (hi : i < m) (v : Val) :
    (fsx i v).get l = some (recVal fl A v) := by
  obtain ⟨k, seen, acc, q, q', hx, hq, hconv, hproj⟩ := G.step i hi v
  rw [project_get _ _ hproj hr.inF, convertArm_get hconv hr.inChoice hr.inAltOwn,
    project_get _ _ hq hr.inAltF, spec_evalSeq_get (ctx := shapeCtx env r F) _ _ _ _ hr.notInXs hx,
    Parsed.get_cons, if_pos rfl]

theorem recVal_usual {fl : FieldDesc} (A : String) (v : Val) (h1 : fl.types.length = 1)
    (h2 : fl.arity = .optional) : recVal fl A v = .some (.boxed v) := by
  unfold recVal
  simp [h1, h2]

/-- the node built in growth step `i`, as a value: `A { l: recVal v, … }` -/
theorem extVal_field {env : Env} {u : Nat} {r : Rule} {A l : String} {xs rest : List Expr}
    {F : List FieldDesc} {fl : FieldDesc} {s : St} {pos : Nat → St} {fs0 : Parsed}
    {fsx : Nat → Val → Parsed} {m : Nat} (G : Greedy env u r A l xs rest F fl s pos fs0 fsx m)
    (hr : RecFieldOnly env F l A xs rest) (i : Nat) (hi : i < m) (v : Val) :
    ∃ fs p, extVal r A s pos fsx i v = Val.node A fs p ∧ Parsed.get fs l = some (recVal fl A v) :=
  ⟨_, _, rfl, G.rec_field hr i hi v⟩

/-! ## 9. non-vacuity: the example grammar of LeftRec.lean

  `@export @leftrec E = l:*E '+' r:Num | b:Num;  @string Num = {'0'..'9'}+;` on `"1+2+3"`: every
  hypothesis of the shape theorem is checked by `rfl` / `decide`, the greedy iteration is computed in
  the reference semantics, and the conclusion of `LeftRecExample.parse_123` follows from the general
  theorem. -/

namespace ShapeExample
open LeftRecExample

def xsE : List Expr := [.lit false [.chr '+'], .field (some (.ident "r")) false "Num"]
def restE : List Expr := [.seq [.field (some (.ident "b")) false "Num"]]
def RE : List String := ["Num", "Whitespace"]
def flE : FieldDesc := ⟨"l", [("E", true)], .optional⟩
def FE : List FieldDesc := [flE, ⟨"r", [("Num", false)], .optional⟩, ⟨"b", [("Num", false)], .optional⟩]

theorem shapeE : LeftRecShape envE ruleE "E" "l" xsE restE RE FE flE where
  find := rfl
  lr := rfl
  notString := rfl
  noChecks := rfl
  defn := rfl
  xs_ne := by decide +kernel
  rest_ne := by decide +kernel
  fields := rfl
  noOverride := by decide +kernel
  recField := by decide +kernel
  recFind := by decide +kernel
  recName := rfl
  recType := by decide +kernel
  closed := by decide +kernel
  xs_ok := by decide +kernel
  rest_ok := by decide +kernel
  pure := NV.pure_default

theorem noLeadWsE : NoLeadWs envE 0 ruleE s0 := noLeadWs_builtin 0 (fun _ => ⟨by decide +kernel, by decide +kernel⟩)

def posE (i : Nat) : St := ⟨inp.drop (2 * i + 1), 2 * i + 1, none⟩
def fs0E : Parsed := [("l", .none), ("r", .none), ("b", .some (.str [49]))]
def fsxE (i : Nat) (v : Val) : Parsed :=
  [("l", .some (.boxed v)), ("r", .some (.str [50 + i.toUInt8])), ("b", .none)]

theorem greedyE : Greedy envE 0 ruleE "E" "l" xsE restE FE flE s0 posE fs0E fsxE 2 where
  base := ⟨10, _, rfl, rfl⟩
  step := fun i hi v =>
    match i, hi with
    | 0, _ => ⟨10, _, _, _, _, rfl, rfl, rfl, rfl⟩
    | 1, _ => ⟨10, _, _, _, _, rfl, rfl, rfl, rfl⟩
  mono := fun i hi =>
    match i, hi with
    | 0, _ => by decide +kernel
    | 1, _ => by decide +kernel
  stop := fun v => ⟨10, .inl rfl⟩

/-- the tree of the general theorem is the tree of `LeftRecExample.parse_123` -/
theorem leftTreeE : leftTree ruleE "E" s0 posE fs0E fsxE 2 = extE 1 (extE 0 b0E) := rfl

/-- `LeftRecExample.parse_123`, from the shape theorem: for every large enough fuel the parser
    returns `E{l: E{l: E{b: "1"}, r: "2"}, r: "3"}` and ends at offset 5 with nothing left -/
theorem parse_123_shape : ∃ (se : St) (N : Nat), se.off = 5 ∧ se.rest = [] ∧ ∀ n, N ≤ n → ∃ g',
    parseAdvanced envE n "E" inp 0 = some (.ok (extE 1 (extE 0 b0E)) se, g') := by
  obtain ⟨se, N, h1, h2⟩ := shape_parse shapeE inp 0 noLeadWsE greedyE
  refine ⟨se, N, ?_, ?_, fun n hn => ?_⟩
  · have := congrArg St.off h1; exact this
  · have := congrArg St.rest h1; exact this
  · rw [← leftTreeE]; exact h2 n hn

/-- the semantic hypothesis of `C07_direct_memoBody` itself (the default hooks ignore the user
    context) -/
example : ∃ (st : Nat → St) (N : Nat), (∀ i, i ≤ 2 → Spec.clr (st i) = posE i) ∧ ∀ n, N ≤ n →
    DirectLeftRec (ruleBody envE (eval envE n) ruleE) ("E", s0.off) s0
      (s0.reportError .leftRecursionSentinel) b0E extE st 2 :=
  shape_DirectLeftRec shapeE noLeadWsE (fun _ => ⟨fun _ _ => rfl, fun _ _ => rfl⟩) greedyE

theorem recFieldOnlyE : RecFieldOnly envE FE "l" "E" xsE restE where
  inF := by decide +kernel
  inChoice := by decide +kernel
  inAltF := by decide +kernel
  inAltOwn := by decide +kernel
  notInXs := by decide +kernel

/-- in the example every extension is `E { l: Some(Box(previous)), … }` -/
example (i : Nat) (hi : i < 2) (v : Val) : (fsxE i v).get "l" = some (.some (.boxed v)) := by
  rw [greedyE.rec_field recFieldOnlyE i hi v, recVal_usual "E" v rfl rfl]

/-- `NoLeadWs` cannot be dropped.  On `" 1+2+3"` (a leading space; whitespace skipping is on) the
    recursive call `l:*E` is made *after* skipping the space, i.e. at offset 1 – a cache miss there,
    not a hit on the seed for offset 0.  The nested call parses all of `1+2+3`, the outer recursive
    alternative then finds no `'+'`, and the rule returns only the base match `E{b:"1"}`, ending at
    offset 2: for this input the rule does *not* accept `b x*` greedily. -/
example :
    (match parseAdvanced envE 60 "E" [32, 49, 43, 50, 43, 51] 0 with
     | some (.ok v s, _) => v.render == "E { l: None, r: None, b: Some(S\"31\") }" && s.off == 2
     | _ => false) = true := by decide +kernel

end ShapeExample

/-! ### a second instance: `@position`, a user-defined whitespace rule, whitespace inside the input -/

namespace ShapeExample2

/-- `@position @leftrec A = l:*A x:X | y:Y;  X = 'x';  Y = 'y';  @no_skip_ws Whitespace = {' '};` -/
def ruleA : Rule := ⟨[.position, .leftrec], "A",
  .choice [.seq [.field (some (.ident "l")) true "A", .field (some (.ident "x")) false "X"],
           .seq [.field (some (.ident "y")) false "Y"]]⟩
def ruleX : Rule := ⟨[], "X", .choice [.seq [.lit false [.chr 'x']]]⟩
def ruleY : Rule := ⟨[], "Y", .choice [.seq [.lit false [.chr 'y']]]⟩
def ruleW : Rule := ⟨[.noSkipWs], "Whitespace",
  .choice [.seq [.closure (.choice [.seq [.lit false [.chr ' ']]]) false]]⟩
def envA : Env :=
  { g := ⟨[.rule ruleA, .rule ruleX, .rule ruleY, .rule ruleW]⟩, settings := {}, hooks := default, nf := 10 }
/-- `"y x x"` -/
def inpA : List UInt8 := [121, 32, 120, 32, 120]

def xsA : List Expr := [.field (some (.ident "x")) false "X"]
def restA : List Expr := [.seq [.field (some (.ident "y")) false "Y"]]
def RA : List String := ["X", "Y", "Whitespace"]
def flA : FieldDesc := ⟨"l", [("A", true)], .optional⟩
def FA : List FieldDesc := [flA, ⟨"x", [("X", false)], .optional⟩, ⟨"y", [("Y", false)], .optional⟩]

theorem shapeA : LeftRecShape envA ruleA "A" "l" xsA restA RA FA flA where
  find := rfl
  lr := rfl
  notString := rfl
  noChecks := rfl
  defn := rfl
  xs_ne := by decide +kernel
  rest_ne := by decide +kernel
  fields := rfl
  noOverride := by decide +kernel
  recField := by decide +kernel
  recFind := by decide +kernel
  recName := rfl
  recType := by decide +kernel
  closed := by decide +kernel
  xs_ok := by decide +kernel
  rest_ok := by decide +kernel
  pure := NV.pure_default

theorem noLeadWsA : NoLeadWs envA 0 ruleA (St.new inpA) := fun _ => ⟨20, _, rfl⟩

def posA (i : Nat) : St := ⟨inpA.drop (2 * i + 1), 2 * i + 1, none⟩
def fs0A : Parsed := [("l", .none), ("x", .none), ("y", .some (.node "Y" [] none))]
def fsxA (_ : Nat) (v : Val) : Parsed :=
  [("l", .some (.boxed v)), ("x", .some (.node "X" [] none)), ("y", .none)]

theorem greedyA : Greedy envA 0 ruleA "A" "l" xsA restA FA flA (St.new inpA) posA fs0A fsxA 2 where
  base := ⟨20, _, rfl, rfl⟩
  step := fun i hi v =>
    match i, hi with
    | 0, _ => ⟨20, _, _, _, _, rfl, rfl, rfl, rfl⟩
    | 1, _ => ⟨20, _, _, _, _, rfl, rfl, rfl, rfl⟩
  mono := fun i hi =>
    match i, hi with
    | 0, _ => by decide +kernel
    | 1, _ => by decide +kernel
  stop := fun v => ⟨20, .inl rfl⟩

theorem parse_yxx : ∃ (se : St) (N : Nat), se.off = 5 ∧ se.rest = [] ∧ ∀ n, N ≤ n → ∃ g',
    parseAdvanced envA n "A" inpA 0 = some (.ok
      (.node "A" [("l", .some (.boxed
        (.node "A" [("l", .some (.boxed
          (.node "A" [("l", .none), ("x", .none), ("y", .some (.node "Y" [] none))] (some (0, 1))))),
          ("x", .some (.node "X" [] none)), ("y", .none)] (some (0, 3))))),
        ("x", .some (.node "X" [] none)), ("y", .none)] (some (0, 5))) se, g') := by
  obtain ⟨se, N, h1, h2⟩ := shape_parse shapeA inpA 0 noLeadWsA greedyA
  refine ⟨se, N, ?_, ?_, fun n hn => h2 n hn⟩
  · have := congrArg St.off h1; exact this
  · have := congrArg St.rest h1; exact this

theorem recFieldOnlyA : RecFieldOnly envA FA "l" "A" xsA restA where
  inF := by decide +kernel
  inChoice := by decide +kernel
  inAltF := by decide +kernel
  inAltOwn := by decide +kernel
  notInXs := by decide +kernel

/-- no base: `"x"` is rejected -/
example : ∃ (e : PErr) (N : Nat), ∀ n, N ≤ n → ∃ g',
    (eval envA n).rule "A" (St.new [120]) (Global.init 0) = some (.err e, g') ∧ g'.uctx = 0 :=
  shape_reject (g := Global.init 0) shapeA (fun _ => ⟨20, _, rfl⟩) ⟨20, rfl⟩ rfl

end ShapeExample2

end LRS
end Peg
