import PegVerif.Pretty
/-
  Property C11: the pretty form of a parse error (`PrettyParseError::from_parse_error`, after fix F2).

  For every text and every error position on a character boundary of it (0 … length inclusive), the
  conversion never panics (`Pretty.locate` / `Pretty.render` are total functions; the slicing of the real
  code is safe because of the clamping modelled by `Pretty.splitAtByte`), reports the 1-based line containing
  the position (number of newlines before it, plus one) and the 1-based column counted in characters from
  the start of that line, prints that line, and puts the caret under that column.
-/
namespace Peg
namespace Pretty

/-! ### generic list helpers (suffix scans) -/

theorem mem_takeWhile_pos {α} (p : α → Bool) (l : List α) : ∀ x ∈ l.takeWhile p, p x = true :=
  List.all_eq_true.1 List.all_takeWhile

theorem dropWhile_head_neg {α} (p : α → Bool) (l : List α) :
    l.dropWhile p = [] ∨ ∃ x r, l.dropWhile p = x :: r ∧ p x = false := by
  have := List.head?_dropWhile_not p l
  cases h : l.dropWhile p with
  | nil => exact .inl rfl
  | cons x r => rw [h] at this; exact .inr ⟨x, r, rfl, this⟩

/-! ### the scan from the end

  `afterLastNewline` and `trimEnd` both walk back from the end of a list while a predicate holds: the first returns what
  was walked over (`afterLastNewline pre` unfolds to `revTake (· != '\n') pre`), the second what is left (`trimEnd l`
  unfolds to `revDrop isRustWhitespace l`). -/

section scan
variable {α : Type} (p : α → Bool)

/-- `l` without its longest final segment on which `p` holds -/
def revDrop (l : List α) : List α := (l.reverse.dropWhile p).reverse

/-- the longest final segment of `l` on which `p` holds -/
def revTake (l : List α) : List α := (l.reverse.takeWhile p).reverse

/-- `a` does not end with an element satisfying `p` -/
def EndsNot (a : List α) : Prop := a = [] ∨ ∃ init c, a = init ++ [c] ∧ p c = false

theorem revScan_spec (l : List α) :
    l = revDrop p l ++ revTake p l ∧ (∀ x ∈ revTake p l, p x = true) ∧ EndsNot p (revDrop p l) := by
  refine ⟨?_, fun x hx => mem_takeWhile_pos p _ x (List.mem_reverse.1 hx), ?_⟩
  · unfold revDrop revTake
    rw [← List.reverse_append, List.takeWhile_append_dropWhile, List.reverse_reverse]
  · unfold revDrop
    rcases dropWhile_head_neg p l.reverse with h | ⟨x, r, h, hx⟩
    · left; rw [h]; rfl
    · right; rw [h, List.reverse_cons]; exact ⟨r.reverse, x, rfl, hx⟩

/-- the three facts determine both parts -/
theorem revScan_unique {a s : List α} (hs : ∀ x ∈ s, p x = true) (ha : EndsNot p a) :
    revDrop p (a ++ s) = a ∧ revTake p (a ++ s) = s := by
  have hs' : ∀ x ∈ s.reverse, p x = true := fun x hx => hs x (List.mem_reverse.1 hx)
  unfold revDrop revTake
  rw [List.reverse_append, List.dropWhile_append_of_pos hs', List.takeWhile_append_of_pos hs']
  rcases ha with rfl | ⟨init, c, rfl, hc⟩
  · simp
  · simp [hc]

end scan

/-! ### `enc` lengths (local copies, this file imports only the model) -/

theorem encLen_nil : (enc []).length = 0 := rfl

theorem encLen_cons (c : Char) (cs : List Char) : (enc (c :: cs)).length = c.utf8Size + (enc cs).length := by
  simp [enc, String.length_utf8EncodeChar]

theorem encLen_append (a b : List Char) : (enc (a ++ b)).length = (enc a).length + (enc b).length := by
  simp [enc]

/-! ### 1. `splitAtByte` -/

theorem splitAtByte_nil (pos : Nat) : splitAtByte [] pos = ([], []) := by
  simp [splitAtByte]

theorem splitAtByte_cons_le (c : Char) (cs : List Char) (pos : Nat) (h : c.utf8Size ≤ pos) :
    splitAtByte (c :: cs) pos = (c :: (splitAtByte cs (pos - c.utf8Size)).1, (splitAtByte cs (pos - c.utf8Size)).2) := by
  rw [splitAtByte, if_pos h]

theorem splitAtByte_cons_gt (c : Char) (cs : List Char) (pos : Nat) (h : pos < c.utf8Size) :
    splitAtByte (c :: cs) pos = ([], c :: cs) := by
  rw [splitAtByte, if_neg (by omega)]

/-- clamping: the two parts make up the text, the split point is a boundary not after `pos`, and it is the largest
    such: the next boundary is beyond `pos` -/
theorem splitAtByte_clamp (text : List Char) (pos : Nat) (a b : List Char) (h : splitAtByte text pos = (a, b)) :
    a ++ b = text ∧ (enc a).length ≤ pos ∧
    (b = [] ∨ ∃ c r, b = c :: r ∧ pos < (enc a).length + c.utf8Size) := by
  induction text generalizing pos a b with
  | nil => rw [splitAtByte_nil] at h; cases h; exact ⟨rfl, Nat.zero_le _, .inl rfl⟩
  | cons c cs ih =>
    by_cases hc : c.utf8Size ≤ pos
    · rw [splitAtByte_cons_le _ _ _ hc] at h
      cases h
      obtain ⟨h1, h2, h3⟩ := ih (pos - c.utf8Size) _ _ rfl
      rw [encLen_cons]
      exact ⟨congrArg (c :: ·) h1, by omega, h3.imp_right fun ⟨d, r, e, hlt⟩ => ⟨d, r, e, by omega⟩⟩
    · rw [splitAtByte_cons_gt _ _ _ (by omega)] at h
      cases h
      exact ⟨rfl, Nat.zero_le _, .inr ⟨c, cs, rfl, by rw [encLen_nil]; omega⟩⟩

/-- the three clamping facts determine the split (so they are a complete specification) -/
theorem splitAtByte_unique (a b : List Char) (pos : Nat) (hle : (enc a).length ≤ pos)
    (hmax : b = [] ∨ ∃ c r, b = c :: r ∧ pos < (enc a).length + c.utf8Size) :
    splitAtByte (a ++ b) pos = (a, b) := by
  induction a generalizing pos with
  | nil =>
    rcases hmax with h | ⟨c, r, h, h2⟩
    · rw [h]; exact splitAtByte_nil _
    · rw [h, List.nil_append]; exact splitAtByte_cons_gt _ _ _ (by rw [encLen_nil] at h2; omega)
  | cons x a ih =>
    rw [encLen_cons] at hle
    rw [List.cons_append, splitAtByte_cons_le _ _ _ (by omega),
      ih (pos - x.utf8Size) (by omega)
        (by
          rcases hmax with h | ⟨c, r, h, h2⟩
          · left; exact h
          · right; rw [encLen_cons] at h2; exact ⟨c, r, h, by omega⟩)]

/-- at a character boundary the split is exact -/
theorem splitAtByte_boundary (pre post : List Char) :
    splitAtByte (pre ++ post) (enc pre).length = (pre, post) :=
  splitAtByte_unique pre post _ (Nat.le_refl _) (by
    cases post with
    | nil => exact .inl rfl
    | cons c r => exact .inr ⟨c, r, rfl, Nat.lt_add_of_pos_right (Char.utf8Size_pos c)⟩)

/-- a position at or beyond the end of the text is clamped to the end -/
theorem splitAtByte_ge (text : List Char) (pos : Nat) (h : (enc text).length ≤ pos) :
    splitAtByte text pos = (text, []) := by
  have := splitAtByte_unique text [] pos h (Or.inl rfl)
  rwa [List.append_nil] at this

/-! ### 2. `afterLastNewline`, line number, column, line -/

/-- `afterLastNewline pre` really is the part of `pre` after its last newline -/
theorem afterLastNewline_spec (pre : List Char) :
    ∃ before, pre = before ++ afterLastNewline pre ∧ '\n' ∉ afterLastNewline pre ∧
      (before = [] ∨ ∃ b, before = b ++ ['\n']) := by
  obtain ⟨h1, h2, h3⟩ := revScan_spec (· != '\n') pre
  refine ⟨_, h1, fun h => by simpa using h2 _ h, h3.imp_right ?_⟩
  rintro ⟨b, c, e, hc⟩
  exact ⟨b, by rw [e, show c = '\n' by simpa using hc]⟩

/-- the characterisation is unique: whatever satisfies it is `afterLastNewline pre` -/
theorem afterLastNewline_unique (pre before l : List Char) (h : pre = before ++ l) (hl : '\n' ∉ l)
    (hb : before = [] ∨ ∃ b, before = b ++ ['\n']) : afterLastNewline pre = l := by
  rw [h]
  exact (revScan_unique (· != '\n') (fun x hx => by simpa using fun e : x = '\n' => hl (e ▸ hx))
    (hb.imp_right fun ⟨b, e⟩ => ⟨b, '\n', e, by simp⟩)).2

/-- the model writes the predicate as `· != '\n'`; this is the same function as `· ≠ '\n'` -/
theorem bne_newline_eq : (fun c : Char => c != '\n') = (fun c : Char => decide (c ≠ '\n')) := by
  funext c; by_cases h : c = '\n' <;> simp [h]

/-- at a boundary, `locate` is computed from the exact split -/
theorem locate_boundary (pre post : List Char) :
    locate (pre ++ post) (enc pre).length =
      { lineno := pre.count '\n', col := (afterLastNewline pre).length,
        line := afterLastNewline pre ++ post.takeWhile (· != '\n') } := by
  simp only [locate, splitAtByte_boundary]

/-- C11, line number / column / line: for `text = pre ++ post` and the position at the boundary after `pre`:
    the 0-based line number is the number of newlines before the position, the 0-based column is the number of
    characters after the last newline before the position, the line is that part plus what follows up to the
    next newline. -/
theorem C11_linecol (pre post : List Char) :
    (locate (pre ++ post) (enc pre).length).lineno = pre.count '\n' ∧
    (locate (pre ++ post) (enc pre).length).col = (afterLastNewline pre).length ∧
    (locate (pre ++ post) (enc pre).length).line = afterLastNewline pre ++ post.takeWhile (· ≠ '\n') := by
  rw [locate_boundary, ← bne_newline_eq]
  exact ⟨rfl, rfl, rfl⟩

/-- C11, "the line containing the position": the reported line is the maximal newline-free segment around the
    split point, and the column is the distance (in characters) of the split point from the start of that
    segment. -/
theorem C11_line_is_line (pre post : List Char) :
    ∃ before rest,
      pre ++ post = before ++ (locate (pre ++ post) (enc pre).length).line ++ rest ∧
      pre = before ++ afterLastNewline pre ∧
      (locate (pre ++ post) (enc pre).length).line = afterLastNewline pre ++ post.takeWhile (· != '\n') ∧
      post = post.takeWhile (· != '\n') ++ rest ∧
      (locate (pre ++ post) (enc pre).length).col = pre.length - before.length ∧
      '\n' ∉ (locate (pre ++ post) (enc pre).length).line ∧
      (before = [] ∨ ∃ b, before = b ++ ['\n']) ∧
      (rest = [] ∨ ∃ r, rest = '\n' :: r) := by
  obtain ⟨before, h1, h2, h3⟩ := afterLastNewline_spec pre
  rw [locate_boundary]
  refine ⟨before, post.dropWhile (· != '\n'), ?_, h1, rfl, List.takeWhile_append_dropWhile.symm, ?_, ?_, h3, ?_⟩
  · simp only
    rw [List.append_assoc, List.append_assoc, List.takeWhile_append_dropWhile, ← List.append_assoc, ← h1]
  · simp only
    have := congrArg List.length h1
    rw [List.length_append] at this
    omega
  · simp only
    intro h
    rcases List.mem_append.1 h with h | h
    · exact h2 h
    · have := mem_takeWhile_pos _ _ _ h
      simp at this
  · rcases dropWhile_head_neg (· != '\n') post with h | ⟨x, r, h, hx⟩
    · left; exact h
    · right
      have hx' : x = '\n' := by simpa using hx
      exact ⟨r, by rw [h, hx']⟩

/-! ### 3. the rendered string -/

/-- `render` in terms of `locate`; the `+ 1`s are the 1-basedness of line and column. -/
theorem C11_render (e : PErr) (text : List Char) (file : Option String) :
    render e text file =
      message e.spec ++ "\n--> " ++
      (match file with
        | some f => f ++ ":" ++ toString ((locate text e.pos).lineno + 1) ++ ":" ++ toString ((locate text e.pos).col + 1)
        | none => "Line " ++ toString ((locate text e.pos).lineno + 1) ++ " character " ++
            toString ((locate text e.pos).col + 1)) ++
      "\n |  \n |  " ++ String.ofList (trimEnd (locate text e.pos).line) ++ "\n |  " ++
      String.ofList (List.replicate (locate text e.pos).col ' ') ++ "^\n" := rfl

/-- the blank gutter line and the gutter of the caret line, split off (`a`: all that `render` prints before them) -/
theorem gutter_split (a l c : String) :
    a ++ "\n |  \n |  " ++ l ++ "\n |  " ++ c ++ "^\n" = a ++ "\n |  " ++ "\n |  " ++ l ++ "\n" ++ (" |  " ++ c ++ "^\n") := by
  rw [show ("\n |  \n |  " : String) = "\n |  " ++ "\n |  " by decide,
    show ("\n |  " : String) = "\n" ++ " |  " by decide]
  simp only [String.append_assoc]

/-- C11 assembled: for `text = pre ++ post` and an error at the boundary after `pre`, the pretty form is
    message, location (`Line L character C` resp. `file:L:C` with `L = 1 + newlines in pre`,
    `C = 1 + characters after the last newline of pre`), an empty gutter line, the line containing the
    position (right-trimmed), and the caret under column `C`. -/
theorem C11 (e : PErr) (pre post : List Char) (file : Option String) (hpos : e.pos = (enc pre).length) :
    render e (pre ++ post) file =
      message e.spec ++ "\n--> " ++
      (match file with
        | some f => f ++ ":" ++ toString (pre.count '\n' + 1) ++ ":" ++ toString ((afterLastNewline pre).length + 1)
        | none => "Line " ++ toString (pre.count '\n' + 1) ++ " character " ++
            toString ((afterLastNewline pre).length + 1)) ++
      "\n |  \n |  " ++ String.ofList (trimEnd (afterLastNewline pre ++ post.takeWhile (· != '\n'))) ++ "\n |  " ++
      String.ofList (List.replicate (afterLastNewline pre).length ' ') ++ "^\n" := by
  rw [C11_render, hpos, locate_boundary]

/-! ### 4. `trimEnd` -/

theorem trimEnd_prefix (l : List Char) : trimEnd l <+: l :=
  ⟨_, (revScan_spec isRustWhitespace l).1.symm⟩

theorem trimEnd_idem (l : List Char) : trimEnd (trimEnd l) = trimEnd l := by
  have := (revScan_unique isRustWhitespace (s := []) (fun _ h => nomatch h) (revScan_spec isRustWhitespace l).2.2).1
  rwa [List.append_nil] at this

/-! ### 5. non-vacuity, and the inputs on which the code before fix F2 goes wrong -/

/-- empty text (fix F2: no panic): line 1 column 1, empty line -/
example : locate [] 0 = ⟨0, 0, []⟩ := by decide +kernel
example : locate "abc".toList 3 = ⟨0, 3, "abc".toList⟩ := by decide +kernel
/-- error at the final newline: still on line 1 -/
example : locate "abc\n".toList 3 = ⟨0, 3, "abc".toList⟩ := by decide +kernel
/-- error at end of input after a final newline (fix F2: the end of the text is a case of its own):
    line 2, column 1, empty line -/
example : locate "abc\n".toList 4 = ⟨1, 0, []⟩ := by decide +kernel
example : locate "a\nb".toList 2 = ⟨1, 0, ['b']⟩ := by decide +kernel
/-- multi-byte: `é` has 2 bytes, `€` has 3; the position after `€` is byte 7: line 2, column 3 (characters!) -/
example : (enc "é\nx€".toList).length = 7 := by decide +kernel
example : locate "é\nx€y".toList 7 = ⟨1, 2, "x€y".toList⟩ := by decide +kernel
/-- off-boundary positions (inside `€`) are clamped down, beyond-the-end positions are clamped to the end -/
example : locate "é\nx€y".toList 6 = ⟨1, 1, "x€y".toList⟩ := by decide +kernel
example : locate "é\nx€y".toList 100 = ⟨1, 3, "x€y".toList⟩ := by decide +kernel
example : splitAtByte "é\nx€y".toList 1 = ([], "é\nx€y".toList) := by decide +kernel
/-- the hypotheses of `C11` are satisfiable, and the caret sits where it should -/
example : render ⟨7, .expectedEoi⟩ "é\nx€y  ".toList none =
    "expected end of input\n--> Line 2 character 3\n |  \n |  x€y\n |    ^\n" := by decide +kernel
example : render ⟨4, .expectedEoi⟩ "abc\n".toList (some "f.txt") =
    "expected end of input\n--> f.txt:2:1\n |  \n |  \n |  ^\n" := by decide +kernel
example : trimEnd "x y \t \n".toList = "x y".toList := by decide +kernel

end Pretty
end Peg
