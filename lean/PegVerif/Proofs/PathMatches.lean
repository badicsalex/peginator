import PegVerif.Spec
import PegVerif.Proofs.Plumbing
import PegVerif.Proofs.RefineRule
import PegVerif.Proofs.SpecLemmas
/-
  Property C02: when a parse succeeds, each named field of each node holds the results of exactly
  those field matches that lie on the successful path through the rule, in input order; a field that
  several rule types can fill carries the variant of the rule that actually matched; matches made
  inside an alternative, optional, closure iteration or lookahead that was subsequently abandoned
  leave no trace in the result.

  Formulation.  `PM.eval` is a second reference evaluator with the control flow of `Spec.eval` whose
  expression results are the *list of field matches on the successful path* (`List FMatch`) and
  which contains no field plumbing at all (no `mergePart` / `project` / `convertArm` / `defaults` /
  `closureInit` / `extendAll` / `postprocessField`): a rule shapes the collected matches once, at the
  end, by the rule-level descriptors (`shapeParsed`).  We prove that the reference semantics with the
  generated plumbing (`Spec.eval`) computes, construct by construct, exactly the shaping of the path
  matches (`C02_tree`), that the two semantics agree on every rule (`C02_rule`), and – through the
  refinement theorem `eval_ref` – that the model of the generated parser returns the tree `PM.eval`
  describes (`C02_parse`).
-/
namespace Peg

/-- one field match on the successful path: field key, the type (rule) that matched, the value that
    rule returned -/
structure FMatch where
  key : String
  typ : String
  val : Val
deriving Repr, Inhabited

/-- what `field.rs: generate_postprocess_calls` does to the raw value, except the final
    `Some` / `vec!` wrapping: box if that type is boxed in the rule-level descriptor, then wrap into
    the enum variant named after the type if the rule-level type set has more than one member -/
def wrapMatch (RF : List FieldDesc) (m : FMatch) : Option Val :=
  match findField RF m.key with
  | none => none
  | some f =>
    match f.types.find? (·.1 == m.typ) with
    | none => none
    | some (_, boxed) =>
      let v := if boxed then Val.boxed m.val else m.val
      some (if f.types.length > 1 then Val.variant m.typ v else v)

/-- `mapM (wrapMatch RF)` -/
def wrapAll (RF : List FieldDesc) : List FMatch → Option (List Val)
  | [] => some []
  | m :: ms =>
    match wrapMatch RF m, wrapAll RF ms with
    | some v, some vs => some (v :: vs)
    | _, _ => none

/-- the value of field `f` (rule-level descriptor) given the matches for it, in path order -/
def shapeField (RF : List FieldDesc) (f : FieldDesc) (ms : List FMatch) : Option Val :=
  match f.arity with
  | .one => (match ms with | [m] => wrapMatch RF m | _ => none)
  | .optional => (match ms with | [] => some .none | [m] => (wrapMatch RF m).map .some | _ => none)
  | .multiple => (wrapAll RF ms).map .list

/-- the matches of one field, in path order -/
def flt (ms : List FMatch) (x : String) : List FMatch := ms.filter (·.key == x)

/-- the `Parsed` of a construct with (filtered rule-level) fields `fields` whose successful path
    made the matches `ms` -/
def shapeParsed (RF : List FieldDesc) : List FieldDesc → List FMatch → Option Parsed
  | [], _ => some []
  | f :: fs, ms =>
    match shapeField RF f (flt ms f.name), shapeParsed RF fs ms with
    | some v, some p => some ((f.name, v) :: p)
    | _, _ => none

theorem wrapAll_eq_mapM (RF : List FieldDesc) (ms : List FMatch) : wrapAll RF ms = ms.mapM (wrapMatch RF) := by
  induction ms with
  | nil => rfl
  | cons m ms ih =>
    rw [List.mapM_cons, wrapAll, ih]
    cases wrapMatch RF m <;> cases List.mapM (wrapMatch RF) ms <;> rfl

/-- `shapeParsed` is the `mapM` of the informal definition -/
theorem shapeParsed_eq_mapM (RF fields : List FieldDesc) (ms : List FMatch) :
    shapeParsed RF fields ms =
      fields.mapM fun f => (shapeField RF f (ms.filter (·.key == f.name))).map (f.name, ·) := by
  induction fields with
  | nil => rfl
  | cons f fs ih =>
    rw [List.mapM_cons, shapeParsed, ih]
    unfold flt
    cases shapeField RF f (List.filter (fun x => x.key == f.name) ms) <;>
      cases List.mapM (fun f => Option.map (fun x => (f.name, x))
        (shapeField RF f (List.filter (fun x => x.key == f.name) ms))) fs <;> rfl

/-! ### `PM.eval`: the reference evaluator that collects the matches of the successful path -/

namespace PM
open Spec

structure PRec where
  expr : Ctx → Expr → St → SOut (List FMatch)
  rule : String → St → SOut Val

def withSkipWs {α} (rec : PRec) (ctx : Ctx) (s : St) (k : St → SOut α) : SOut α :=
  if ctx.skipWs then bindS (rec.rule "Whitespace" s) (fun _ s' => k s') else k s

/-- sequence: the matches of the parts, concatenated in order -/
def evalSeq (rec : PRec) (ctx : Ctx) : List Expr → List FMatch → St → SOut (List FMatch)
  | [], acc, s => some (.ok acc s)
  | p :: ps, acc, s => bindS (rec.expr ctx p s) fun ms s' => evalSeq rec ctx ps (acc ++ ms) s'

/-- choice: the matches of the first alternative that succeeds; failed alternatives contribute nothing -/
def evalAlts (rec : PRec) (ctx : Ctx) : List Expr → St → SOut (List FMatch)
  | [], _ => some (.err noErr)
  | a :: as, s =>
    match rec.expr ctx a s with
    | none => none
    | some (.ok ms s') => some (.ok ms s')
    | some (.err _) => evalAlts rec ctx as s
    | some (.panic m) => some (.panic m)

/-- closure: the matches of the successful iterations, concatenated; the failing last iteration
    contributes nothing -/
def evalLoop (body : St → SOut (List FMatch)) : Nat → Nat → List FMatch → St → SOut (Nat × List FMatch)
  | 0, _, _, _ => none
  | k+1, iters, acc, s =>
    match body s with
    | none => none
    | some (.ok ms s') => evalLoop body k (iters + 1) (acc ++ ms) s'
    | some (.err _) => some (.ok (iters, acc) s)
    | some (.panic m) => some (.panic m)

def stepExpr (env : Env) (rec : PRec) (n : Nat) (ctx : Ctx) (e : Expr) (s : St) : SOut (List FMatch) :=
  match e with
  | .choice [] => some (.panic "index out of bounds: choices[0]")
  | .choice [a] => rec.expr ctx a s
  | .choice alts => evalAlts rec ctx alts s
  | .seq [] => some (.ok [] s)
  | .seq [p] => rec.expr ctx p s
  | .seq parts => evalSeq rec ctx parts [] s
  | .group b => rec.expr ctx b s
  | .opt b =>
    match rec.expr ctx b s with
    | none => none
    | some (.ok ms s') => some (.ok ms s')
    | some (.err _) => some (.ok [] s)
    | some (.panic m) => some (.panic m)
  | .closure b atLeastOne =>
    bindS (evalLoop (rec.expr ctx b) n 0 [] s) fun (iters, acc) s' =>
      if atLeastOne && iters == 0 then some (.err noErr)
      else some (.ok acc s')
  | .neg b =>
    match rec.expr ctx b s with
    | none => none
    | some (.ok _ _) => some (.err noErr)
    | some (.err _) => some (.ok [] s)
    | some (.panic m) => some (.panic m)
  | .pos b =>
    bindS (rec.expr ctx b s) fun _ _ => some (.ok [] s)
  | .range lo hi =>
    match lo.toChar, hi.toChar with
    | .ok lo, .ok hi =>
      withSkipWs rec ctx s fun s => some (abs ((parseCharacterRange s lo hi).map (fun _ => [])))
    | _, _ => some (.panic "uncompilable: range bound")
  | .lit ins body =>
    match compileLit ins body with
    | .ok m =>
      withSkipWs rec ctx s fun s =>
        match m with
        | .charLit c => some (abs ((parseCharacterLiteral s c).map (fun _ => [])))
        | .strLit l => some (abs ((parseStringLiteral s l).map (fun _ => [])))
        | .charLitI c => some (abs ((parseCharacterLiteralInsensitive s c).map (fun _ => [])))
        | .strLitI l => some (abs ((parseStringLiteralInsensitive s l).map (fun _ => [])))
    | _ => some (.panic "uncompilable: literal")
  | .eoi => withSkipWs rec ctx s fun s => some (abs ((parseEndOfInput s).map (fun _ => [])))
  | .incl r =>
    match env.g.findRule r with
    | none => some (.panic "uncompilable: include of a missing rule")
    | some rule => rec.expr ctx rule.definition s
  | .field name _ typ =>
    withSkipWs rec ctx s fun s =>
      bindS (rec.rule typ s) fun v s' =>
        match name with
        | none => some (.ok [] s')
        | some nm => some (.ok [⟨nm.key, typ, v⟩] s')

/-- the rule wrappers of `Spec.ruleBody`; the node / override value is the shaping of the path
    matches of the rule's definition by the rule's own descriptors -/
def ruleBody (env : Env) (u : Nat) (rec : PRec) (r : Rule) (s : St) : SOut Val :=
  let flags := r.flags
  match getFields env.g env.nf r.definition with
  | .ok fields =>
    let ctx : Ctx := { skipWs := env.settings.skipWhitespace && !flags.noSkipWs, ruleFields := fields }
    if flags.string then
      bindS (rec.expr ctx r.definition s) fun _ s' =>
        let str := Val.str (s.sliceUntil s')
        let v := if flags.position then Val.node r.name [("string", str)] (some (s.off, s'.off)) else str
        Spec.runChecks env u r.checks v s'
    else if fields.length == 1 && (fields.head?.map (·.name)) == some "_override" then
      bindS (rec.expr ctx r.definition s) fun ms s' =>
        match (shapeParsed fields fields ms).bind (·.get "_override") with
        | some v => Spec.runChecks env u r.checks v s'
        | none => some (.panic "path matches do not fit the rule-level arities")
    else if hasField fields "_override" then
      some (.panic "uncompilable: Mixing simple and override fields is not allowed.")
    else
      bindS (rec.expr ctx r.definition s) fun ms s' =>
        match shapeParsed fields fields ms with
        | some fs =>
          let v := Val.node r.name fs (if flags.position then some (s.off, s'.off) else none)
          Spec.runChecks env u r.checks v s'
        | none => some (.panic "path matches do not fit the rule-level arities")
  | _ => some (.panic "uncompilable: get_fields failed")

/-- char rules only call rules -/
def PRec.toS (rec : PRec) : SRec := { expr := fun _ _ _ => none, rule := rec.rule }

def stepRule (env : Env) (u : Nat) (rec : PRec) (name : String) (s : St) : SOut Val :=
  match env.g.find name with
  | some (.rule r) => ruleBody env u rec r s
  | some (.charRule r) => Spec.charRule env rec.toS r s
  | some (.externRule r) => Spec.externRule env u r s
  | none =>
    if name == "char" then some (abs ((parseChar s).map .chr))
    else if name == "Whitespace" then some (abs ((parseWhitespace s).map (fun _ => .unit)))
    else some (.panic ("uncompilable: undefined rule " ++ name))

def step (env : Env) (u : Nat) (rec : PRec) (n : Nat) : PRec :=
  { expr := stepExpr env rec n, rule := stepRule env u rec }

def eval (env : Env) (u : Nat) : Nat → PRec
  | 0 => { expr := fun _ _ _ => none, rule := fun _ _ => none }
  | n+1 => step env u (eval env u n) n

def parse (env : Env) (u : Nat) (fuel : Nat) (rule : String) (inp : List UInt8) : SOut Val :=
  (eval env u fuel).rule rule (St.new inp)

end PM

/-! ### the path matches respect the local field analysis -/

def CountOk : Arity → Nat → Prop
  | .one, n => n = 1
  | .optional, n => n ≤ 1
  | .multiple, _ => True

theorem CountOk.mono {a b : Arity} {n : Nat} (h : CountOk a n) (hab : a ≤ b) : CountOk b n := by
  cases a <;> cases b <;> simp only [CountOk] at * <;> first | omega | exact absurd hab (by decide)

theorem CountOk.zero {a : Arity} (h : Arity.optional ≤ a) : CountOk a 0 := by
  cases a with
  | one => exact absurd h (by decide)
  | optional => exact Nat.zero_le 1
  | multiple => trivial

/-- the match is one of a field of `own`, by a rule listed among that field's types -/
def Declared (own : List FieldDesc) (m : FMatch) : Prop :=
  ∃ o ∈ own, o.name = m.key ∧ ∃ t ∈ o.types, t.1 = m.typ

/-- the matches `ms` fit the local analysis `own` of the construct that made them: every match is
    declared, and the number of matches of each field is the one its local arity announces -/
def PathOk (own : List FieldDesc) (ms : List FMatch) : Prop :=
  (∀ m ∈ ms, Declared own m) ∧ ∀ f ∈ own, CountOk f.arity (flt ms f.name).length

theorem Declared.hasField {own : List FieldDesc} {m : FMatch} (h : Declared own m) :
    hasField own m.key = true := by
  obtain ⟨o, ho, e, _⟩ := h
  exact e ▸ hasField_of_mem ho

theorem Declared.mono {inner outer : List FieldDesc} {m : FMatch} (hs : SubFields inner outer)
    (h : Declared inner m) : Declared outer m := by
  obtain ⟨o, ho, e, t, ht, et⟩ := h
  obtain ⟨o', ho', e', _, hty⟩ := hs o ho
  obtain ⟨t', ht', et', _⟩ := hty t ht
  exact ⟨o', ho', e'.trans e, t', ht', et'.trans et⟩

theorem flt_nil (x : String) : flt [] x = [] := rfl

theorem flt_append (a b : List FMatch) (x : String) : flt (a ++ b) x = flt a x ++ flt b x := by
  unfold flt; exact List.filter_append ..

theorem flt_eq_nil {ms : List FMatch} {x : String} (h : ∀ m ∈ ms, m.key ≠ x) : flt ms x = [] := by
  unfold flt
  exact List.filter_eq_nil_iff.mpr (fun m hm hc => h m hm (beq_iff_eq.mp hc))

theorem flt_eq_nil_of_declared {own : List FieldDesc} {ms : List FMatch} {x : String}
    (h : ∀ m ∈ ms, Declared own m) (hx : hasField own x = false) : flt ms x = [] :=
  flt_eq_nil (fun m hm e => by rw [← e, (h m hm).hasField] at hx; cases hx)

theorem PathOk.nil {own : List FieldDesc} (h : ∀ f ∈ own, Arity.optional ≤ f.arity) : PathOk own [] :=
  ⟨fun _ hm => (by cases hm), fun f hf => CountOk.zero (h f hf)⟩

theorem PathOk.nil_nil : PathOk [] [] := PathOk.nil (fun _ h => by cases h)

/-- a field of the sub-construct is counted by the enclosing construct's descriptor of that name -/
theorem PathOk.count_mono {inner outer : List FieldDesc} {ms : List FMatch}
    (hn : (outer.map (·.name)).Nodup) (hs : SubFields inner outer) (h : PathOk inner ms) {f : FieldDesc}
    (hf : f ∈ outer) (hin : hasField inner f.name = true) : CountOk f.arity (flt ms f.name).length := by
  obtain ⟨o, ho, e⟩ := exists_of_hasField hin
  rw [← e]
  exact (h.2 o ho).mono (rule_field_covers hn hs hf ho e).2.1

/-- from a sub-construct to the enclosing construct -/
theorem PathOk.mono {inner outer : List FieldDesc} {ms : List FMatch}
    (hn : (outer.map (·.name)).Nodup) (hs : SubFields inner outer)
    (habs : ∀ f ∈ outer, hasField inner f.name = false → Arity.optional ≤ f.arity)
    (h : PathOk inner ms) : PathOk outer ms := by
  refine ⟨fun m hm => (h.1 m hm).mono hs, fun f hf => ?_⟩
  by_cases hin : hasField inner f.name = true
  · exact h.count_mono hn hs hf hin
  · have hin' : hasField inner f.name = false := by simpa using hin
    rw [flt_eq_nil_of_declared h.1 hin']
    exact CountOk.zero (habs f hf hin')

namespace PM
open Spec

/-- the four-way `match` on the outcome of a sub-expression in `evalAlts`, `evalLoop` and the `opt`, `neg` cases of
    `stepExpr` is `caseS`, the node shape of `Spec.eval`: unfold the definition and rewrite with this.  It stands in
    this module because a `match` elaborated in another one gets a matcher of its own, which the rewrite would not
    find in the definitions. -/
theorem caseS_eq {β} (x : SOut (List FMatch)) (ok : List FMatch → St → SOut β) (err : SOut β) :
    (match x with
      | none => none
      | some (.ok ms s) => ok ms s
      | some (.err _) => err
      | some (.panic m) => some (.panic m)) = caseS x ok err := by
  unfold caseS; split <;> rfl

theorem withSkipWs_ok_inv {α} {rec : PRec} {ctx : Ctx} {s : St} {k : St → SOut α} {v : α} {s' : St}
    (h : withSkipWs rec ctx s k = some (.ok v s')) : ∃ s1, k s1 = some (.ok v s') := by
  unfold withSkipWs at h
  split at h
  · obtain ⟨_, s1, _, h⟩ := bindS_ok h
    exact ⟨s1, h⟩
  · exact ⟨s, h⟩

theorem Res.map_const_map {α β γ} (r : Res α) (b : β) (c : γ) :
    (r.map fun _ => b).map (fun _ => c) = r.map fun _ => c := by
  cases r <;> rfl

section
variable {env : Env} {rec : PRec} {n : Nat} {ctx : Ctx} {e : Expr}

theorem stepExpr_terminal {m} (h : terminalOf e = some (.ok m)) (s : St) :
    stepExpr env rec n ctx e s =
      withSkipWs rec ctx s fun s => some (abs ((m s).map fun _ => ([] : List FMatch))) := by
  cases e <;> simp only [terminalOf, Option.some.injEq, reduceCtorEq] at h
  case range lo hi => split at h <;> cases h; simp only [stepExpr, *, Res.map_const_map]
  case lit ins body =>
    split at h <;> cases h
    rename_i m hm
    simp only [stepExpr, hm]
    cases m <;> simp only [LitMatcher.parse, Res.map_const_map]
  case eoi => cases h; simp only [stepExpr, Res.map_const_map]

theorem stepExpr_terminal_error {msg} (h : terminalOf e = some (.error msg)) (s : St) :
    stepExpr env rec n ctx e s = some (.panic msg) := by
  cases e <;> simp only [terminalOf, Option.some.injEq, reduceCtorEq] at h
  case range lo hi => split at h <;> cases h; simp only [stepExpr]
  case lit ins body => split at h <;> cases h; simp only [stepExpr]

end

/-- expressions: a successful result fits the local analysis of the expression -/
def PGoodE (env : Env) (ev : Ctx → Expr → St → SOut (List FMatch)) : Prop :=
  ∀ ctx e own s ms s', getFields env.g env.nf e = .ok own → ev ctx e s = some (.ok ms s') → PathOk own ms

section
variable {env : Env} {rec : PRec}

/-- `PM.evalSeq` keeps no list of the fields bound so far; `seen` stands for it: the matches so far are declared and
    of seen fields, and the matches of each seen field are as many as its arity announces -/
theorem evalSeq_pgood (hg : PGoodE env rec.expr) {ctx : Ctx} {own : List FieldDesc} (hn : (own.map (·.name)).Nodup) :
    ∀ ps seen acc s ms s', SeqParts env own own seen ps →
      (∀ m ∈ acc, Declared own m ∧ m.key ∈ seen) →
      (∀ f ∈ own, f.name ∈ seen → CountOk f.arity (flt acc f.name).length) →
      evalSeq rec ctx ps acc s = some (.ok ms s') → PathOk own ms := by
  intro ps
  induction ps with
  | nil =>
    intro seen acc s ms s' hps hdecl hcount h
    simp only [evalSeq, Option.some.injEq, Res.ok.injEq] at h
    rw [← h.1]
    exact ⟨fun m hm => (hdecl m hm).1, fun f hf => hcount f hf (hps f hf).2⟩
  | cons p ps ih =>
    intro seen acc s ms s' ⟨hget, hsub, hmult, hps⟩ hdecl hcount h
    simp only [evalSeq] at h
    obtain ⟨mp, s1, hx, h⟩ := bindS_ok h
    have hpo := hg _ _ _ _ _ _ hget hx
    refine ih _ (acc ++ mp) s1 ms s' (hps (seen ++ _) fun _ => List.mem_append) ?_ ?_ h
    · intro m hm
      rcases List.mem_append.mp hm with hm | hm
      · exact ⟨(hdecl m hm).1, List.mem_append_left _ (hdecl m hm).2⟩
      · have hd := (hpo.1 m hm).mono hsub
        exact ⟨hd, List.mem_append_right _
          (hasField_iff.mp (hasField_filterRuleFields.mpr ⟨hd.hasField, (hpo.1 m hm).hasField⟩))⟩
    · intro f hf hq
      rw [flt_append, List.length_append]
      by_cases hpf : hasField (ownFields env p) f.name = true
      · by_cases hs : f.name ∈ seen
        · rw [hmult f (mem_filterRuleFields.mpr ⟨hf, hpf⟩) hs]; trivial
        · rw [flt_eq_nil (x := f.name) fun m hm e => hs (e ▸ (hdecl m hm).2), List.length_nil, Nat.zero_add]
          exact hpo.count_mono hn hsub hf hpf
      · have hpf' : hasField (ownFields env p) f.name = false := by simpa using hpf
        rw [flt_eq_nil_of_declared hpo.1 hpf', List.length_nil, Nat.add_zero]
        refine hcount f hf ((List.mem_append.mp hq).resolve_right fun h => hpf ?_)
        exact (hasField_filterRuleFields.mp (hasField_iff.mpr h)).2

theorem evalAlts_pgood (hg : PGoodE env rec.expr) {ctx : Ctx} {own : List FieldDesc}
    (hn : (own.map (·.name)).Nodup) :
    ∀ as s ms s', (∀ a ∈ as, ArmOk env own own a) →
      evalAlts rec ctx as s = some (.ok ms s') → PathOk own ms := by
  intro as
  induction as with
  | nil => intro s ms s' _ h; simp [evalAlts] at h
  | cons a as ih =>
    intro s ms s' has h
    obtain ⟨hget, hsub, _, habs⟩ := has a List.mem_cons_self
    rw [evalAlts, caseS_eq] at h
    rcases caseS_ok_inv h with ⟨ms0, s0, hx, h⟩ | h
    · cases h
      exact (hg _ _ _ _ _ _ hget hx).mono hn hsub fun f hf => (habs f hf).2
    · exact ih _ _ _ (fun a' ha' => has a' (List.mem_cons_of_mem _ ha')) h

theorem evalLoop_pgood {body : St → SOut (List FMatch)} {own : List FieldDesc}
    (hb : ∀ s ms s', body s = some (.ok ms s') → ∀ m ∈ ms, Declared own m) :
    ∀ k iters acc s r s', (∀ m ∈ acc, Declared own m) →
      evalLoop body k iters acc s = some (.ok r s') → ∀ m ∈ r.2, Declared own m := by
  intro k
  induction k with
  | zero => intro iters acc s r s' _ h; simp [evalLoop] at h
  | succ k ih =>
    intro iters acc s r s' hacc h
    rw [evalLoop, caseS_eq] at h
    rcases caseS_ok_inv h with ⟨ms0, s0, hx, h⟩ | h
    · refine ih _ _ _ _ _ (fun m hm => ?_) h
      rcases List.mem_append.mp hm with hm | hm
      · exact hacc m hm
      · exact hb _ _ _ hx m hm
    · cases h; exact hacc

theorem stepExpr_pgood (hg : PGoodE env rec.expr) (n : Nat) : PGoodE env (stepExpr env rec n) := by
  intro ctx e own s ms s' hget h
  have hn := getFields_nodup hget
  match hterm : terminalOf e with
  | some (.ok m) =>
    rw [getFields_of_terminalOf hterm hget]
    rw [stepExpr_terminal hterm] at h
    obtain ⟨s1, h⟩ := withSkipWs_ok_inv h
    obtain ⟨_, _, _, _, rfl⟩ := abs_map_ok (Option.some.inj h)
    exact PathOk.nil_nil
  | some (.error msg) => rw [stepExpr_terminal_error hterm] at h; cases h
  | none =>
  cases e with
  | range | lit | eoi => simp [terminalOf] at hterm
  | choice alts =>
    have hall := choice_arms_ok hn hget (SubFields.refl own)
    rw [filterRuleFields_self] at hall
    match alts with
    | [] => simp [stepExpr] at h
    | [a] =>
      obtain ⟨h1, h2, _, h3⟩ := hall a List.mem_cons_self
      exact (hg _ _ _ _ _ _ h1 h).mono hn h2 fun f hf => (h3 f hf).2
    | a :: b :: rest =>
      exact evalAlts_pgood hg hn _ _ _ _ hall h
  | seq parts =>
    match parts with
    | [] =>
      simp only [stepExpr, Option.some.injEq, Res.ok.injEq] at h
      rw [← h.1, getFields_seq_nil hget]
      exact PathOk.nil_nil
    | [a] =>
      obtain ⟨hps, hnames, _⟩ := getFields_seq hget
      obtain ⟨h1, h2⟩ := hps a List.mem_cons_self
      refine (hg _ _ _ _ _ _ h1 h).mono hn h2 (fun f hf hin => ?_)
      obtain ⟨p, hp, hpx⟩ := (hnames f.name).mp (hasField_of_mem hf)
      rw [List.mem_singleton.mp hp] at hpx
      exact absurd (hin ▸ hpx) (by decide)
    | a :: b :: rest =>
      have hps := seq_parts_ok hn hget (SubFields.refl own)
      rw [filterRuleFields_self] at hps
      exact evalSeq_pgood hg hn _ [] [] s ms s' hps (fun _ hm => by cases hm) (fun _ _ hq => by cases hq) h
  | group b =>
    exact hg _ _ _ _ _ _ (getFields_inv hget) h
  | opt b =>
    obtain ⟨fs, hb, rfl⟩ := getFields_inv hget
    rw [stepExpr, caseS_eq] at h
    rcases caseS_ok_inv h with ⟨ms0, s0, hx, h⟩ | h
    · cases h
      exact (hg _ _ _ _ _ _ hb hx).mono hn (subFields_opt fs) (fun f hf _ => opt_fields_optional fs f hf)
    · cases h
      exact PathOk.nil (opt_fields_optional fs)
  | closure b atLeastOne =>
    obtain ⟨fs, hb, rfl⟩ := getFields_inv hget
    obtain ⟨⟨iters, acc⟩, s1, hx, h⟩ := bindS_ok h
    simp only at h
    split at h
    · cases h
    · simp only [Option.some.injEq, Res.ok.injEq] at h
      rw [← h.1]
      have := evalLoop_pgood (own := fs.map fun f => { f with arity := Arity.multiple })
        (fun s ms s' hbs m hm => ((hg _ _ _ _ _ _ hb hbs).1 m hm).mono (subFields_closure fs))
        n 0 [] s (iters, acc) s1 (fun _ hm => by cases hm) hx
      refine ⟨this, fun f hf => ?_⟩
      rw [closure_fields_multiple fs f hf]; trivial
  | neg b =>
    obtain ⟨_, rfl⟩ := getFields_inv hget
    rw [stepExpr, caseS_eq] at h
    rcases caseS_ok_inv h with ⟨_, _, _, h⟩ | h <;> cases h
    exact PathOk.nil_nil
  | pos b =>
    obtain ⟨_, rfl⟩ := getFields_inv hget
    obtain ⟨_, _, _, h⟩ := bindS_ok h
    cases h; exact PathOk.nil_nil
  | incl rn =>
    obtain ⟨rule, hr, hdef⟩ := getFields_inv hget
    simp only [stepExpr, hr] at h
    exact hg _ _ _ _ _ _ hdef h
  | field name boxed typ =>
    obtain ⟨s1, h⟩ := withSkipWs_ok_inv h
    obtain ⟨v, s2, _, h⟩ := bindS_ok h
    cases name with
    | none =>
      rw [getFields_inv hget]
      cases h; exact PathOk.nil_nil
    | some nm =>
      rw [show own = _ from getFields_inv hget]
      cases h
      refine ⟨fun m hm => ?_, fun f hf => ?_⟩
      · rw [List.mem_singleton.mp hm]
        exact ⟨_, List.mem_cons_self, rfl, (typ, boxed), List.mem_cons_self, rfl⟩
      · rw [List.mem_singleton.mp hf]
        simp [flt, CountOk]

end

theorem eval_pgood (env : Env) (u : Nat) : ∀ n, PGoodE env (eval env u n).expr := by
  intro n
  induction n with
  | zero => exact fun _ _ _ _ _ _ _ h => nomatch h
  | succ n ih => exact stepExpr_pgood ih n

end PM

/-! ### the algebra of shaping

  `shapeParsed` is `Entries` for the requirement `Shapes` ("the value of a field is the shaping of the matches for
  it"), so the lemmas of Plumbing.lean about the plumbing helpers – stated for any requirement – say that each helper
  computes the shaping of the path matches; what is particular to shaping is below: no match, one match, appending. -/

/-- `v` is the shaping of the matches of `ms` for field `f` -/
abbrev Shapes (RF : List FieldDesc) (ms : List FMatch) (f : FieldDesc) (v : Val) : Prop :=
  shapeField RF f (flt ms f.name) = some v

theorem shapeParsed_entries {RF : List FieldDesc} {ms : List FMatch} :
    ∀ {fields : List FieldDesc} {p : Parsed}, shapeParsed RF fields ms = some p ↔ Entries (Shapes RF ms) fields p := by
  intro fields
  induction fields with
  | nil =>
    intro p
    simp only [shapeParsed, Option.some.injEq]
    exact ⟨fun h => h ▸ .nil, fun h => by cases h; rfl⟩
  | cons f fs ih =>
    intro p
    constructor
    · intro h
      simp only [shapeParsed] at h
      split at h
      · rename_i v p' hv hp'
        cases h
        exact .cons hv (ih.mp hp')
      · cases h
    · intro h
      cases h with
      | cons hv hp => simp only [shapeParsed, hv, ih.mpr hp]

theorem wrapAll_append {RF : List FieldDesc} {a b : List FMatch} {l1 l2 : List Val}
    (h1 : wrapAll RF a = some l1) (h2 : wrapAll RF b = some l2) : wrapAll RF (a ++ b) = some (l1 ++ l2) := by
  rw [wrapAll_eq_mapM] at *
  rw [List.mapM_append, h1, h2]; rfl

theorem shapeField_multiple {RF : List FieldDesc} {f : FieldDesc} (hm : f.arity = .multiple)
    {ms : List FMatch} {v : Val} (h : shapeField RF f ms = some v) :
    ∃ l, v = .list l ∧ wrapAll RF ms = some l := by
  unfold shapeField at h
  rw [hm] at h
  simp only at h
  cases hw : wrapAll RF ms with
  | none => rw [hw] at h; cases h
  | some l => rw [hw] at h; simp only [Option.map_some, Option.some.injEq] at h; exact ⟨l, h.symm, rfl⟩

theorem shapeField_multiple_of {RF : List FieldDesc} {f : FieldDesc} (hm : f.arity = .multiple)
    {ms : List FMatch} {l : List Val} (h : wrapAll RF ms = some l) : shapeField RF f ms = some (.list l) := by
  unfold shapeField
  rw [hm]
  simp only [h, Option.map_some]

theorem shapeField_nil {RF : List FieldDesc} {f : FieldDesc} (h : Arity.optional ≤ f.arity) :
    ∃ v, defaultField f = .ok v ∧ shapeField RF f [] = some v := by
  unfold defaultField shapeField
  cases ha : f.arity with
  | one => rw [ha] at h; exact absurd h (by decide)
  | optional => exact ⟨_, rfl, rfl⟩
  | multiple => exact ⟨_, rfl, rfl⟩

/-- `field.rs: generate_postprocess_calls` = shaping of a single match -/
theorem postprocessField_path {RF : List FieldDesc} (hn : (RF.map (·.name)).Nodup) {f : FieldDesc}
    (hf : f ∈ RF) {typ : String} {tb} (ht : f.types.find? (·.1 == typ) = some tb) (v : Val) :
    ∃ fv, postprocessField RF f.name typ v = .ok fv ∧ shapeField RF f [⟨f.name, typ, v⟩] = some fv := by
  unfold postprocessField shapeField wrapAll wrapMatch
  simp only [findField_of_mem hn hf, wrapAll, ht]
  refine ⟨_, rfl, ?_⟩
  cases f.arity <;> rfl

/-- a result that is the shaping of some matches by `fields` is left alone by `project fields` -/
theorem project_self {RF fields : List FieldDesc} {ms : List FMatch} {p : Parsed}
    (hn : (fields.map (·.name)).Nodup) (h : shapeParsed RF fields ms = some p) :
    project fields p = .ok p := by
  obtain ⟨p', hp', hs⟩ := project_entries ((shapeParsed_entries.mp h).binds hn)
  have hs' := shapeParsed_entries.mpr hs
  rw [h] at hs'
  cases hs'
  exact hp'

/-- appending the matches of a `multiple` field appends the `Vec`s of their wrapped values -/
theorem shapeField_mergeInv (RF : List FieldDesc) :
    MergeInv (fun f ms v => shapeField RF f ms = some v) (· ++ ·) where
  extend hm ha hb := by
    obtain ⟨_, rfl, h1⟩ := shapeField_multiple hm ha
    obtain ⟨_, rfl, h2⟩ := shapeField_multiple hm hb
    exact ⟨_, extendVal_list _ _, shapeField_multiple_of hm (wrapAll_append h1 h2)⟩

/-- the accumulator of a sequence binds every seen rule field to the shaping of its matches so far -/
abbrev AccV (RF : List FieldDesc) (seen : List String) (acc : Parsed) (cur : String → List FMatch) : Prop :=
  AccP (fun f ms v => shapeField RF f ms = some v) RF seen acc cur

/-! ### simulation: `Spec.eval` (with the plumbing) computes the shaping of what `PM.eval` collects -/

namespace PM
open Spec

/-- a result of `Spec` against the outcome of `PM`: same state / failure / panic, values related -/
def RelO {α β} (V : α → β → Prop) : Res α → SOut β → Prop
  | .ok a s, y => ∃ b, y = some (.ok b s) ∧ V a b
  | .err e, y => y = some (.err e)
  | .panic m, y => y = some (.panic m)

theorem relO_eq {α} {r : Res α} {y : SOut α} : RelO Eq r y ↔ y = some r := by
  cases r with
  | ok a s =>
    constructor
    · rintro ⟨b, hb, rfl⟩; exact hb
    · intro h; exact ⟨a, h, rfl⟩
  | err e => exact Iff.rfl
  | panic m => exact Iff.rfl

/-- the one lemma about `caseS` for the simulation: related sub-runs, related continuations -/
theorem caseS_rel {α β α' β'} {V : α → α' → Prop} {W : β → β' → Prop} {x : SOut α} {x' : SOut α'}
    {ok : α → St → SOut β} {ok' : α' → St → SOut β'} {err : SOut β} {err' : SOut β'} {r : Res β}
    (h : caseS x ok err = some r) (hx : ∀ rx, x = some rx → RelO V rx x')
    (hok : ∀ a b s1, x' = some (.ok b s1) → V a b → ok a s1 = some r → RelO W r (ok' b s1))
    (herr : err = some r → RelO W r err') : RelO W r (caseS x' ok' err') := by
  match x, h, hx with
  | some rx, h, hx =>
    have hrx := hx rx rfl
    cases rx with
    | ok a s1 =>
      obtain ⟨b, hb, hv⟩ := hrx
      rw [hb]
      exact hok a b s1 hb hv h
    | err e => rw [show x' = _ from hrx]; exact herr h
    | panic m => rw [show x' = _ from hrx]; cases h; rfl

theorem bindS_rel {α β α' β'} {V : α → α' → Prop} {W : β → β' → Prop} {x : SOut α} {x' : SOut α'}
    {k : α → St → SOut β} {k' : α' → St → SOut β'} {r : Res β}
    (h : bindS x k = some r) (hx : ∀ rx, x = some rx → RelO V rx x')
    (hk : ∀ a b s1, x' = some (.ok b s1) → V a b → k a s1 = some r → RelO W r (k' b s1)) :
    RelO W r (bindS x' k') :=
  caseS_rel (err := some (.err noErr)) (err' := some (.err noErr)) h hx hk fun h => by cases h; rfl

def SimE (env : Env) (a : Ctx → Expr → St → SOut Parsed) (b : Ctx → Expr → St → SOut (List FMatch)) : Prop :=
  ∀ ctx e own s, (ctx.ruleFields.map (·.name)).Nodup → getFields env.g env.nf e = .ok own →
    SubFields own ctx.ruleFields → ∀ r, a ctx e s = some r →
    RelO (fun p ms => Entries (Shapes ctx.ruleFields ms) (filterRuleFields ctx.ruleFields own) p) r (b ctx e s)

structure Sim (env : Env) (rec : SRec) (prec : PRec) : Prop where
  expr : SimE env rec.expr prec.expr
  rule : Spec.LeR rec.rule prec.rule

section
variable {env : Env} {rec : SRec} {prec : PRec}

theorem withSkipWs_rel {α β} {W : α → β → Prop} (hsim : Sim env rec prec) {ctx : Ctx} {s : St}
    {k : St → SOut α} {k' : St → SOut β} {r : Res α}
    (h : Spec.withSkipWs rec ctx s k = some r)
    (hk : ∀ s1, k s1 = some r → RelO W r (k' s1)) : RelO W r (withSkipWs prec ctx s k') := by
  unfold Spec.withSkipWs at h
  unfold withSkipWs
  split at h
  · rw [if_pos ‹_›]
    exact bindS_rel (V := Eq) h (fun rx hx => relO_eq.mpr (hsim.rule _ _ _ hx)) fun _ _ s1 _ _ h => hk s1 h
  · rw [if_neg ‹_›]
    exact hk _ h

/-- `Spec.stepExpr` binds the outcome of `Spec.evalSeq` once more (for the final `project`); for
    `PM.evalSeq` that changes nothing: its failures already are those of a `bindS` -/
theorem evalSeq_bind (prec : PRec) (ctx : Ctx) : ∀ ps acc s,
    bindS (evalSeq prec ctx ps acc s) (fun ms s' => some (.ok ms s')) = evalSeq prec ctx ps acc s := by
  intro ps
  induction ps with
  | nil => exact fun _ _ => rfl
  | cons p ps ih =>
    intro acc s
    rw [evalSeq, bindS_assoc]
    exact congrArg (bindS (prec.expr ctx p s)) (funext fun _ => funext fun _ => ih _ _)

theorem evalSeq_sim (hsim : Sim env rec prec) (hpg : PGoodE env prec.expr) {ctx : Ctx}
    (hn : (ctx.ruleFields.map (·.name)).Nodup) {fields : List FieldDesc} :
    ∀ ps seen acc macc s r, SeqParts env ctx.ruleFields fields seen ps →
      AccV ctx.ruleFields seen acc (flt macc) →
      (∀ m ∈ macc, hasField ctx.ruleFields m.key = true → m.key ∈ seen) →
      Spec.evalSeq env rec ctx ps seen acc s = some r →
      RelO (fun sa ms => Binds (Shapes ctx.ruleFields ms) fields sa.2) r (evalSeq prec ctx ps macc s) := by
  intro ps
  induction ps with
  | nil =>
    intro seen acc macc s r hps hacc _ h
    simp only [Spec.evalSeq, Option.some.injEq] at h
    subst h
    exact ⟨macc, rfl, fun f hf => hacc f (hps f hf).1 (hps f hf).2⟩
  | cons p ps ih =>
    intro seen acc macc s r ⟨hget, hsub, hmult, hps⟩ hacc hkeys h
    simp only [Spec.evalSeq] at h
    simp only [evalSeq]
    refine bindS_rel h (hsim.expr ctx p _ s hn hget hsub) ?_
    intro v mp s1 hxp hv hk
    have hpo := hpg _ _ _ _ _ _ hget hxp
    have hps' := hv.binds (filterRuleFields_nodup hn _)
    obtain ⟨seen', acc', hmp, hacc', hseen'⟩ :=
      mergePart_inv (shapeField_mergeInv _) hn (r := v) (new := flt mp) (cur := flt macc) (seen := seen)
        (acc := acc) (filterRuleFields_nodup hn _)
        (fun f hf => ⟨(mem_filterRuleFields.mp hf).1, hps' f hf⟩) hmult
        (fun f hf hs => by
          have h0 : flt macc f.name = [] := flt_eq_nil fun m hm e =>
            hs (e ▸ hkeys m hm (e ▸ hasField_of_mem (mem_filterRuleFields.mp hf).1))
          rw [h0]; rfl)
        hacc
    simp only [hmp] at hk
    refine ih seen' acc' (macc ++ mp) s1 r (hps seen' hseen') ?_ ?_ hk
    · refine hacc'.congr (fun g hg _ => ?_)
      simp only [flt_append]
      split
      · rfl
      · rename_i hnot
        rw [flt_eq_nil (ms := mp) (x := g.name) fun m hm e => hnot (hasField_iff.mp (hasField_filterRuleFields.mpr
          ⟨hasField_of_mem hg, e ▸ (hpo.1 m hm).hasField⟩)), List.append_nil]
    · intro m hm hRF
      rcases List.mem_append.mp hm with hm | hm
      · exact (hseen' _).mpr (.inl (hkeys m hm hRF))
      · exact (hseen' _).mpr (.inr (hasField_iff.mp (hasField_filterRuleFields.mpr ⟨hRF, (hpo.1 m hm).hasField⟩)))

theorem evalAlts_sim (hsim : Sim env rec prec) (hpg : PGoodE env prec.expr) {ctx : Ctx}
    (hn : (ctx.ruleFields.map (·.name)).Nodup) {fields : List FieldDesc} :
    ∀ as s r, (∀ a ∈ as, ArmOk env ctx.ruleFields fields a) →
      Spec.evalAlts env rec ctx fields as s = some r →
      RelO (fun p ms => Entries (Shapes ctx.ruleFields ms) fields p) r (evalAlts prec ctx as s) := by
  intro as
  induction as with
  | nil =>
    intro s r _ h
    simp only [Spec.evalAlts, Option.some.injEq] at h
    subst h; rfl
  | cons a as ih =>
    intro s r has h
    obtain ⟨hget, hsub, hin, habs⟩ := has a List.mem_cons_self
    rw [Spec.evalAlts_step] at h
    rw [evalAlts, caseS_eq]
    refine caseS_rel h (hsim.expr ctx a _ s hn hget hsub) ?_
      (ih _ _ fun a' ha' => has a' (List.mem_cons_of_mem _ ha'))
    intro r0 ms s0 hms hv h
    have hpo := hpg _ _ _ _ _ _ hget hms
    have hps := hv.binds (filterRuleFields_nodup hn _)
    obtain ⟨p, hp, hsp⟩ := convertArm_entries (P := Shapes ctx.ruleFields ms) (fields := fields)
      (inner := ownFields env a) (r := r0) hin
      (fun f hf hi => by
        show ∃ v, defaultField f = .ok v ∧ shapeField _ f (flt ms f.name) = some v
        rw [flt_eq_nil_of_declared hpo.1 hi]; exact shapeField_nil ((habs f hf).2 hi))
      (fun f hf hi => hps f (mem_filterRuleFields.mpr ⟨(habs f hf).1, hi⟩))
    simp only [hp, Option.some.injEq] at h
    subst h
    exact ⟨ms, rfl, hsp⟩

theorem evalLoop_sim {body : St → SOut Parsed} {pbody : St → SOut (List FMatch)} {RF fields : List FieldDesc}
    (hnf : (fields.map (·.name)).Nodup) (hmul : ∀ f ∈ fields, f.arity = .multiple)
    (hb : ∀ s r, body s = some r → RelO (fun p ms => Entries (Shapes RF ms) fields p) r (pbody s)) :
    ∀ k iters acc macc s r, Entries (Shapes RF macc) fields acc →
      Spec.evalLoop body fields k iters acc s = some r →
      RelO (fun ia im => ia.1 = im.1 ∧ Entries (Shapes RF im.2) fields ia.2) r
        (evalLoop pbody k iters macc s) := by
  intro k
  induction k with
  | zero => intro iters acc macc s r _ h; simp [Spec.evalLoop] at h
  | succ k ih =>
    intro iters acc macc s r hacc h
    rw [Spec.evalLoop_step] at h
    rw [evalLoop, caseS_eq]
    refine caseS_rel h (hb s) ?_ fun h => by cases h; exact ⟨(iters, macc), rfl, rfl, hacc⟩
    intro r0 ms s0 _ hv h
    obtain ⟨acc', he, hacc'⟩ := extendAll_inv (shapeField_mergeInv RF) hnf hmul hv hacc
    simp only [he] at h
    refine ih _ _ _ _ _ ?_ h
    unfold Shapes; simp only [flt_append]; exact hacc'

theorem stepExpr_sim (hsim : Sim env rec prec) (hpg : PGoodE env prec.expr) (n : Nat) :
    SimE env (Spec.stepExpr env rec n) (stepExpr env prec n) := by
  intro ctx e own s hn hget hsub r h
  match hterm : terminalOf e with
  | some (.ok m) =>
    rw [getFields_of_terminalOf hterm hget, filterRuleFields_nil]
    rw [Spec.stepExpr_terminal hterm] at h
    rw [stepExpr_terminal hterm]
    refine withSkipWs_rel hsim h fun s1 h => ?_
    cases h
    cases hm : m s1 with
    | ok p s2 => rw [terminal_val hterm hm]; exact ⟨[], rfl, .nil⟩
    | err e => rfl
    | panic m => rfl
  | some (.error msg) =>
    rw [Spec.stepExpr_terminal_error hterm, Option.some.injEq] at h
    rw [stepExpr_terminal_error hterm, ← h]
    rfl
  | none =>
  cases e with
  | range | lit | eoi => simp [terminalOf] at hterm
  | choice alts =>
    match alts with
    | [] =>
      simp only [Spec.stepExpr, Option.some.injEq] at h
      subst h; rfl
    | [a] =>
      obtain ⟨harms, hnames, _⟩ := getFields_choice hget
      obtain ⟨h1, h2⟩ := harms a List.mem_cons_self
      rw [← filterRuleFields_single hnames]
      exact hsim.expr ctx a _ s hn h1 (h2.trans hsub) r h
    | a :: b :: rest =>
      simp only [Spec.stepExpr] at h
      rw [ownFields_eq hget] at h
      exact evalAlts_sim hsim hpg hn _ s r (choice_arms_ok hn hget hsub) h
  | seq parts =>
    match parts with
    | [] =>
      simp only [Spec.stepExpr, Option.some.injEq] at h
      subst h
      rw [getFields_seq_nil hget, filterRuleFields_nil]
      exact ⟨[], rfl, .nil⟩
    | [a] =>
      obtain ⟨hps, hnames, _⟩ := getFields_seq hget
      obtain ⟨h1, h2⟩ := hps a List.mem_cons_self
      rw [← filterRuleFields_single hnames]
      exact hsim.expr ctx a _ s hn h1 (h2.trans hsub) r h
    | a :: b :: rest =>
      simp only [Spec.stepExpr] at h
      rw [ownFields_eq hget] at h
      simp only [stepExpr]
      rw [← evalSeq_bind]
      refine bindS_rel h (fun rx hx => evalSeq_sim hsim hpg hn _ [] [] [] s rx (seq_parts_ok hn hget hsub)
        (fun _ _ hx => by cases hx) (fun _ hm => by cases hm) hx) ?_
      intro sa ms s1 _ hv hk
      obtain ⟨p, hp, hsp⟩ := project_entries hv
      simp only [hp, Option.some.injEq] at hk
      subst hk
      exact ⟨ms, rfl, hsp⟩
  | group b =>
    exact hsim.expr ctx b own s hn (getFields_inv hget) hsub r h
  | opt b =>
    obtain ⟨fs, hb, rfl⟩ := getFields_inv hget
    rw [filterRuleFields_map_arity]
    rw [Spec.opt_step] at h
    rw [stepExpr, caseS_eq]
    refine caseS_rel h (hsim.expr ctx b fs s hn hb ((subFields_opt fs).trans hsub))
      (fun _ ms _ _ hv h => by cases h; exact ⟨ms, rfl, hv⟩) fun h => ?_
    rw [ownFields_eq hb] at h
    obtain ⟨p, hp, hsp⟩ := defaults_entries (P := Shapes ctx.ruleFields []) fun f hf =>
      shapeField_nil (map_arity_fields_ge hn optional_le_toOptional hsub f hf)
    simp only [hp, Option.some.injEq] at h
    subst h
    exact ⟨[], rfl, hsp⟩
  | closure b atLeastOne =>
    obtain ⟨fs, hb, rfl⟩ := getFields_inv hget
    rw [filterRuleFields_map_arity _ fs fun _ => .multiple]
    have hmul : ∀ f ∈ filterRuleFields ctx.ruleFields fs, f.arity = .multiple := fun f hf =>
      Arity.eq_multiple_of_le (map_arity_fields_ge hn (fun _ => Arity.le_refl _) hsub f hf)
    simp only [Spec.stepExpr] at h
    rw [ownFields_eq hb] at h
    obtain ⟨init, hinit, hsi⟩ := closureInit_entries (P := Shapes ctx.ruleFields []) fun f hf =>
      ⟨hmul f hf, shapeField_multiple_of (hmul f hf) rfl⟩
    simp only [hinit] at h
    refine bindS_rel h (fun rx hx =>
      evalLoop_sim (filterRuleFields_nodup hn fs) hmul
        (fun s => hsim.expr ctx b fs s hn hb ((subFields_closure fs).trans hsub))
        n 0 init [] s rx hsi hx) ?_
    intro ia im s1 _ hv hk
    obtain ⟨iters, acc⟩ := ia
    obtain ⟨iters', macc⟩ := im
    simp only at hv hk ⊢
    obtain ⟨rfl, hv⟩ := hv
    split at hk
    · rw [if_pos ‹_›]; cases hk; rfl
    · rw [if_neg ‹_›]; cases hk; exact ⟨macc, rfl, hv⟩
  | neg b =>
    obtain ⟨hb, rfl⟩ := getFields_inv hget
    rw [filterRuleFields_nil]
    rw [Spec.neg_step] at h
    rw [stepExpr, caseS_eq]
    exact caseS_rel h (hsim.expr ctx b [] s hn hb (SubFields.nil _))
      (fun _ _ _ _ _ h => by cases h; rfl) fun h => by cases h; exact ⟨[], rfl, .nil⟩
  | pos b =>
    obtain ⟨hb, rfl⟩ := getFields_inv hget
    rw [filterRuleFields_nil]
    exact bindS_rel h (hsim.expr ctx b [] s hn hb (SubFields.nil _))
      fun _ _ _ _ _ hk => by cases hk; exact ⟨[], rfl, .nil⟩
  | incl rn =>
    obtain ⟨rule, hr, hdef⟩ := getFields_inv hget
    simp only [Spec.stepExpr, hr] at h
    simp only [stepExpr, hr]
    exact hsim.expr ctx rule.definition own s hn hdef hsub r h
  | field name boxed typ =>
    refine withSkipWs_rel hsim h ?_
    intro s1 h
    refine bindS_rel (V := Eq) h (fun rx hx => relO_eq.mpr (hsim.rule _ _ _ hx)) ?_
    intro v v' s2 _ hvv hk
    subst hvv
    cases name with
    | none =>
      rw [getFields_inv hget, filterRuleFields_nil]
      cases hk
      exact ⟨[], rfl, .nil⟩
    | some nm =>
      have hown : own = _ := getFields_inv hget
      subst hown
      obtain ⟨f, hf, hname, tb, ht⟩ := field_in_rule hsub
      simp only at hk
      rw [← hname] at hk
      obtain ⟨fv, hfv, hs⟩ := postprocessField_path hn hf ht v
      simp only [hfv, Option.some.injEq] at hk
      subst hk
      rw [filterRuleFields_singleton hn hf (o := ⟨nm.key, [(typ, boxed)], .one⟩) hname.symm]
      have hflt : flt [(⟨nm.key, typ, v⟩ : FMatch)] f.name = [⟨f.name, typ, v⟩] := by
        simp [flt, hname]
      exact ⟨_, rfl, .cons (by rw [Shapes, hflt]; exact hs) .nil⟩

theorem ruleBody_sim (hsim : Sim env rec prec) {u : Nat} {r0 : Rule} {s : St} {r : Res Val}
    (h : Spec.ruleBody env u rec r0 s = some r) : ruleBody env u prec r0 s = some r := by
  unfold Spec.ruleBody at h
  unfold ruleBody
  cases hf : getFields env.g env.nf r0.definition with
  | ok fields =>
    simp only [hf] at h ⊢
    have hn := getFields_nodup hf
    have hexpr : ∀ {skip} rx, rec.expr ⟨skip, fields⟩ r0.definition s = some rx →
        RelO (fun p ms => Entries (Shapes fields ms) fields p) rx
          (prec.expr ⟨skip, fields⟩ r0.definition s) := by
      intro skip
      have := hsim.expr ⟨skip, fields⟩ r0.definition fields s hn hf (SubFields.refl _)
      rwa [filterRuleFields_self] at this
    by_cases h1 : r0.flags.string = true
    · rw [if_pos h1] at h ⊢
      exact relO_eq.mp (bindS_rel h hexpr fun _ _ _ _ _ hk => relO_eq.mpr hk)
    · rw [if_neg h1] at h ⊢
      by_cases h2 : (fields.length == 1 && (fields.head?.map (·.name)) == some "_override") = true
      · rw [if_pos h2] at h ⊢
        refine relO_eq.mp (bindS_rel h hexpr ?_)
        intro p ms s1 _ hv hk
        obtain ⟨v, hv'⟩ := override_bound h2 (hv.binds hn)
        simp only [shapeParsed_entries.mpr hv, Option.bind_some, hv'] at hk ⊢
        exact relO_eq.mpr hk
      · rw [if_neg h2] at h ⊢
        by_cases h3 : hasField fields "_override" = true
        · rw [if_pos h3] at h ⊢
          exact h
        · rw [if_neg h3] at h ⊢
          refine relO_eq.mp (bindS_rel h hexpr ?_)
          intro p ms s1 _ hv hk
          have hv := shapeParsed_entries.mpr hv
          simp only [hv, project_self hn hv] at hk ⊢
          exact relO_eq.mpr hk
  | _ => simp only [hf] at h ⊢; exact h

theorem stepRule_sim (hsim : Sim env rec prec) {u : Nat} :
    Spec.LeR (Spec.stepRule env u rec) (stepRule env u prec) := by
  intro name s r h
  unfold Spec.stepRule at h
  unfold stepRule
  split at h
  · rename_i r0 heq
    simp only [heq]
    exact ruleBody_sim hsim h
  · rename_i cr heq
    simp only [heq]
    exact charRule_sim (recB := prec.toS) rfl hsim.rule h
  · rename_i er heq
    simp only [heq]
    exact h
  · rename_i heq
    simp only [heq]
    exact h

end

/-- the two reference semantics are in simulation, fuel by fuel -/
theorem eval_sim (env : Env) (u : Nat) : ∀ n, Sim env (Spec.eval env u n) (eval env u n) := by
  intro n
  induction n with
  | zero => exact ⟨fun _ _ _ _ _ _ _ _ h => (nomatch h), fun _ _ _ h => (nomatch h)⟩
  | succ n ih => exact ⟨stepExpr_sim ih (eval_pgood env u n) n, stepRule_sim ih⟩

end PM

/-! ### fuel monotonicity of `PM.eval`: its answer, when defined, is unique -/

namespace PM
open Spec

def LeE (a b : Ctx → Expr → St → SOut (List FMatch)) : Prop :=
  ∀ ctx e s r, a ctx e s = some r → b ctx e s = some r

structure Le (a b : PRec) : Prop where
  expr : LeE a.expr b.expr
  rule : Spec.LeR a.rule b.rule

/-- `PM.withSkipWs rec` is `Spec.withSkipWs rec.toS` -/
theorem withSkipWs_le {α} {rec rec' : PRec} (hle : Le rec rec') {ctx s} {k k' : St → SOut α} {r}
    (hk : ∀ s r, k s = some r → k' s = some r)
    (h : withSkipWs rec ctx s k = some r) : withSkipWs rec' ctx s k' = some r :=
  Spec.withSkipWs_le (rec := rec.toS) (rec' := rec'.toS) hle.rule hk h

theorem evalSeq_le {rec rec' : PRec} (hle : Le rec rec') {ctx} :
    ∀ ps acc s r, evalSeq rec ctx ps acc s = some r → evalSeq rec' ctx ps acc s = some r := by
  intro ps
  induction ps with
  | nil => exact fun _ _ _ h => h
  | cons p ps ih => exact fun acc s r h => bindS_le (hle.expr _ _ _) (fun _ _ _ => ih _ _ _) h

theorem evalAlts_le {rec rec' : PRec} (hle : Le rec rec') {ctx} :
    ∀ as s r, evalAlts rec ctx as s = some r → evalAlts rec' ctx as s = some r := by
  intro as
  induction as with
  | nil => exact fun _ _ h => h
  | cons a as ih =>
    intro s r h
    rw [evalAlts, caseS_eq] at h ⊢
    exact caseS_le (hle.expr _ _ _) (fun _ _ _ h => h) (ih _) h

theorem evalLoop_le {body body' : St → SOut (List FMatch)}
    (hb : ∀ s r, body s = some r → body' s = some r) :
    ∀ k k' iters acc s r, k ≤ k' → evalLoop body k iters acc s = some r →
      evalLoop body' k' iters acc s = some r := by
  intro k
  induction k with
  | zero => exact fun _ _ _ _ _ _ h => nomatch h
  | succ k ih =>
    intro k' iters acc s r hk h
    obtain ⟨k'', rfl⟩ : ∃ k'', k' = k'' + 1 := ⟨k' - 1, by omega⟩
    rw [evalLoop, caseS_eq] at h ⊢
    exact caseS_le (hb s) (fun _ _ _ => ih _ _ _ _ _ (by omega)) (fun _ h => h) h

theorem stepExpr_le {env} {rec rec' : PRec} (hle : Le rec rec') {n m : Nat} (hnm : n ≤ m) :
    LeE (stepExpr env rec n) (stepExpr env rec' m) := by
  intro ctx e s r h
  match hterm : terminalOf e with
  | some (.ok m) =>
    rw [stepExpr_terminal hterm] at h ⊢
    exact withSkipWs_le hle (fun _ _ h => h) h
  | some (.error msg) => rw [stepExpr_terminal_error hterm] at h ⊢; exact h
  | none =>
  cases e with
  | range | lit | eoi => simp [terminalOf] at hterm
  | choice alts =>
    match alts with
    | [] => exact h
    | [a] => exact hle.expr _ _ _ _ h
    | a :: b :: rest => exact evalAlts_le hle _ _ _ h
  | seq parts =>
    match parts with
    | [] => exact h
    | [a] => exact hle.expr _ _ _ _ h
    | a :: b :: rest => exact evalSeq_le hle _ _ _ _ h
  | group b => exact hle.expr _ _ _ _ h
  | opt b =>
    rw [stepExpr, caseS_eq] at h ⊢
    exact caseS_le (hle.expr _ _ _) (fun _ _ _ h => h) (fun _ h => h) h
  | closure b plus =>
    exact bindS_le (fun _ => evalLoop_le (hle.expr _ _) _ _ _ _ _ _ hnm) (fun _ _ _ h => h) h
  | neg b =>
    rw [stepExpr, caseS_eq] at h ⊢
    exact caseS_le (hle.expr _ _ _) (fun _ _ _ h => h) (fun _ h => h) h
  | pos b => exact bindS_le (hle.expr _ _ _) (fun _ _ _ h => h) h
  | incl r0 =>
    simp only [stepExpr] at h ⊢
    split at h
    · exact h
    · exact hle.expr _ _ _ _ h
  | field name boxed typ =>
    exact withSkipWs_le hle (fun _ _ h => bindS_le (hle.rule _ _) (fun _ _ _ h => h) h) h

theorem ruleBody_le {env u} {rec rec' : PRec} (hle : Le rec rec') {r0 : Rule} {s r} :
    ruleBody env u rec r0 s = some r → ruleBody env u rec' r0 s = some r := by
  let P (F : PRec → SOut Val) : Prop := F rec = some r → F rec' = some r
  have hb : ∀ {ctx} {k : List FMatch → St → SOut Val}, P fun rec => bindS (rec.expr ctx r0.definition s) k :=
    bindS_le (hle.expr _ _ _) fun _ _ _ h => h
  show P fun rec => ruleBody env u rec r0 s
  unfold ruleBody
  cases getFields env.g env.nf r0.definition with
  | ok fields => exact ite_pred hb (ite_pred hb (ite_pred id hb))
  | _ => exact id

theorem stepRule_le {env u} {rec rec' : PRec} (hle : Le rec rec') :
    Spec.LeR (stepRule env u rec) (stepRule env u rec') := by
  intro name s r h
  unfold stepRule at h ⊢
  split at h
  · exact ruleBody_le hle h
  · exact charRule_sim (recA := rec.toS) (recB := rec'.toS) rfl hle.rule h
  · exact h
  · exact h

theorem step_le {env u} {rec rec' : PRec} (hle : Le rec rec') {n m : Nat} (hnm : n ≤ m) :
    Le (step env u rec n) (step env u rec' m) :=
  ⟨stepExpr_le hle hnm, stepRule_le hle⟩

theorem eval_le_succ (env : Env) (u : Nat) : ∀ n, Le (eval env u n) (eval env u (n + 1)) := by
  intro n
  induction n with
  | zero => exact ⟨fun _ _ _ _ h => (nomatch h), fun _ _ _ h => (nomatch h)⟩
  | succ n ih => exact step_le ih (Nat.le_succ n)

/-- the `PM` answer is unique: two fuels that both answer give the same answer -/
theorem eval_rule_det (env : Env) (u : Nat) {n m : Nat} {name s r r'}
    (h : (eval env u n).rule name s = some r) (h' : (eval env u m).rule name s = some r') : r = r' :=
  fuel_det (f := fun n => (eval env u n).rule name s) (fun n r => (eval_le_succ env u n).rule name s r) h h'

theorem eval_expr_det (env : Env) (u : Nat) {n m : Nat} {ctx e s r r'}
    (h : (eval env u n).expr ctx e s = some r) (h' : (eval env u m).expr ctx e s = some r') : r = r' :=
  fuel_det (f := fun n => (eval env u n).expr ctx e s) (fun n r => (eval_le_succ env u n).expr ctx e s r) h h'

end PM

open Spec

/-- **C02, expression level.**  In a context whose rule fields are duplicate-free and cover the own
    fields of `e`, a successful evaluation of `e` by the reference semantics *with the generated field
    plumbing* returns exactly the shaping – by the rule-level descriptors – of the field matches that
    `PM.eval` collects along the successful path (same end state); moreover these matches fit the
    local analysis of `e` (`PathOk`: every match is declared, and a field of local arity `one` /
    `optional` / `multiple` has exactly one / at most one / any number of matches). -/
theorem C02_tree (env : Env) (u n : Nat) {ctx : Ctx} {e : Expr} {own : List FieldDesc} {s s' : St}
    {p : Parsed}
    (hn : (ctx.ruleFields.map (·.name)).Nodup)
    (hget : getFields env.g env.nf e = .ok own)
    (hsub : SubFields own ctx.ruleFields)
    (h : (Spec.eval env u n).expr ctx e s = some (.ok p s')) :
    ∃ ms, (PM.eval env u n).expr ctx e s = some (.ok ms s') ∧
      shapeParsed ctx.ruleFields (filterRuleFields ctx.ruleFields own) ms = some p ∧
      PathOk own ms := by
  obtain ⟨ms, hms, hv⟩ := (PM.eval_sim env u n).expr ctx e own s hn hget hsub _ h
  exact ⟨ms, hms, shapeParsed_entries.mpr hv, PM.eval_pgood env u n _ _ _ _ _ _ hget hms⟩

/-- failures and panics of expressions coincide -/
theorem C02_tree_fail (env : Env) (u n : Nat) {ctx : Ctx} {e : Expr} {own : List FieldDesc} {s : St}
    (hn : (ctx.ruleFields.map (·.name)).Nodup)
    (hget : getFields env.g env.nf e = .ok own)
    (hsub : SubFields own ctx.ruleFields) :
    (∀ err, (Spec.eval env u n).expr ctx e s = some (.err err) →
      (PM.eval env u n).expr ctx e s = some (.err err)) ∧
    (∀ msg, (Spec.eval env u n).expr ctx e s = some (.panic msg) →
      (PM.eval env u n).expr ctx e s = some (.panic msg)) :=
  ⟨fun _ h => (PM.eval_sim env u n).expr ctx e own s hn hget hsub _ h,
   fun _ h => (PM.eval_sim env u n).expr ctx e own s hn hget hsub _ h⟩

/-- the hypotheses of `C02_tree` hold for the definition of a rule in the rule's own context -/
theorem C02_rule_definition (env : Env) (u n : Nat) {r0 : Rule} {fields : List FieldDesc} (skip : Bool)
    {s s' : St} {p : Parsed}
    (hget : getFields env.g env.nf r0.definition = .ok fields)
    (h : (Spec.eval env u n).expr ⟨skip, fields⟩ r0.definition s = some (.ok p s')) :
    ∃ ms, (PM.eval env u n).expr ⟨skip, fields⟩ r0.definition s = some (.ok ms s') ∧
      shapeParsed fields fields ms = some p ∧ PathOk fields ms := by
  have := C02_tree env u n (ctx := ⟨skip, fields⟩) (getFields_nodup hget) hget (SubFields.refl _) h
  rw [filterRuleFields_self] at this
  exact this

/-- **C02, rule level.**  The reference semantics with the generated plumbing and the reference
    semantics that only collects the matches of the successful path and shapes them once, by the
    rule-level arities, give the same answer on every rule, from every state, at every fuel: same
    value, same end state; failures and panics coincide.  No hypothesis on the grammar. -/
theorem C02_rule (env : Env) (u n : Nat) {name : String} {s : St} {r : Res Val}
    (h : (Spec.eval env u n).rule name s = some r) : (PM.eval env u n).rule name s = some r :=
  (PM.eval_sim env u n).rule name s r h

theorem C02_parse_spec (env : Env) (u n : Nat) {rule : String} {inp : List UInt8} {r : Res Val}
    (h : Spec.parse env u n rule inp = some r) : PM.parse env u n rule inp = some r :=
  C02_rule env u n h

/-- **C02 for the model of the generated parser.**  Whatever `parse_advanced` answers (any set of
    memoized rules; user functions that leave the user context alone; no `@leftrec`) is the answer of
    `PM.eval`: in particular a returned tree is, node by node, the shaping of the field matches on
    the successful path. -/
theorem C02_parse_res (env : Env) (hp : PureHooks env.hooks) (hnl : NoLeftrec env.g)
    (rule : String) (inp : List UInt8) (u n : Nat) {r : Res Val} {g : Global}
    (h : parseAdvanced env n rule inp u = some (r, g)) :
    ∃ m, PM.parse env u m rule inp = some (abs r) := by
  obtain ⟨m, hm⟩ := parse_sound env hp hnl rule inp u n h
  exact ⟨m, C02_parse_spec env u m hm⟩

theorem C02_parse (env : Env) (hp : PureHooks env.hooks) (hnl : NoLeftrec env.g)
    (rule : String) (inp : List UInt8) (u n : Nat) {v : Val} {s : St} {g : Global}
    (h : parseAdvanced env n rule inp u = some (.ok v s, g)) :
    ∃ m, PM.parse env u m rule inp = some (.ok v (clr s)) :=
  C02_parse_res env hp hnl rule inp u n h

/-- … and since the `PM` answer is unique (`PM.eval_rule_det`), *every* answer of `PM` – at whatever
    fuel – is the answer of the generated parser -/
theorem C02_parse_unique (env : Env) (hp : PureHooks env.hooks) (hnl : NoLeftrec env.g)
    (rule : String) (inp : List UInt8) (u n m : Nat) {r r' : Res Val} {g : Global}
    (h : parseAdvanced env n rule inp u = some (r, g))
    (h' : PM.parse env u m rule inp = some r') : r' = abs r := by
  obtain ⟨m0, h0⟩ := C02_parse_res env hp hnl rule inp u n h
  exact PM.eval_rule_det env u h' h0

/-! ### reading `PM`: what the tree of a successful rule contains -/

/-- a struct rule: the node's field list is the shaping, by the rule's own descriptors, of the
    matches on the successful path through the rule's definition -/
theorem PM.ruleBody_node {env : Env} {u : Nat} {rec : PM.PRec} {r0 : Rule} {fields : List FieldDesc}
    {s s' : St} {v : Val}
    (hget : getFields env.g env.nf r0.definition = .ok fields)
    (hstr : r0.flags.string = false) (hov : hasField fields "_override" = false)
    (h : PM.ruleBody env u rec r0 s = some (.ok v s')) :
    ∃ ms fs, rec.expr ⟨env.settings.skipWhitespace && !r0.flags.noSkipWs, fields⟩ r0.definition s
        = some (.ok ms s') ∧
      shapeParsed fields fields ms = some fs ∧
      v = .node r0.name fs (if r0.flags.position then some (s.off, s'.off) else none) := by
  unfold PM.ruleBody at h
  simp only [hget, hstr, Bool.false_eq_true, if_false, hov] at h
  have hc : ¬ ((fields.length == 1 && (fields.head?.map (·.name)) == some "_override") = true) := by
    intro hc
    obtain ⟨f, hf, e⟩ := override_mem hc
    have := hasField_of_mem hf
    rw [e, hov] at this
    cases this
  simp only [hc] at h
  obtain ⟨ms, s1, hx, h⟩ := bindS_ok h
  split at h
  · rename_i fs hfs
    obtain ⟨rfl, rfl⟩ := Spec.runChecks_ok _ h
    exact ⟨ms, fs, hx, hfs, rfl⟩
  · cases h

/-- … and field by field: the node has exactly the rule's fields, in declaration order, and field
    `f` holds the shaping of the path matches whose key is `f`, in path (= input) order:
    exactly one match for arity `one`, `None` / `Some` of at most one for `optional`, the `Vec` of all of
    them for `multiple` (see `shapeField`) -/
theorem shapeParsed_fields {fields : List FieldDesc} {ms : List FMatch} {fs : Parsed}
    (hn : (fields.map (·.name)).Nodup) (h : shapeParsed fields fields ms = some fs) :
    fs.map (·.1) = fields.map (·.name) ∧
    ∀ f ∈ fields, ∃ v, fs.get f.name = some v ∧
      shapeField fields f (ms.filter (·.key == f.name)) = some v :=
  ⟨(shapeParsed_entries.mp h).keys, (shapeParsed_entries.mp h).binds hn⟩

/-- what `wrapMatch` returns: the value the rule returned, boxed if declared so, inside the variant
    named after the rule if several rule types can fill the field -/
theorem wrapMatch_inv {RF : List FieldDesc} {m : FMatch} {f : FieldDesc} {w : Val}
    (hf : findField RF m.key = some f) (h : wrapMatch RF m = some w) :
    ∃ x, (x = m.val ∨ x = .boxed m.val) ∧ w = if f.types.length > 1 then .variant m.typ x else x := by
  unfold wrapMatch at h
  rw [hf] at h
  simp only at h
  split at h
  · cases h
  · rename_i t bx _
    cases h
    cases bx
    · exact ⟨_, .inl rfl, rfl⟩
    · exact ⟨_, .inr rfl, rfl⟩

/-- a field with a single type holds the value the rule returned (boxed if declared so) -/
theorem wrapMatch_plain {RF : List FieldDesc} {m : FMatch} {f : FieldDesc} {w : Val}
    (hf : findField RF m.key = some f) (hlen : ¬ f.types.length > 1) (h : wrapMatch RF m = some w) :
    w = m.val ∨ w = .boxed m.val := by
  obtain ⟨x, hx, rfl⟩ := wrapMatch_inv hf h
  rw [if_neg hlen]; exact hx

/-! #### abandoned matches leave no trace (the defining equations of `PM`) -/

/-- a failed alternative contributes nothing: the choice continues as if it were not there -/
theorem PM.evalAlts_failed (rec : PM.PRec) (ctx : Ctx) (a : Expr) (rest : List Expr) (s : St) {e : PErr}
    (h : rec.expr ctx a s = some (.err e)) :
    PM.evalAlts rec ctx (a :: rest) s = PM.evalAlts rec ctx rest s := by
  rw [PM.evalAlts, h]

/-- the first successful alternative supplies all the matches of the choice -/
theorem PM.evalAlts_first (rec : PM.PRec) (ctx : Ctx) (a : Expr) (rest : List Expr) (s s' : St)
    {ms : List FMatch} (h : rec.expr ctx a s = some (.ok ms s')) :
    PM.evalAlts rec ctx (a :: rest) s = some (.ok ms s') := by
  rw [PM.evalAlts, h]

/-- an optional whose body fails contributes no match (whatever the body matched before failing) -/
theorem PM.opt_failed (env : Env) (rec : PM.PRec) (n : Nat) (ctx : Ctx) (b : Expr) (s : St) {e : PErr}
    (h : rec.expr ctx b s = some (.err e)) :
    PM.stepExpr env rec n ctx (.opt b) s = some (.ok [] s) := by
  rw [PM.stepExpr, h]

/-- the failing last iteration of a closure contributes no match -/
theorem PM.evalLoop_last (body : St → SOut (List FMatch)) (k iters : Nat) (acc : List FMatch) (s : St)
    {e : PErr} (h : body s = some (.err e)) :
    PM.evalLoop body (k + 1) iters acc s = some (.ok (iters, acc) s) := by
  rw [PM.evalLoop, h]

/-- a successful iteration appends its matches after those of the earlier iterations -/
theorem PM.evalLoop_iter (body : St → SOut (List FMatch)) (k iters : Nat) (acc ms : List FMatch) (s s' : St)
    (h : body s = some (.ok ms s')) :
    PM.evalLoop body (k + 1) iters acc s = PM.evalLoop body k (iters + 1) (acc ++ ms) s' := by
  rw [PM.evalLoop, h]

/-- a sequence concatenates the matches of its parts in order -/
theorem PM.evalSeq_cons (rec : PM.PRec) (ctx : Ctx) (p : Expr) (ps : List Expr) (acc ms : List FMatch)
    (s s' : St) (h : rec.expr ctx p s = some (.ok ms s')) :
    PM.evalSeq rec ctx (p :: ps) acc s = PM.evalSeq rec ctx ps (acc ++ ms) s' := by
  rw [PM.evalSeq, h]; rfl

/-! ### the other rule kinds (corollaries of `Spec.ruleBody` / `Spec.stepRule`) -/

theorem shapeField_one_plain {f : FieldDesc} {t : String} {ms : List FMatch} {v : Val}
    (ha : f.arity = .one) (ht : f.types = [(t, false)]) (hk : ∀ m ∈ ms, m.key = f.name)
    (h : shapeField [f] f ms = some v) : ∃ m, ms = [m] ∧ m.typ = t ∧ v = m.val := by
  unfold shapeField at h
  rw [ha] at h
  simp only at h
  split at h
  · rename_i m
    refine ⟨m, rfl, ?_⟩
    have hkm := hk m List.mem_cons_self
    unfold wrapMatch at h
    simp only [findField, List.find?_cons, hkm, beq_self_eq_true, ht] at h
    by_cases hmt : t = m.typ
    · simp [hmt] at h
      exact ⟨hmt.symm, h.symm⟩
    · have : (t == m.typ) = false := by simpa using hmt
      simp [this] at h
  · cases h

/-- what a successful part of a `@char` rule returned -/
def CharPartVal (rec : SRec) (s s' : St) (v : Val) : CharRulePart → Prop
  | .chr item => ∃ c r, item.toChar = .ok c ∧ v = .chr r ∧
      abs ((parseCharacterLiteral s c).map Val.chr) = .ok (.chr r) s'
  | .range lo hi => ∃ l h r, lo.toChar = .ok l ∧ hi.toChar = .ok h ∧ v = .chr r ∧
      abs ((parseCharacterRange s l h).map Val.chr) = .ok (.chr r) s'
  | .ident id => rec.rule id s = some (.ok v s')

/-- `@char` rules return a character: the literal, a character of the range, or what the referenced
    (char) rule returned -/
theorem charParts_value {rec : SRec} : ∀ (ps : List CharRulePart) {s s' : St} {v : Val},
    Spec.charParts rec ps s = some (.ok v s') → ∃ p ∈ ps, CharPartVal rec s s' v p := by
  intro ps
  induction ps with
  | nil => intro s s' v h; simp [Spec.charParts] at h
  | cons p ps ih =>
    intro s s' v h
    rw [Spec.charParts_step] at h
    rcases caseS_ok_inv h with ⟨v0, s0, hx, h⟩ | h
    · cases h
      refine ⟨p, List.mem_cons_self, ?_⟩
      cases p with
      | chr item =>
        simp only at hx
        split at hx
        · rename_i c hc
          have hx := Option.some.inj hx
          obtain ⟨r, _, _, _, rfl⟩ := abs_map_ok hx
          exact ⟨c, r, hc, rfl, hx⟩
        · cases hx
      | range lo hi =>
        simp only at hx
        split at hx
        · rename_i l h' hl hh
          have hx := Option.some.inj hx
          obtain ⟨r, _, _, _, rfl⟩ := abs_map_ok hx
          exact ⟨l, h', r, hl, hh, rfl, hx⟩
        · cases hx
      | ident id => exact hx
    · obtain ⟨q, hq, hv⟩ := ih h
      exact ⟨q, List.mem_cons_of_mem _ hq, hv⟩

namespace PathExamples

def lx (c : Char) : Expr := .lit false [.chr c]
def fld (n t : String) : Expr := .field (some (.ident n)) false t

/-- `X = 'x';  Y = 'y';
    R = (a:X b:Y 'z' | a:X) {c:Y} [d:X 'q'] !(X 'q') {v:X | v:Y};` -/
def exG : Grammar := ⟨[
  .rule { directives := [], name := "X", definition := lx 'x' },
  .rule { directives := [], name := "Y", definition := lx 'y' },
  .rule { directives := [], name := "R", definition := .seq [
      .choice [.seq [fld "a" "X", fld "b" "Y", lx 'z'], fld "a" "X"],
      .closure (fld "c" "Y") false,
      .opt (.seq [fld "d" "X", lx 'q']),
      .neg (.seq [.field none false "X", lx 'q']),
      .closure (.choice [fld "v" "X", fld "v" "Y"]) false] }]⟩
def exEnv : Env := { g := exG, settings := { skipWhitespace := false }, hooks := default, nf := 8 }

/-- the input `xyyxyx` -/
def exInp : List UInt8 := [120, 121, 121, 120, 121, 120]

def X : Val := .node "X" [] none
def Y : Val := .node "Y" [] none

/-- the rule-level analysis of `R` -/
example : getFields exG 8 (.incl "R") = .ok
    [⟨"a", [("X", false)], .one⟩, ⟨"b", [("Y", false)], .optional⟩, ⟨"c", [("Y", false)], .multiple⟩,
     ⟨"d", [("X", false)], .optional⟩, ⟨"v", [("X", false), ("Y", false)], .multiple⟩] := by
  with_unfolding_all rfl

/-- the matches on the successful path of `R` on `xyyxyx`, in input order.  The `a:X b:Y` of the first
    alternative (abandoned at `'z'`), the `d:X` of the optional (abandoned at `'q'`), the `X` inside the
    lookahead and the failing last iterations of the closures leave no trace. -/
example : ((PM.eval exEnv 0 7).expr ⟨false, []⟩ (.incl "R") (St.new exInp)).map
      (fun r => match r with | .ok ms s => some (ms.map (fun m => (m.key, m.typ)), s.off) | _ => none) =
    some (some ([("a", "X"), ("c", "Y"), ("c", "Y"), ("v", "X"), ("v", "Y"), ("v", "X")], 6)) := by
  decide +kernel

/-- the run of the reference semantics with the generated plumbing, evaluated once -/
theorem spec_run : Spec.parse exEnv 0 8 "R" exInp = some (.ok
    (.node "R" [("a", X), ("b", .none), ("c", .list [Y, Y]), ("d", .none),
                ("v", .list [.variant "X" X, .variant "Y" Y, .variant "X" X])] none)
    ⟨[], 6, none⟩) := by
  with_unfolding_all rfl

/-- the tree `PM` builds from these matches … -/
example : PM.parse exEnv 0 8 "R" exInp = some (.ok
    (.node "R" [("a", X), ("b", .none), ("c", .list [Y, Y]), ("d", .none),
                ("v", .list [.variant "X" X, .variant "Y" Y, .variant "X" X])] none)
    ⟨[], 6, none⟩) :=
  C02_parse_spec exEnv 0 8 spec_run

/-- … is the tree the reference semantics with the generated plumbing returns (instance of `C02_rule`) … -/
example : Spec.parse exEnv 0 8 "R" exInp = PM.parse exEnv 0 8 "R" exInp :=
  spec_run.trans (C02_parse_spec exEnv 0 8 spec_run).symm

/-- … and the tree of the model of the generated parser (instance of `C02_parse`; its hypotheses hold:
    the default hooks are pure and the grammar has no `@leftrec` rule) -/
example : (parseAdvanced exEnv 8 "R" exInp 0).map (fun p => Spec.abs p.1) = PM.parse exEnv 0 8 "R" exInp := by
  rw [C02_parse_spec exEnv 0 8 spec_run]
  with_unfolding_all rfl

/-- the hypothesis `SubFields own ctx.ruleFields` of `C02_tree` cannot be dropped: in a context that
    does not declare the field the plumbing panics, while `PM` (which has no plumbing) just records
    the match -/
example :
    (Spec.eval exEnv 0 3).expr ⟨false, []⟩ (fld "a" "X") (St.new exInp)
      = some (.panic ("codegen: " ++ "Field not found in rule_fields")) ∧
    ((PM.eval exEnv 0 3).expr ⟨false, []⟩ (fld "a" "X") (St.new exInp)).map
      (fun r => match r with | .ok ms s => some (ms.map (fun m => (m.key, m.typ)), s.off) | _ => none)
      = some (some ([("a", "X")], 1)) :=
  ⟨by with_unfolding_all rfl, by decide +kernel⟩

example : PureHooks exEnv.hooks := ⟨fun _ _ _ => rfl, fun _ _ _ => rfl⟩

theorem exEnv_noLeftrec : NoLeftrec exEnv.g := by
  intro r hr
  simp only [exEnv, exG, List.mem_cons, RuleEntry.rule.injEq, List.not_mem_nil, or_false] at hr
  rcases hr with rfl | rfl | rfl <;> rfl
example : NoLeftrec exEnv.g := exEnv_noLeftrec

end PathExamples

end Peg
