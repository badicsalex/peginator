import PegVerif.Proofs.Outcome
/-
  Property C09: "`@position` ranges are exactly the byte span the rule consumed; ranges of nested
  nodes lie inside their parent's range; successive matches do not overlap and are in input order", by two passes
  over the evaluator, each followed by the results read off it.  The passes are written with the outcome invariants,
  the value plumbing and the rule wrappers of Outcome.lean.

  Pass 1 is generic in a range predicate `V` on values (`ValPred V`); the field plumbing is followed by
  `GrowsBy P acc acc'` (the accumulator only gains values satisfying `P`).  Its results:
  (1) with the trivial `V`, offsets are monotone; (2) with `ValIn`, ranges are nested; (3) order within a sequence
  or a closure: what a run from `s` to `s'` adds to the accumulator lies in `[s.off, s'.off]`
  (`Grows lo hi` is `GrowsBy (ValIn lo hi)`).

  Pass 2 follows consistency with the input (`WfSt`) and a cache whose entries say what (4) says (`CachePos`): that is
  `wf_fx`, an instance of what EvalLogic.lean asks for, at every node but a normal rule, where the entries are made and
  read (`normalRule_P`).  (4), the exact shape of the value of a `@position` rule, is read there, a call of such a rule
  being a `normalRule`.  Last, by inversion of `ruleBody` alone: (5) an override (enum) rule has no range of its own.
-/
namespace Peg

/-! ### position ranges inside a value -/

/-- all `position` ranges `(a, b)` occurring anywhere in the value satisfy `lo ≤ a ∧ a ≤ b ∧ b ≤ hi` -/
inductive ValIn (lo hi : Nat) : Val → Prop
  | unit : ValIn lo hi .unit
  | chr (c : Char) : ValIn lo hi (.chr c)
  | str (bs : List UInt8) : ValIn lo hi (.str bs)
  | node (n : String) (fs : List (String × Val)) (pos : Option (Nat × Nat)) :
      (∀ p ∈ fs, ValIn lo hi p.2) → (∀ a b, pos = Option.some (a, b) → lo ≤ a ∧ a ≤ b ∧ b ≤ hi) →
      ValIn lo hi (.node n fs pos)
  | variant (c : String) (v : Val) : ValIn lo hi v → ValIn lo hi (.variant c v)
  | boxed (v : Val) : ValIn lo hi v → ValIn lo hi (.boxed v)
  | some (v : Val) : ValIn lo hi v → ValIn lo hi (.some v)
  | none : ValIn lo hi .none
  | list (vs : List Val) : (∀ v ∈ vs, ValIn lo hi v) → ValIn lo hi (.list vs)
  | ext (k : String) (n : Nat) : ValIn lo hi (.ext k n)

theorem ValIn.weaken {lo hi lo' hi' : Nat} {v : Val} (h1 : lo' ≤ lo) (h2 : hi ≤ hi') (h : ValIn lo hi v) :
    ValIn lo' hi' v := by
  induction h with
  | unit => exact .unit
  | chr c => exact .chr c
  | str bs => exact .str bs
  | node n fs pos _ hp ih =>
    refine .node n fs pos ih (fun a b hab => ?_)
    have := hp a b hab
    omega
  | variant c v _ ih => exact .variant c v ih
  | boxed v _ ih => exact .boxed v ih
  | some v _ ih => exact .some v ih
  | none => exact .none
  | list vs _ ih => exact .list vs ih
  | ext k n => exact .ext k n

theorem ValIn.list_inv {lo hi : Nat} {vs : List Val} (h : ValIn lo hi (.list vs)) : ∀ v ∈ vs, ValIn lo hi v := by
  cases h with
  | list _ h => exact h

theorem ValIn.node_inv {lo hi : Nat} {n fs pos} (h : ValIn lo hi (.node n fs pos)) :
    (∀ p ∈ fs, ValIn lo hi p.2) ∧ (∀ a b, pos = Option.some (a, b) → lo ≤ a ∧ a ≤ b ∧ b ≤ hi) := by
  cases h with
  | node _ _ _ h1 h2 => exact ⟨h1, h2⟩

/-- the closure properties of a "range predicate" on values used by the evaluator pass; instantiated with
    `fun _ _ _ => True` (pure offset monotonicity) and with `ValIn` -/
structure ValPred (V : Nat → Nat → Val → Prop) : Prop where
  weaken : ∀ {lo hi lo' hi' v}, lo' ≤ lo → hi ≤ hi' → V lo hi v → V lo' hi' v
  unit : ∀ lo hi, V lo hi .unit
  chr : ∀ lo hi c, V lo hi (.chr c)
  str : ∀ lo hi bs, V lo hi (.str bs)
  none : ∀ lo hi, V lo hi .none
  some : ∀ {lo hi v}, V lo hi v → V lo hi (.some v)
  boxed : ∀ {lo hi v}, V lo hi v → V lo hi (.boxed v)
  variant : ∀ {lo hi v} c, V lo hi v → V lo hi (.variant c v)
  list : ∀ {lo hi vs}, (∀ v ∈ vs, V lo hi v) → V lo hi (.list vs)
  list_inv : ∀ {lo hi vs}, V lo hi (.list vs) → ∀ v ∈ vs, V lo hi v
  node : ∀ {lo hi} n {fs : List (String × Val)} {pos : Option (Nat × Nat)}, (∀ p ∈ fs, V lo hi p.2) →
    (∀ a b, pos = Option.some (a, b) → lo ≤ a ∧ a ≤ b ∧ b ≤ hi) → V lo hi (.node n fs pos)

theorem ValPred.trivial : ValPred (fun _ _ _ => True) := by
  constructor <;> intros <;> trivial

theorem ValPred.valIn : ValPred ValIn where
  weaken := ValIn.weaken
  unit := fun _ _ => .unit
  chr := fun _ _ c => .chr c
  str := fun _ _ bs => .str bs
  none := fun _ _ => .none
  some := fun h => .some _ h
  boxed := fun h => .boxed _ h
  variant := fun c h => .variant c _ h
  list := fun h => .list _ h
  list_inv := ValIn.list_inv
  node := fun n _ _ h1 h2 => .node n _ _ h1 h2

theorem ValPred.closed {V} (hV : ValPred V) (lo hi : Nat) : ValClosed (V lo hi) :=
  ⟨hV.none lo hi, hV.some, hV.boxed, hV.variant, hV.list, hV.list_inv⟩

/-- growth over `[a, b]`, then over `[b, c]`, is growth over `[a, c]` -/
theorem ValPred.grows_trans {V} (hV : ValPred V) {a b c : Nat} {acc acc1 acc2 : Parsed} (hab : a ≤ b) (hbc : b ≤ c)
    (h1 : GrowsBy (V a b) acc acc1) (h2 : GrowsBy (V b c) acc1 acc2) : GrowsBy (V a c) acc acc2 :=
  (h1.imp fun _ => hV.weaken (Nat.le_refl _) hbc).trans (hV.closed _ _) (h2.imp fun _ => hV.weaken hab (Nat.le_refl _))

/-! ### pass 1: offsets are monotone, values lie in the consumed interval -/

/-- cache invariant: a cached success ends at or after the offset of its key and its value lies in between -/
def CacheV (V : Nat → Nat → Val → Prop) (g : Global) : Prop :=
  ∀ name off v s', g.lookup (name, off) = some (.ok v s') → off ≤ s'.off ∧ V off s'.off v

theorem CacheV.cacheOnly (V) : CacheOnly (CacheV V) :=
  CacheOnly.of_entries fun _ off v s' => off ≤ s'.off ∧ V off s'.off v

theorem CacheV.init (V) (u : Nat) : CacheV V (Global.init u) := (Cached.ok_iff₂ _).2 (.init u)

theorem CacheV.insert {V} {g : Global} {name : String} {off : Nat} {r : Res Val} (hg : CacheV V g)
    (hr : ∀ v s', r = .ok v s' → off ≤ s'.off ∧ V off s'.off v) : CacheV V (g.insert (name, off) r) :=
  insert_entries (Q := fun _ off v s' => off ≤ s'.off ∧ V off s'.off v) hg hr

/-- user extern functions return values satisfying `V` on every interval (for `ValIn`: values without positions) -/
def ExternV (V : Nat → Nat → Val → Prop) (hooks : Hooks) : Prop :=
  ∀ fname rest u v adv u', hooks.extern fname rest u = (.ok (v, adv), u') → ∀ lo hi, V lo hi v

def PostE (V : Nat → Nat → Val → Prop) (s : St) (p : Parsed) (s' : St) : Prop :=
  s.off ≤ s'.off ∧ AllV (V s.off s'.off) p

def PostR (V : Nat → Nat → Val → Prop) (s : St) (v : Val) (s' : St) : Prop :=
  s.off ≤ s'.off ∧ V s.off s'.off v

structure RecV (V : Nat → Nat → Val → Prop) (rec : Rec) : Prop where
  expr : ∀ ctx e s g, CacheV V g → OutInv (CacheV V) (PostE V s) (rec.expr ctx e s g)
  rule : ∀ name s g, CacheV V g → OutInv (CacheV V) (PostR V s) (rec.rule name s g)

section pass1
variable {V : Nat → Nat → Val → Prop} (hV : ValPred V) {env : Env} {rec : Rec}

theorem withSkipWs_V {α} (hrec : RecV V rec) {ctx : Ctx} {s : St} {g : Global} {k : St → Global → Out α}
    {Q : α → St → Prop} (hg : CacheV V g)
    (hk : ∀ s1 g1, s.off ≤ s1.off → CacheV V g1 → OutInv (CacheV V) Q (k s1 g1)) :
    OutInv (CacheV V) Q (withSkipWs rec ctx s g k) := by
  unfold withSkipWs
  split
  · exact (hrec.rule _ _ _ hg).bind (fun _ s1 g1 hg1 hq => hk s1 g1 hq.1 hg1)
  · exact hk s g (Nat.le_refl _) hg

include hV

/-- what a run of sequence parts from `s` to `s'` adds to the accumulator lies in `[s.off, s'.off]` -/
theorem evalSeq_V (hrec : RecV V rec) {ctx : Ctx} :
    ∀ ps seen acc s g, CacheV V g →
      OutInv (CacheV V) (fun (x : List String × Parsed) s' => s.off ≤ s'.off ∧ GrowsBy (V s.off s'.off) acc x.2)
        (evalSeq env rec ctx ps seen acc s g) := by
  intro ps
  induction ps with
  | nil => intro seen acc s g hg; exact OutInv.ok hg ⟨Nat.le_refl _, .refl _⟩
  | cons p ps ih =>
    intro seen acc s g hg
    rw [evalSeq]
    refine (hrec.expr ctx p s g hg).bind (fun r s1 g1 hg1 hq => ?_)
    obtain ⟨hle, hr⟩ := hq
    cases hm : mergePart (filterRuleFields ctx.ruleFields (ownFields env p)) seen acc r with
    | error m => simp only [hm]; exact OutInv.panic hg1
    | ok x =>
      obtain ⟨seen', acc'⟩ := x
      simp only [hm]
      exact (ih seen' acc' s1 g1 hg1).mono fun x s' hx =>
        ⟨Nat.le_trans hle hx.1, hV.grows_trans hle hx.1 (mergePart_grows (hV.closed _ _) hm hr) hx.2⟩

theorem evalAlts_V (hrec : RecV V rec) {ctx : Ctx} {fields : List FieldDesc} :
    ∀ as s g, CacheV V g → OutInv (CacheV V) (PostE V s) (evalAlts env rec ctx fields as s g) := by
  intro as
  induction as with
  | nil => intro s g hg; exact OutInv.err hg
  | cons a as ih =>
    intro s g hg
    rw [evalAlts_step]
    refine (hrec.expr ctx a s g hg).caseR (fun r s' g' hg' hq => ?_) (fun e g' hg' => ?_)
    · split
      · rename_i p hp
        exact OutInv.ok hg' ⟨hq.1, convertArm_V (hV.closed _ _) hp hq.2⟩
      · exact OutInv.panic hg'
    · refine (ih (s.recordError e) g' hg').mono (fun p s' hp => ?_)
      simpa only [PostE, recordError_off] using hp

/-- the same for the iterations of a closure -/
theorem evalLoop_V {body : St → Global → Out Parsed}
    (hbody : ∀ s g, CacheV V g → OutInv (CacheV V) (PostE V s) (body s g)) {fields : List FieldDesc} :
    ∀ k iters acc s g, CacheV V g →
      OutInv (CacheV V) (fun (x : Nat × Parsed) s' => s.off ≤ s'.off ∧ GrowsBy (V s.off s'.off) acc x.2)
        (evalLoop body fields k iters acc s g) := by
  intro k
  induction k with
  | zero => intro iters acc s g _; exact OutAll.none
  | succ k ih =>
    intro iters acc s g hg
    rw [evalLoop_step]
    refine (hbody s g hg).caseR (fun r s1 g1 hg1 hq => ?_) (fun e g1 hg1 => ?_)
    · obtain ⟨hle, hr⟩ := hq
      split
      · rename_i acc' hacc'
        exact (ih (iters + 1) acc' s1 g1 hg1).mono fun x s' hx =>
          ⟨Nat.le_trans hle hx.1, hV.grows_trans hle hx.1 (extendAll_grows (hV.closed _ _) hacc' hr) hx.2⟩
      · exact OutInv.panic hg1
    · refine OutInv.ok hg1 ?_
      simp only [recordError_off]
      exact ⟨Nat.le_refl _, .refl _⟩

theorem stepExpr_V (hrec : RecV V rec) (n : Nat) (ctx : Ctx) (e : Expr) (s : St) (g : Global)
    (hg : CacheV V g) : OutInv (CacheV V) (PostE V s) (stepExpr env rec n ctx e s g) := by
  have hnil : PostE V s [] s := ⟨Nat.le_refl _, AllV.nil⟩
  match hterm : terminalOf e with
  | some (.ok m) =>
    rw [stepExpr_terminal hterm]
    refine withSkipWs_V hrec hg (fun s1 g1 hle hg1 => OutAll.res hg1 (fun p s' hr => ?_))
    rw [terminal_val hterm hr]
    exact ⟨Nat.le_trans hle ((isMatcher_of_terminalOf hterm).off_le hr), AllV.nil⟩
  | some (.error msg) => rw [stepExpr_terminal_error hterm]; exact OutInv.panic hg
  | none =>
    cases e with
    | range lo hi => simp [terminalOf] at hterm
    | lit ins body => simp [terminalOf] at hterm
    | eoi => simp [terminalOf] at hterm
    | choice alts =>
      match alts with
      | [] => exact OutInv.panic hg
      | [a] => exact hrec.expr ctx a s g hg
      | a :: b :: rest => exact evalAlts_V hV hrec _ _ _ hg
    | seq parts =>
      match parts with
      | [] => exact OutInv.ok hg hnil
      | [a] => exact hrec.expr ctx a s g hg
      | a :: b :: rest =>
        refine (evalSeq_V hV hrec (a :: b :: rest) [] [] s g hg).bind (fun x s' g' hg' hq => ?_)
        obtain ⟨seen, acc⟩ := x
        simp only []
        split
        · rename_i p hp
          exact OutInv.ok hg' ⟨hq.1, project_V hp (hq.2.allV (hV.closed _ _) AllV.nil)⟩
        · exact OutInv.panic hg'
    | group b => exact hrec.expr ctx b s g hg
    | opt b =>
      rw [opt_step]
      refine (hrec.expr ctx b s g hg).caseR (fun _ _ _ hg' hq => OutInv.ok hg' hq) (fun e g' hg' => ?_)
      split
      · rename_i p hp
        refine OutInv.ok hg' ⟨by simp, ?_⟩
        simp only [recordError_off]
        exact defaults_V (hV.closed _ _) hp
      · exact OutInv.panic hg'
    | closure b atLeastOne =>
      simp only [stepExpr]
      split
      · exact OutInv.panic hg
      · rename_i init hinit
        refine (evalLoop_V hV (hrec.expr ctx b) n 0 init s g hg).bind (fun x s' g' hg' hq => ?_)
        obtain ⟨iters, acc⟩ := x
        simp only []
        split
        · exact OutInv.err hg'
        · exact OutInv.ok hg' ⟨hq.1, hq.2.allV (hV.closed _ _) (closureInit_V (hV.closed _ _) hinit)⟩
    | neg b =>
      rw [neg_step]
      exact (hrec.expr ctx b s g hg).caseR (fun _ _ _ hg' _ => OutInv.err hg') (fun _ _ hg' => OutInv.ok hg' hnil)
    | pos b =>
      exact (hrec.expr ctx b s g hg).bind (fun _ _ g' hg' _ => OutInv.ok hg' hnil)
    | incl r =>
      simp only [stepExpr]
      split
      · exact OutInv.panic hg
      · exact hrec.expr ctx _ s g hg
    | field name boxed typ =>
      simp only [stepExpr]
      refine withSkipWs_V hrec hg (fun s1 g1 hle hg1 => ?_)
      refine (hrec.rule typ s1 g1 hg1).bind (fun v s' g' hg' hq => ?_)
      have hle' : s.off ≤ s'.off := Nat.le_trans hle hq.1
      cases name with
      | none => exact OutInv.ok hg' ⟨hle', AllV.nil⟩
      | some nm =>
        simp only []
        split
        · rename_i fv hp
          exact OutInv.ok hg' ⟨hle', AllV.single (postprocessField_V (hV.closed _ _) hp (hV.weaken hle (Nat.le_refl _) hq.2))⟩
        · exact OutInv.panic hg'

/-! #### rule level -/

theorem ruleBody_V (hrec : RecV V rec) (r : Rule) (s : St) (g : Global) (hg : CacheV V g) :
    OutInv (CacheV V) (PostR V s) (ruleBody env rec r s g) := by
  have hC := CacheV.cacheOnly V
  cases hf : getFields env.g env.nf r.definition with
  | ok fields =>
    rw [ruleBody_eq hf]
    split
    · exact OutInv.panic hg
    · refine (hrec.expr _ _ s g hg).bind (fun p s' g' hg' hq => ?_)
      cases hv : ruleValue r fields s p s' with
      | error m => exact OutInv.panic hg'
      | ok v =>
        refine runChecks_inv hC _ _ _ _ hg' ⟨hq.1, ruleValue_V hv (hV.str _ _ _)
          (fun fs pos hfs hpos => hV.node _ hfs fun a b hab => ?_) hq.2⟩
        obtain ⟨rfl, rfl⟩ := hpos a b hab
        exact ⟨Nat.le_refl _, hq.1, Nat.le_refl _⟩
  | err | fuel => simp only [ruleBody, hf]; exact OutInv.panic hg

theorem stepRule_V (hext : ExternV V env.hooks) (hrec : RecV V rec) (n : Nat) (name : String) (s : St)
    (g : Global) (hg : CacheV V g) : OutInv (CacheV V) (PostR V s) (stepRule env rec n name s g) := by
  simp only [stepRule]
  split
  · exact normalRule_inv (CacheV.cacheOnly V) (fun _ _ hg hr => CacheV.insert hg hr)
      (fun _ _ _ hg hl => hg _ _ _ _ hl) (fun g hg => ruleBody_V hV hrec _ s g hg) n g hg
  · exact charRule_all (fun _ _ h => nomatch h)
      (fun c => Res.map_ok fun _ _ hr => ⟨(isMatcher_parseCharacterLiteral c).off_le hr, hV.chr _ _ _⟩)
      (fun lo hi => Res.map_ok fun _ _ hr => ⟨(isMatcher_parseCharacterRange lo hi).off_le hr, hV.chr _ _ _⟩)
      (fun _ _ h => nomatch h) (fun _ _ h => nomatch h) (fun id g hg => hrec.rule id s g hg) (CacheV.cacheOnly V) g hg
  · exact externRule_all (CacheV.cacheOnly V) (fun _ _ _ h => nomatch h) (fun _ _ _ _ he _ _ hr => by
      obtain ⟨rfl, -, rfl⟩ := advanceSafe_ok_inv hr
      exact ⟨Nat.le_add_right _ _, hext _ _ _ _ _ _ he _ _⟩) g hg
  · split
    · exact OutInv.map hg (fun v s' hr => ⟨isMatcher_parseChar.off_le hr, hV.chr _ _ _⟩)
    · split
      · exact OutInv.map hg (fun v s' hr => ⟨isMatcher_parseWhitespace.off_le hr, hV.unit _ _⟩)
      · exact OutInv.panic hg

theorem eval_V (env : Env) (hext : ExternV V env.hooks) : ∀ n, RecV V (eval env n) :=
  eval_induction ⟨fun _ _ _ _ _ => OutAll.none, fun _ _ _ _ => OutAll.none⟩ fun _ n ih =>
    ⟨stepExpr_V hV ih n, stepRule_V hV hext ih n⟩

end pass1

/-! ### C09 (1): offsets are monotone -/

/-- cache invariant for monotonicity: a cached success ends at or after the offset of its key
    (`CacheV` with the trivial range predicate, up to the `True` conjunct: `cacheMono_iff`) -/
def CacheMono (g : Global) : Prop :=
  ∀ name off v s', g.lookup (name, off) = some (.ok v s') → off ≤ s'.off

theorem cacheMono_iff (g : Global) : CacheMono g ↔ CacheV (fun _ _ _ => True) g :=
  ⟨fun h name off v s' hl => ⟨h name off v s' hl, True.intro⟩, fun h name off v s' hl => (h name off v s' hl).1⟩

theorem CacheMono.init (u : Nat) : CacheMono (Global.init u) := (cacheMono_iff _).mpr (CacheV.init _ u)

theorem externV_trivial (hooks : Hooks) : ExternV (fun _ _ _ => True) hooks := fun _ _ _ _ _ _ _ _ _ => True.intro

/-- **C09, monotonicity (expressions)**: no construct returns a state before its entry state; the cache invariant
    is preserved -/
theorem offsets_monotone {env : Env} {n : Nat} {ctx : Ctx} {e : Expr} {s s' : St} {g g' : Global} {p : Parsed}
    (h : (eval env n).expr ctx e s g = some (.ok p s', g')) (hg : CacheMono g) :
    s.off ≤ s'.off ∧ CacheMono g' := by
  have := (eval_V ValPred.trivial env (externV_trivial _) n).expr ctx e s g ((cacheMono_iff g).mp hg)
  exact ⟨(this.post h).1, (cacheMono_iff g').mpr (this.cache h)⟩

theorem cacheMono_preserved {env : Env} {n : Nat} {ctx : Ctx} {e : Expr} {s : St} {g g' : Global} {r : Res Parsed}
    (h : (eval env n).expr ctx e s g = some (r, g')) (hg : CacheMono g) : CacheMono g' :=
  (cacheMono_iff g').mpr
    (((eval_V ValPred.trivial env (externV_trivial _) n).expr ctx e s g ((cacheMono_iff g).mp hg)).cache h)

theorem cacheMono_preserved_rule {env : Env} {n : Nat} {name : String} {s : St} {g g' : Global} {r : Res Val}
    (h : (eval env n).rule name s g = some (r, g')) (hg : CacheMono g) : CacheMono g' :=
  (cacheMono_iff g').mpr
    (((eval_V ValPred.trivial env (externV_trivial _) n).rule name s g ((cacheMono_iff g).mp hg)).cache h)

theorem parseAdvanced_cacheMono {env : Env} {n : Nat} {rule : String} {inp : List UInt8} {u : Nat} {r : Res Val}
    {g' : Global} (h : parseAdvanced env n rule inp u = some (r, g')) : CacheMono g' :=
  cacheMono_preserved_rule h (CacheMono.init u)

/-! ### C09 (2): nested ranges lie inside the range of the enclosing evaluation -/

/-- the values returned by user extern functions contain no positions; unfolds to `ExternV ValIn hooks` and is
    passed as such to `eval_V` -/
def ExternNoPos (hooks : Hooks) : Prop :=
  ∀ fname rest u v adv u', hooks.extern fname rest u = (.ok (v, adv), u') → ∀ lo hi, ValIn lo hi v

/-- cache invariant for nesting: a cached success of key offset `off` ends at `s'.off ≥ off` and every position
    range inside its value lies within `[off, s'.off]`; unfolds to `CacheV ValIn g` and is used as such -/
def CacheIn (g : Global) : Prop :=
  ∀ name off v s', g.lookup (name, off) = some (.ok v s') → off ≤ s'.off ∧ ValIn off s'.off v

theorem CacheIn.init (u : Nat) : CacheIn (Global.init u) := CacheV.init _ u

theorem CacheIn.mono {g : Global} (h : CacheIn g) : CacheMono g := fun name off v s' hl => (h name off v s' hl).1

/-- **C09, nesting (expressions)**: every position range recorded anywhere inside the values produced by an
    evaluation from `s` to `s'` lies within `[s.off, s'.off]` -/
theorem C09_nested {env : Env} (hext : ExternNoPos env.hooks) {n : Nat} {ctx : Ctx} {e : Expr} {s s' : St}
    {g g' : Global} {p : Parsed} (h : (eval env n).expr ctx e s g = some (.ok p s', g')) (hg : CacheIn g) :
    s.off ≤ s'.off ∧ (∀ x ∈ p, ValIn s.off s'.off x.2) ∧ CacheIn g' := by
  have := (eval_V ValPred.valIn env hext n).expr ctx e s g hg
  exact ⟨(this.post h).1, (this.post h).2, this.cache h⟩

theorem cacheIn_preserved {env : Env} (hext : ExternNoPos env.hooks) {n : Nat} {ctx : Ctx} {e : Expr} {s : St}
    {g g' : Global} {r : Res Parsed} (h : (eval env n).expr ctx e s g = some (r, g')) (hg : CacheIn g) :
    CacheIn g' :=
  ((eval_V ValPred.valIn env hext n).expr ctx e s g hg).cache h

theorem cacheIn_preserved_rule {env : Env} (hext : ExternNoPos env.hooks) {n : Nat} {name : String} {s : St}
    {g g' : Global} {r : Res Val} (h : (eval env n).rule name s g = some (r, g')) (hg : CacheIn g) :
    CacheIn g' :=
  ((eval_V ValPred.valIn env hext n).rule name s g hg).cache h

/-- a node's own range contains the ranges of everything below it (direct reading of `ValIn` at a node) -/
theorem ValIn.node_children {lo hi a b : Nat} {n fs} (h : ValIn lo hi (.node n fs (Option.some (a, b)))) :
    lo ≤ a ∧ a ≤ b ∧ b ≤ hi ∧ ∀ p ∈ fs, ValIn lo hi p.2 := by
  obtain ⟨h1, h2⟩ := h.node_inv
  obtain ⟨h3, h4, h5⟩ := h2 a b rfl
  exact ⟨h3, h4, h5, h1⟩

/-- the hypotheses are satisfiable: the default hooks (no extern function) and hooks whose extern functions return
    opaque `ext` values, strings, … contain no positions; the initial cache is good -/
example : ExternNoPos (default : Hooks) := by
  intro fname rest u v adv u' h
  simp [default] at h

example : ExternNoPos { (default : Hooks) with extern := fun _ bs u => (.ok (.ext "tok" bs.length, 1), u) } := by
  intro fname rest u v adv u' h
  simp only [Prod.mk.injEq, Except.ok.injEq] at h
  obtain ⟨⟨rfl, _⟩, _⟩ := h
  intro lo hi; exact .ext _ _

/-! ### C09 (3): successive matches do not overlap and are in input order -/

/-- `acc'` arises from `acc` by binding fields to values whose ranges lie in `[lo, hi]` or by appending elements
    whose ranges lie in `[lo, hi]` to list fields; everything else is untouched.  Unfolds to
    `GrowsBy (ValIn lo hi) acc acc'`, whose lemmas apply to it directly. -/
def Grows (lo hi : Nat) (acc acc' : Parsed) : Prop :=
  ∀ x ∈ acc', x ∈ acc ∨ ValIn lo hi x.2 ∨
    ∃ a b, (x.1, Val.list a) ∈ acc ∧ x.2 = .list (a ++ b) ∧ ∀ y ∈ b, ValIn lo hi y

theorem evalSeq_append {env : Env} {rec : Rec} {ctx : Ctx} :
    ∀ (ps qs : List Expr) {seen acc s g seen' acc' s' g'},
      evalSeq env rec ctx (ps ++ qs) seen acc s g = some (.ok (seen', acc') s', g') →
      ∃ seen1 acc1 t g1, evalSeq env rec ctx ps seen acc s g = some (.ok (seen1, acc1) t, g1) ∧
        evalSeq env rec ctx qs seen1 acc1 t g1 = some (.ok (seen', acc') s', g') := by
  intro ps
  induction ps with
  | nil => intro qs seen acc s g seen' acc' s' g' h; exact ⟨seen, acc, s, g, rfl, h⟩
  | cons p ps ih =>
    intro qs seen acc s g seen' acc' s' g' h
    obtain ⟨r, s1, g1, seen1, acc1, hx, hm, h⟩ := evalSeq_cons_ok h
    obtain ⟨seen2, acc2, t, g2, h1, h2⟩ := ih qs h
    refine ⟨seen2, acc2, t, g2, ?_, h2⟩
    rw [evalSeq, hx]
    simp only [bindR, hm]
    exact h1

section ordered
variable {env : Env} {rec : Rec}

/-- **C09, order (sequences)**: for the split of a sequence at any part boundary, with `t` the state at the
    boundary: `s.off ≤ t.off ≤ s'.off`, the parts before the boundary only contribute values with ranges in
    `[s.off, t.off]`, the parts after it only values with ranges in `[t.off, s'.off]`.  Hence the ranges of
    successive matches do not overlap and are in input order. -/
theorem C09_ordered_evalSeq (hrec : RecV ValIn rec) {ctx : Ctx} (ps qs : List Expr) {seen acc s g seen' acc' s' g'}
    (hg : CacheIn g) (h : evalSeq env rec ctx (ps ++ qs) seen acc s g = some (.ok (seen', acc') s', g')) :
    ∃ seen1 acc1 t g1,
      evalSeq env rec ctx ps seen acc s g = some (.ok (seen1, acc1) t, g1) ∧
      evalSeq env rec ctx qs seen1 acc1 t g1 = some (.ok (seen', acc') s', g') ∧
      s.off ≤ t.off ∧ t.off ≤ s'.off ∧ Grows s.off t.off acc acc1 ∧ Grows t.off s'.off acc1 acc' := by
  obtain ⟨seen1, acc1, t, g1, h1, h2⟩ := evalSeq_append ps qs h
  have hp := evalSeq_V (env := env) (ctx := ctx) ValPred.valIn hrec ps seen acc s g hg
  have hq := evalSeq_V (env := env) (ctx := ctx) ValPred.valIn hrec qs seen1 acc1 t g1 (hp.cache h1)
  exact ⟨seen1, acc1, t, g1, h1, h2, (hp.post h1).1, (hq.post h2).1, (hp.post h1).2, (hq.post h2).2⟩

/-- **C09, order (closure iterations)**: a successful iteration from `s` to `s1` contributes values with ranges
    in `[s.off, s1.off]`; all later iterations only append values with ranges in `[s1.off, s'.off]`. -/
theorem C09_ordered_evalLoop {body : St → Global → Out Parsed}
    (hbody : ∀ s g, CacheIn g → OutInv CacheIn (PostE ValIn s) (body s g)) {fields : List FieldDesc}
    {k iters : Nat} {acc : Parsed} {s : St} {g : Global} {iters' acc' s' g'} (hg : CacheIn g)
    (h : evalLoop body fields (k + 1) iters acc s g = some (.ok (iters', acc') s', g')) :
    (∃ e, body s g = some (.err e, g') ∧ acc' = acc ∧ iters' = iters ∧ s' = s.recordError e) ∨
    (∃ r s1 g1 acc1, body s g = some (.ok r s1, g1) ∧ extendAll fields acc r = .ok acc1 ∧
      evalLoop body fields k (iters + 1) acc1 s1 g1 = some (.ok (iters', acc') s', g') ∧
      s.off ≤ s1.off ∧ s1.off ≤ s'.off ∧ AllV (ValIn s.off s1.off) r ∧
      Grows s.off s1.off acc acc1 ∧ Grows s1.off s'.off acc1 acc') := by
  have hb := hbody s g hg
  rcases evalLoop_succ_ok h with ⟨e, hx, hxe, rfl⟩ | ⟨r, s1, g1, acc1, hx, hacc1, h⟩
  · cases hxe; exact Or.inl ⟨e, hx, rfl, rfl, rfl⟩
  · obtain ⟨hle, hr⟩ := hb.post hx
    obtain ⟨hle2, hg2⟩ := (evalLoop_V ValPred.valIn hbody k _ _ _ _ (hb.cache hx)).post h
    exact Or.inr ⟨r, s1, g1, acc1, hx, hacc1, h, hle, hle2, hr, extendAll_grows (ValPred.valIn.closed _ _) hacc1 hr, hg2⟩

end ordered

/-- `C09_ordered_evalSeq` for the evaluator itself: a `.seq` of at least two parts, split at any boundary -/
theorem C09_ordered {env : Env} (hext : ExternNoPos env.hooks) {n : Nat} {ctx : Ctx} {a b : Expr}
    {rest ps qs : List Expr} (hsplit : a :: b :: rest = ps ++ qs) {s s' : St} {g g' : Global} {p : Parsed}
    (hg : CacheIn g) (h : (eval env (n + 1)).expr ctx (.seq (a :: b :: rest)) s g = some (.ok p s', g')) :
    ∃ seen1 acc1 t g1 seen' acc',
      evalSeq env (eval env n) ctx ps [] [] s g = some (.ok (seen1, acc1) t, g1) ∧
      evalSeq env (eval env n) ctx qs seen1 acc1 t g1 = some (.ok (seen', acc') s', g') ∧
      project (filterRuleFields ctx.ruleFields (ownFields env (.seq (a :: b :: rest)))) acc' = .ok p ∧
      s.off ≤ t.off ∧ t.off ≤ s'.off ∧ AllV (ValIn s.off t.off) acc1 ∧ Grows t.off s'.off acc1 acc' := by
  have h' : stepExpr env (eval env n) n ctx (.seq (a :: b :: rest)) s g = some (.ok p s', g') := h
  simp only [stepExpr] at h'
  obtain ⟨x, s2, g2, hx, h'⟩ := bindR_ok_inv h'
  obtain ⟨seen', acc'⟩ := x
  split at h'
  · rename_i p' hp
    simp only [Option.some.injEq, Prod.mk.injEq, Res.ok.injEq] at h'
    obtain ⟨⟨rfl, rfl⟩, rfl⟩ := h'
    rw [hsplit] at hx
    obtain ⟨seen1, acc1, t, g1, h1, h2, hle1, hle2, hgr1, hgr2⟩ :=
      C09_ordered_evalSeq (eval_V ValPred.valIn env hext n) ps qs hg hx
    exact ⟨seen1, acc1, t, g1, seen', acc', h1, h2, hp, hle1, hle2, GrowsBy.allV (ValPred.valIn.closed _ _) hgr1 AllV.nil, hgr2⟩
  · cases h'

/-- closure iterations of the evaluator itself satisfy the hypothesis of `C09_ordered_evalLoop` -/
theorem closure_body_inv {env : Env} (hext : ExternNoPos env.hooks) (n : Nat) (ctx : Ctx) (b : Expr) :
    ∀ s g, CacheIn g → OutInv CacheIn (PostE ValIn s) ((eval env n).expr ctx b s g) :=
  (eval_V ValPred.valIn env hext n).expr ctx b

/-! ### pass 2: shape of the value of a `@position` rule, consistency with the input -/

/-- the rule is an override (enum) rule: its only field is `_override` (second branch of `ruleBody`) -/
def Rule.isOverride (env : Env) (r : Rule) : Bool :=
  match getFields env.g env.nf r.definition with
  | .ok fields => fields.length == 1 && (fields.head?.map (·.name)) == some "_override"
  | _ => false

/-- what a successful call of the `@position` rule `r` entered at offset `off` of the input `inp` returns -/
def PosShape (env : Env) (inp : List UInt8) (r : Rule) (off : Nat) (v : Val) (s' : St) : Prop :=
  r.flags.position = true →
    (r.flags.string = true →
      v = .node r.name [("string", .str ((inp.drop off).take (s'.off - off)))] (some (off, s'.off))) ∧
    (r.flags.string = false → r.isOverride env = false → ∃ fs, v = .node r.name fs (some (off, s'.off)))

/-- postcondition of a call of rule `name` from offset `off` -/
def PostP (env : Env) (inp : List UInt8) (name : String) (off : Nat) (v : Val) (s' : St) : Prop :=
  WfSt inp s' ∧ ∀ r, env.g.find name = some (.rule r) → PosShape env inp r off v s'

/-- cache invariant for the shape: a cached success is consistent with the input and, if its key names a
    `@position` rule, carries `position = (off, s'.off)` (and the exact slice for `@string` rules) -/
def CachePos (env : Env) (inp : List UInt8) (g : Global) : Prop :=
  ∀ name off v s', g.lookup (name, off) = some (.ok v s') → PostP env inp name off v s'

theorem CachePos.cacheOnly (env : Env) (inp : List UInt8) : CacheOnly (CachePos env inp) :=
  CacheOnly.of_entries (PostP env inp)

theorem CachePos.init (env : Env) (inp : List UInt8) (u : Nat) : CachePos env inp (Global.init u) :=
  (Cached.ok_iff₂ _).2 (.init u)

theorem CachePos.insert {env : Env} {inp : List UInt8} {g : Global} {name : String} {off : Nat} {r : Res Val}
    (hg : CachePos env inp g) (hr : ∀ v s', r = .ok v s' → PostP env inp name off v s') :
    CachePos env inp (g.insert (name, off) r) :=
  insert_entries (Q := PostP env inp) hg hr

/-- pass 2 at the level of the evaluator: the cursor stays consistent with the input and the cache keeps `CachePos` -/
structure RecP (env : Env) (inp : List UInt8) (rec : Rec) : Prop where
  expr : ∀ ctx e s, WfSt inp s → ∀ g, CachePos env inp g →
    OutInv (CachePos env inp) (fun (_ : Parsed) s' => WfSt inp s') (rec.expr ctx e s g)
  rule : ∀ name s, WfSt inp s → ∀ g, CachePos env inp g →
    OutInv (CachePos env inp) (fun (_ : Val) s' => WfSt inp s') (rec.rule name s g)

/-- `wf_closed` with what the calls of user functions do, for a `G` that only looks at the cache -/
theorem wf_fx (inp : List UInt8) {G : Global → Prop} (hG : CacheOnly G) :
    EvalFx fun {_} s f => WfSt inp s → ∀ g, G g → OutInv G (fun _ s' => WfSt inp s') (f g) where
  toEvalClosed := wf_closed inp G
  readUctx hk hs g hg := hk g.uctx hs g hg
  setUctx u hf hs _ hg := hf hs _ (hG.uctx u hg)
  call _ hf hs _ hg := hf hs _ (hG.emit _ hg)
  advanceSafe _ _ _ hs _ hg := OutAll.res hg fun _ _ hr => wf_advanceSafe hs hr

section pass2
variable {env : Env} {inp : List UInt8} {rec : Rec}

theorem sliceUntil_of_wf {s s' : St} (hw : WfSt inp s) :
    s.sliceUntil s' = (inp.drop s.off).take (s'.off - s.off) := by
  unfold WfSt at hw
  unfold St.sliceUntil
  rw [hw]

/-- `ruleValue` by the flags: `@string` takes its first branch, neither `@string` nor override its struct branch -/
theorem ruleValue_P {r : Rule} {fields : List FieldDesc} {s s' : St} {p : Parsed} {v : Val}
    (hf : getFields env.g env.nf r.definition = .ok fields) (hw : WfSt inp s)
    (hv : ruleValue r fields s p s' = .ok v) : PosShape env inp r s.off v s' := by
  intro hpos
  unfold ruleValue ruleShape at hv
  unfold Rule.isOverride
  rw [hf]
  refine ⟨fun hs => ?_, fun hns hno => ?_⟩
  · simp only [if_pos hs] at hv
    cases hv
    rw [stringVal, if_pos hpos, sliceUntil_of_wf hw]
  · simp only [hns, hno, Bool.false_eq_true, if_false] at hv
    by_cases hm : hasField fields "_override" = true
    · simp only [if_pos hm] at hv
      cases hv
    · simp only [if_neg hm] at hv
      split at hv <;> cases hv
      exact ⟨_, by rw [structVal, if_pos hpos]⟩

theorem ruleBody_P (hrec : RecP env inp rec) (r : Rule) (s : St) (g : Global) (hw : WfSt inp s)
    (hg : CachePos env inp g) :
    OutInv (CachePos env inp) (fun v s' => WfSt inp s' ∧ PosShape env inp r s.off v s')
      (ruleBody env rec r s g) := by
  cases hf : getFields env.g env.nf r.definition with
  | ok fields =>
    rw [ruleBody_eq hf]
    split
    · exact OutInv.panic hg
    · refine (hrec.expr _ _ s hw g hg).bind (fun p s' g' hg' hw' => ?_)
      cases hv : ruleValue r fields s p s' with
      | error m => exact OutInv.panic hg'
      | ok v => exact runChecks_inv (CachePos.cacheOnly env inp) _ _ _ _ hg' ⟨hw', ruleValue_P hf hw hv⟩
  | err | fuel => simp only [ruleBody, hf]; exact OutInv.panic hg

theorem normalRule_P (hrec : RecP env inp rec) (n : Nat) {name : String} {r : Rule}
    (hf : env.g.find name = some (.rule r)) (s : St) (g : Global) (hw : WfSt inp s) (hg : CachePos env inp g) :
    OutInv (CachePos env inp) (PostP env inp name s.off) (normalRule env rec n r s g) := by
  have hname := find_rule_name hf
  refine normalRule_inv (CachePos.cacheOnly env inp) (fun g res hg hr => ?_) (fun g v s' hg hl => ?_)
    (fun g hg => ?_) n g hg
  · rw [hname]; exact CachePos.insert hg hr
  · rw [hname] at hl; exact hg _ _ _ _ hl
  · refine (ruleBody_P hrec r s g hw hg).mono (fun v s' hq => ⟨hq.1, fun r' hr' => ?_⟩)
    rw [hf] at hr'
    cases hr'
    exact hq.2

theorem eval_P (env : Env) (inp : List UInt8) : ∀ n, RecP env inp (eval env n) :=
  eval_induction ⟨fun _ _ _ _ _ _ => OutAll.none, fun _ _ _ _ _ => OutAll.none⟩ fun _ n ih =>
    have hfx := wf_fx inp (CachePos.cacheOnly env inp)
    ⟨hfx.stepExpr ih.expr ih.rule n, hfx.stepRule n
      (fun _ s hf hw g hg => (normalRule_P ih n hf s g hw hg).mono fun _ _ h => h.1) (hfx.charRule ih.rule) hfx.externRule⟩

end pass2

/-! ### C09 (4): the range of a `@position` rule is exactly the consumed span -/

/-- consistency with the input is preserved by every successful evaluation (by-product of pass 2) -/
theorem wf_preserved {env : Env} {inp : List UInt8} {n : Nat} {ctx : Ctx} {e : Expr} {s s' : St} {g g' : Global}
    {p : Parsed} (h : (eval env n).expr ctx e s g = some (.ok p s', g')) (hw : WfSt inp s)
    (hg : CachePos env inp g) : WfSt inp s' ∧ CachePos env inp g' := by
  have := (eval_P env inp n).expr ctx e s hw g hg
  exact ⟨this.post h, this.cache h⟩

theorem cachePos_preserved_rule {env : Env} {inp : List UInt8} {n : Nat} {name : String} {s : St} {g g' : Global}
    {r : Res Val} (h : (eval env n).rule name s g = some (r, g')) (hw : WfSt inp s)
    (hg : CachePos env inp g) : CachePos env inp g' :=
  ((eval_P env inp n).rule name s hw g hg).cache h

/-- **C09, range**: a successful call of a normal `@position` rule `r` (found under `name`) from `s` to `s'`
    returns a node named `r.name` whose `position` is exactly `(s.off, s'.off)`; for a `@string @position` rule
    the single field `string` is exactly the input slice between the two offsets.
    `s` is the state at rule entry, i.e. after the *caller's* whitespace skip. -/
theorem C09_range {env : Env} {inp : List UInt8} {n : Nat} {name : String} {r : Rule} {s s' : St}
    {g g' : Global} {v : Val} (hf : env.g.find name = some (.rule r)) (hpos : r.flags.position = true)
    (h : (eval env n).rule name s g = some (.ok v s', g')) (hw : WfSt inp s) (hg : CachePos env inp g) :
    (r.flags.string = true →
      v = .node r.name [("string", .str (s.sliceUntil s'))] (some (s.off, s'.off)) ∧
      s.sliceUntil s' = (inp.drop s.off).take (s'.off - s.off)) ∧
    (r.flags.string = false → r.isOverride env = false → ∃ fs, v = .node r.name fs (some (s.off, s'.off))) ∧
    WfSt inp s' ∧ CachePos env inp g' := by
  obtain ⟨m, h⟩ := eval_rule_normal hf h
  have hr := normalRule_P (eval_P env inp m) m hf s g hw hg
  obtain ⟨hw', hsh⟩ := hr.post h
  obtain ⟨h1, h2⟩ := hsh r hf hpos
  refine ⟨fun hs => ⟨?_, sliceUntil_of_wf hw⟩, h2, hw', hr.cache h⟩
  rw [sliceUntil_of_wf hw]; exact h1 hs

/-! ### C09 (5): an override (enum) rule delegates its position to the variant -/

/-- the `position` of a value, looking through the enum-variant and `Box` wrappers (what the derived
    `PegPosition` implementation of an enum does) -/
def Val.pos? : Val → Option (Nat × Nat)
  | .node _ _ p => p
  | .variant _ v => v.pos?
  | .boxed v => v.pos?
  | _ => Option.none

theorem runChecks_ok_eq {env : Env} {fs v s g v' s' g'}
    (h : runChecks env fs v s g = some (.ok v' s', g')) : v' = v ∧ s' = s :=
  ((runChecks_all (C := fun _ => True) (R := fun r => ∀ v' s', r = .ok v' s' → v' = v ∧ s' = s) (fun _ _ _ => id)
    (fun _ _ _ h => nomatch h) (fun _ _ h => by cases h; exact ⟨rfl, rfl⟩) fs g trivial) _ _ h).2 _ _ rfl

/-- the wrappers the field post-processing puts around the rule's value (`postprocessField_ok_inv`) do not change
    `pos?`, up to `Some(…)` / `vec![…]` for optional / multiple fields -/
theorem postprocessField_delegates {rf : List FieldDesc} {name typ : String} {v fv : Val}
    (h : postprocessField rf name typ v = .ok fv) :
    ∃ w, w.pos? = v.pos? ∧ (fv = w ∨ fv = .some w ∨ fv = .list [w]) := by
  obtain ⟨f, w, -, hw, rfl⟩ := postprocessField_ok_inv h
  refine ⟨w, by rcases hw with rfl | rfl | rfl | rfl <;> simp only [Val.pos?], ?_⟩
  cases f.arity
  · exact .inl rfl
  · exact .inr (.inl rfl)
  · exact .inr (.inr rfl)

/-- for a field of arity `One` (the usual `@:Variant` arm of an enum rule) the position is the rule value's -/
theorem postprocessField_pos_one {rf : List FieldDesc} {name typ : String} {v fv : Val} {f : FieldDesc}
    (hf : findField rf name = some f) (ha : f.arity = .one)
    (h : postprocessField rf name typ v = .ok fv) : fv.pos? = v.pos? := by
  obtain ⟨f', w, hf', hw, rfl⟩ := postprocessField_ok_inv h
  rw [hf] at hf'
  cases hf'
  rw [ha]
  rcases hw with rfl | rfl | rfl | rfl <;> simp only [Val.pos?]

/-- **C09, enum rules (rule body)**: an override rule returns exactly the `_override` value of its definition –
    no node, no range of its own – and ends where its definition ends -/
theorem C09_enum_delegates {env : Env} {rec : Rec} {r : Rule} {s s' : St} {g g' : Global} {v : Val}
    (hov : r.isOverride env = true) (hns : r.flags.string = false)
    (h : ruleBody env rec r s g = some (.ok v s', g')) :
    ∃ fields p g1, getFields env.g env.nf r.definition = .ok fields ∧
      rec.expr { skipWs := env.settings.skipWhitespace && !r.flags.noSkipWs, ruleFields := fields }
        r.definition s g = some (.ok p s', g1) ∧
      p.get "_override" = some v := by
  unfold Rule.isOverride at hov
  simp only [ruleBody] at h
  split at h
  · rename_i fields hf
    rw [hf] at hov
    simp only at hov
    simp only [hns, Bool.false_eq_true, if_false, hov, if_true] at h
    obtain ⟨p, s1, g1, hx, h⟩ := bindR_ok_inv h
    split at h
    · rename_i v0 hv0
      obtain ⟨rfl, rfl⟩ := runChecks_ok_eq h
      exact ⟨fields, p, g1, hf, hx, hv0⟩
    · cases h
  · cases h

/-- **C09, enum rules (the `@:T` field)**: the value a field contributes is the value of the called rule `T`
    wrapped by `variant` / `boxed` (and `Some` / `vec![]` by arity): the enum's position is the variant's -/
theorem C09_enum_delegates_field {env : Env} {rec : Rec} {n : Nat} {ctx : Ctx} {nm : FieldName} {boxed : Bool}
    {typ : String} {s s' : St} {g g' : Global} {p : Parsed}
    (h : stepExpr env rec n ctx (.field (some nm) boxed typ) s g = some (.ok p s', g')) :
    ∃ s1 g1 v fv w, rec.rule typ s1 g1 = some (.ok v s', g') ∧ p = [(nm.key, fv)] ∧
      postprocessField ctx.ruleFields nm.key typ v = .ok fv ∧
      w.pos? = v.pos? ∧ (fv = w ∨ fv = .some w ∨ fv = .list [w]) := by
  simp only [stepExpr] at h
  obtain ⟨s1, g1, h⟩ := withSkipWs_ok_inv h
  obtain ⟨v, s2, g2, hx, h⟩ := bindR_ok_inv h
  split at h
  · rename_i fv hfv
    simp only [Option.some.injEq, Prod.mk.injEq, Res.ok.injEq] at h
    obtain ⟨⟨rfl, rfl⟩, rfl⟩ := h
    obtain ⟨w, hw1, hw2⟩ := postprocessField_delegates hfv
    exact ⟨s1, g1, v, fv, w, hx, rfl, hfv, hw1, hw2⟩
  · cases h

/-! ### sanity checks: the hypotheses are satisfiable, the statements are not vacuous -/

/-- the initial state and the initial (empty) cache satisfy every precondition used above -/
example (env : Env) (inp : List UInt8) (u : Nat) :
    WfSt inp (St.new inp) ∧ CacheMono (Global.init u) ∧ CacheIn (Global.init u) ∧
      CachePos env inp (Global.init u) :=
  ⟨by simp [WfSt, St.new], CacheMono.init u, CacheIn.init u, CachePos.init env inp u⟩

/-- `@position S = x:B y:B`, `@string @position B = 'a'` on `"a a"`: `B` spans `0..1` and `2..3` (after the
    caller's whitespace skip), `S` spans `0..3` -/
example :
    let b : Rule := ⟨[.string, .position], "B", .choice [.seq [.lit false [.chr 'a']]]⟩
    let s : Rule := ⟨[.export, .position], "S",
      .choice [.seq [.field (some (.ident "x")) false "B", .field (some (.ident "y")) false "B"]]⟩
    let env : Env := { g := ⟨[.rule s, .rule b]⟩, settings := {}, hooks := default, nf := 10 }
    (match parseAdvanced env 20 "S" [97, 32, 97] 0 with
      | some (.ok (.node "S" [("x", .node "B" [("string", .str [97])] (some (0, 1))),
                              ("y", .node "B" [("string", .str [97])] (some (2, 3)))] (some (0, 3))) st, _) =>
        st.off == 3
      | _ => false) = true := by decide +kernel

/-- the cache-hit path: `S = x:A 'x' | x:A 'y'`, `@memoize @position A = 'a'` on `"ay"` – the second arm answers
    `A` from the cache, with the cached range `0..1` -/
example :
    let a : Rule := ⟨[.memoize, .position], "A", .choice [.seq [.lit false [.chr 'a']]]⟩
    let s : Rule := ⟨[.export], "S",
      .choice [.seq [.field (some (.ident "x")) false "A", .lit false [.chr 'x']],
               .seq [.field (some (.ident "x")) false "A", .lit false [.chr 'y']]]⟩
    let env : Env := { g := ⟨[.rule s, .rule a]⟩, settings := {}, hooks := default, nf := 10 }
    (match parseAdvanced env 20 "S" [97, 121] 0 with
      | some (.ok (.node "S" [("x", .node "A" [] (some (0, 1)))] none) st, g) =>
        st.off == 2 && g.cache.length == 1
      | _ => false) = true := by decide +kernel

/-- `ExternNoPos` is needed for `C09_nested`: an extern function may return a value carrying any range -/
example :
    let hooks : Hooks := { (default : Hooks) with
      extern := fun _ _ u => (.ok (.node "X" [] (some (5, 7)), 0), u) }
    let env : Env := { g := ⟨[.externRule ⟨["f"], none, "E"⟩]⟩, settings := {}, hooks := hooks, nf := 1 }
    ∃ v s' g', parseAdvanced env 1 "E" [] 0 = some (.ok v s', g') ∧ s'.off = 0 ∧ ¬ ValIn 0 s'.off v := by
  refine ⟨.node "X" [] (some (5, 7)), ⟨[], 0, none⟩, _, rfl, rfl, ?_⟩
  intro h
  have := (h.node_inv.2 5 7 rfl).2.2
  exact absurd this (by decide)

end Peg
