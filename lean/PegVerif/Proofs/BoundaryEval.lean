import PegVerif.Proofs.Boundary
import PegVerif.Proofs.Positions
/-
  Property C04 at the level of the whole evaluator:

    "for every input, a generated parser returns Ok or Err without panicking in the runtime, and every
     offset it uses or exposes lies on a UTF-8 character boundary inside the input".

  One pass over the evaluator (`RecW`, `eval_W`) keeps every state, recorded furthest error and cache entry on
  character boundaries and shows that no panic is one of the runtime's (`RuntimePanic`); read with its switch
  on, it also threads monotone offsets and `ValB` values through the evaluation.  `eval_boundary` reads it with the
  switch off; `C04_values_on_boundaries` reads it with the switch on.  `eval_offsets_monotone` is the first pass of
  Positions.lean (`eval_V` at the trivial value predicate), which needs the cache hypothesis only.
-/
namespace Peg

/-! ### the runtime panics -/

/-- the two panics of runtime/src/state.rs (`advance` overrun, `&s[n..]` off a char boundary) -/
def RuntimePanic (m : String) : Prop :=
  m = "String length overrun in advance()" ∨ m = "byte index is not a char boundary"

instance (m : String) : Decidable (RuntimePanic m) := by unfold RuntimePanic; infer_instance

/-- the generator-side panics (`codegen: …`, `uncompilable: …`) are not the runtime's -/
theorem not_rt_codegen (m : String) : ¬ RuntimePanic ("codegen: " ++ m) := by
  rintro (h | h) <;> (have := congrArg (fun s => s.toList.head?) h; simp at this)

theorem not_rt_undefined (m : String) : ¬ RuntimePanic ("uncompilable: undefined rule " ++ m) := by
  rintro (h | h) <;> (have := congrArg (fun s => s.toList.head?) h; simp at this)

theorem terminal_error_not_rt {e : Expr} {msg} (h : terminalOf e = some (.error msg)) : ¬ RuntimePanic msg := by
  cases e <;> simp only [terminalOf, Option.some.injEq, reduceCtorEq] at h
  case range lo hi => split at h <;> cases h; decide
  case lit ins body => split at h <;> cases h; decide

theorem ruleValue_error_not_rt {r : Rule} {fields s p s' m} (h : ruleValue r fields s p s' = .error m) :
    ¬ RuntimePanic m := by
  unfold ruleValue at h
  split at h
  · cases h
  · split at h <;> cases h; decide
  · split at h <;> cases h; exact not_rt_codegen _
  · cases h; decide

/-! ### the invariants -/

/-- state on a boundary, and the recorded furthest error (if any) is at a boundary too -/
def BSt' (cs : List Char) (s : St) : Prop := BSt cs s ∧ ∀ f, s.far = some f → IsBoundary cs f.pos

def ResB (cs : List Char) {α : Type} (r : Res α) : Prop :=
  match r with
  | .ok _ s => BSt' cs s
  | .err e => IsBoundary cs e.pos
  | .panic m => ¬ RuntimePanic m

def CacheB (cs : List Char) (g : Global) : Prop := ∀ k r, g.lookup k = some r → ResB cs r

/-- user extern functions return byte lengths that are character boundaries of what they were given -/
def GoodExterns (H : Hooks) : Prop :=
  ∀ f rem u v adv u', H.extern f (enc rem) u = (.ok (v, adv), u') → ∃ p, p <+: rem ∧ adv = (enc p).length

@[simp] theorem resb_ok {cs : List Char} {α : Type} (v : α) (s : St) : ResB cs (.ok v s) ↔ BSt' cs s := Iff.rfl
@[simp] theorem resb_err {cs : List Char} {α : Type} (e : PErr) :
    ResB cs (.err e : Res α) ↔ IsBoundary cs e.pos := Iff.rfl
@[simp] theorem resb_panic {cs : List Char} {α : Type} (m : String) :
    ResB cs (.panic m : Res α) ↔ ¬ RuntimePanic m := Iff.rfl

/-- `ResB` does not look at the value -/
theorem resb_retype {cs : List Char} {α β : Type} {r : Res α} {r' : Res β}
    (h : r.map (fun _ => ()) = r'.map (fun _ => ())) : ResB cs r ↔ ResB cs r' := by
  cases r <;> cases r' <;> simp only [Res.map, Res.ok.injEq, Res.err.injEq, Res.panic.injEq, reduceCtorEq] at h
  · simp only [resb_ok, h.2]
  · simp only [resb_err, h]
  · simp only [resb_panic, h]

theorem isBoundary_le {cs : List Char} {off : Nat} (h : IsBoundary cs off) : off ≤ (enc cs).length := by
  obtain ⟨k, _, rfl⟩ := h
  have : enc cs = enc (cs.take k) ++ enc (cs.drop k) := by rw [← enc_append, List.take_append_drop]
  rw [this, List.length_append]; omega

theorem isBoundary_zero (cs : List Char) : IsBoundary cs 0 := ⟨0, Nat.zero_le _, by simp [enc_nil]⟩

theorem bst'_new (cs : List Char) : BSt' cs (St.new (enc cs)) :=
  ⟨(show At cs [] cs (St.new (enc cs)) from ⟨rfl, rfl, rfl⟩).bst, fun f h => by cases h⟩

theorem cacheB_setUctx {cs} {g : Global} (u : Nat) (h : CacheB cs g) : CacheB cs { g with uctx := u } := h

/-! ### error bookkeeping keeps positions on boundaries -/

theorem bst'_off {cs s} (h : BSt' cs s) : IsBoundary cs s.off := h.1.2

theorem bst'_recordError {cs s e} (h : BSt' cs s) (he : IsBoundary cs e.pos) : BSt' cs (s.recordError e) := by
  obtain ⟨⟨hw, hb⟩, hf⟩ := h
  refine ⟨⟨wf_recordError.mpr hw, by rw [recordError_off]; exact hb⟩, ?_⟩
  intro f hfar
  unfold St.recordError at hfar
  split at hfar
  · split at hfar
    · cases hfar; exact he
    · exact hf _ hfar
  · cases hfar; exact he

theorem isBoundary_reportFarthest {cs s} (h : BSt' cs s) : IsBoundary cs s.reportFarthest.pos := by
  unfold St.reportFarthest
  split
  · rename_i f hfar; exact h.2 _ hfar
  · exact h.1.2

theorem isBoundary_reportError {cs s} (sp : Spec) (h : BSt' cs s) : IsBoundary cs (s.reportError sp).pos :=
  isBoundary_reportFarthest (bst'_recordError h h.1.2)

/-! ### the generator's guard -/

/-- the insensitive matchers get (lowercased) ASCII literals -/
theorem compileLit_ascii {ins items m} (h : compileLit ins items = .ok m) :
    (∀ c, m = .charLitI c → isAscii c = true) ∧ (∀ l, m = .strLitI l → l.all isAscii = true) := by
  unfold compileLit at h
  split at h
  · cases h
  · cases h
  · rename_i lit _
    cases ins
    · simp only [Bool.false_eq_true, if_false] at h
      split at h <;> cases h <;> exact ⟨fun c hc => (nomatch hc), fun l hl => (nomatch hl)⟩
    · simp only [if_true] at h
      split at h
      · cases h
      · rename_i hall
        have hl : (lit.map charToAsciiLower).all isAscii = true := by
          simp only [Bool.not_eq_true, Bool.not_eq_false'] at hall
          rw [List.all_eq_true] at hall ⊢
          intro x hx
          obtain ⟨y, hy, rfl⟩ := List.mem_map.mp hx
          exact (lower_ascii (hall y hy)).2
        split at h
        · rename_i c heq
          cases h
          rw [heq] at hl
          exact ⟨fun c' hc' => (by cases hc'; simpa using hl), fun l hl' => (nomatch hl')⟩
        · cases h
          exact ⟨fun c hc => (nomatch hc), fun l hl' => (by cases hl'; exact hl)⟩

/-! ### `advanceSafe` -/

theorem not_cont (b : UInt8) : b < 128 ∨ 192 ≤ b → ((b &&& 0xC0) != 0x80) = true :=
  u8_all (fun b => b < 128 ∨ 192 ≤ b → ((b &&& 0xC0) != 0x80) = true) (by decide +kernel) b

/-- the first byte of an encoded character is not a continuation byte `10xxxxxx` -/
theorem head_not_cont (c : Char) : ∃ b tl, String.utf8EncodeChar c = b :: tl ∧ ((b &&& 0xC0) != 0x80) = true := by
  obtain ⟨b, tl, he⟩ := exists_head c
  refine ⟨b, tl, he, not_cont b ?_⟩
  rcases head_cases he with ⟨hc, rfl, -⟩ | ⟨-, hb⟩
  · exact .inl (charAsU8_lt hc)
  · exact .inr hb

/-- the end of an encoded prefix is a `str::is_char_boundary` of the encoded text -/
theorem isCharBoundary_enc (p t : List Char) : isCharBoundary (enc (p ++ t)) (enc p).length = true := by
  unfold isCharBoundary
  split
  · rfl
  · rw [enc_append, List.getElem?_append_right (Nat.le_refl _), Nat.sub_self]
    cases t with
    | nil => simp [enc_nil]
    | cons c t =>
      obtain ⟨b, tl, he, hb⟩ := head_not_cont c
      rw [enc_cons, he]
      simpa using hb

theorem advanceSafe_enc {α} (s : St) (p r : List Char) (v : α) (h : s.rest = enc (p ++ r)) :
    s.advanceSafe (enc p).length v = .ok v { s with rest := enc r, off := s.off + (enc p).length } := by
  unfold St.advanceSafe
  rw [h, isCharBoundary_enc, enc_append]
  simp

/-! ### `@string` slices -/

/-- two boundary states in order: the consumed texts are nested -/
theorem at_at_mid {cs pre rem pre' rem' s s'} (hat : At cs pre rem s) (hat' : At cs pre' rem' s')
    (hle : s.off ≤ s'.off) : ∃ mid, pre' = pre ++ mid ∧ rem = mid ++ rem' := by
  have hp : pre <+: cs := ⟨rem, hat.1.symm⟩
  have hp' : pre' <+: cs := ⟨rem', hat'.1.symm⟩
  have key : pre <+: pre' := by
    rcases List.prefix_or_prefix_of_prefix hp hp' with h | h
    · exact h
    · obtain ⟨t, rfl⟩ := h
      have h1 := hat.2.1
      have h2 := hat'.2.1
      rw [enc_append, List.length_append] at h1
      have : (enc t).length = 0 := by omega
      have : t = [] := enc_eq_nil_iff.mp (List.length_eq_zero_iff.mp this)
      subst this; simp
  obtain ⟨mid, rfl⟩ := key
  refine ⟨mid, rfl, ?_⟩
  have h1 := hat.1
  rw [hat'.1, List.append_assoc] at h1
  exact (List.append_cancel_left h1).symm

/-- the `@string` slice between two boundary states (in order) is the encoding of a contiguous part of the input
    text: a valid UTF-8 substring -/
theorem sliceUntil_enc {cs s s'} (hb : BSt cs s) (hb' : BSt cs s') (hle : s.off ≤ s'.off) :
    ∃ pre mid post, cs = pre ++ mid ++ post ∧ s.sliceUntil s' = enc mid := by
  obtain ⟨pre, rem, hat⟩ := bst_iff_at.mp hb
  obtain ⟨pre', rem', hat'⟩ := bst_iff_at.mp hb'
  obtain ⟨mid, rfl, rfl⟩ := at_at_mid hat hat' hle
  refine ⟨pre, mid, rem', by rw [hat.1, List.append_assoc], ?_⟩
  unfold St.sliceUntil
  rw [hat.2.2, hat'.2.1, hat.2.1, enc_append, enc_append, List.length_append, Nat.add_sub_cancel_left,
    List.take_left]

/-! ### the returned tree -/

/-- every `position` range in the value is an ordered pair of boundaries of `cs`, every `str` is the encoding of a
    contiguous part of `cs` (values made by user extern functions, `ext`, carry neither) -/
inductive ValB (cs : List Char) : Val → Prop
  | unit : ValB cs .unit
  | chr (c : Char) : ValB cs (.chr c)
  | str (pre mid post : List Char) (h : cs = pre ++ mid ++ post) : ValB cs (.str (enc mid))
  | node (name : String) (fields : List (String × Val)) (pos : Option (Nat × Nat))
      (hf : ∀ kv, kv ∈ fields → ValB cs kv.2)
      (hp : ∀ a b, pos = some (a, b) → IsBoundary cs a ∧ IsBoundary cs b ∧ a ≤ b) : ValB cs (.node name fields pos)
  | variant (c : String) (v : Val) (h : ValB cs v) : ValB cs (.variant c v)
  | boxed (v : Val) (h : ValB cs v) : ValB cs (.boxed v)
  | some (v : Val) (h : ValB cs v) : ValB cs (.some v)
  | none : ValB cs .none
  | list (vs : List Val) (h : ∀ v, v ∈ vs → ValB cs v) : ValB cs (.list vs)
  | ext (k : String) (n : Nat) : ValB cs (.ext k n)

theorem valB_closed {cs : List Char} : ValClosed (ValB cs) :=
  ⟨.none, fun h => .some _ h, fun h => .boxed _ h, fun c h => .variant c _ h, fun h => .list _ h,
   fun h => by cases h with | list _ h => exact h⟩

theorem valB_slice {cs} {s s' : St} (hs : BSt' cs s) (hs' : BSt' cs s') (hle : s.off ≤ s'.off) :
    ValB cs (.str (s.sliceUntil s')) := by
  obtain ⟨pre, mid, post, h, hsl⟩ := sliceUntil_enc hs.1 hs'.1 hle
  rw [hsl]; exact .str pre mid post h

/-- `ResB`, and a success ends at an offset `≥ off` with a value satisfying `P` -/
def ResS (cs : List Char) (off : Nat) {α : Type} (P : α → Prop) (r : Res α) : Prop :=
  match r with
  | .ok v s => BSt' cs s ∧ off ≤ s.off ∧ P v
  | .err e => IsBoundary cs e.pos
  | .panic m => ¬ RuntimePanic m

/-- every cached result for offset `off` is a boundary result that ends at an offset `≥ off` with a `ValB` tree -/
def CacheS (cs : List Char) (g : Global) : Prop :=
  ∀ name off r, g.lookup (name, off) = some r → ResS cs off (ValB cs) r

/-- the values returned by user extern functions satisfy `ValB` (e.g. they are `Val.ext` values) -/
def ExternValsB (cs : List Char) (H : Hooks) : Prop :=
  ∀ f bs u v adv u', H.extern f bs u = (.ok (v, adv), u') → ValB cs v

theorem ResS.imp {cs off} {α : Type} {P Q : α → Prop} {r : Res α} (hpq : ∀ v, P v → Q v) (h : ResS cs off P r) :
    ResS cs off Q r := by
  cases r with
  | ok v s => exact ⟨h.1, h.2.1, hpq _ h.2.2⟩
  | err e => exact h
  | panic m => exact h

/-! ### the invariant of a computation

`ResB` and `CacheB` say where states and errors lie; `ResS` and `CacheS` add, for successes, that the offset has not
moved back and that the value is `ValB`.  The weaker statement is not got by forgetting: its hypothesis on the
cache is the weaker one too, and a cache hit returns what the cache holds.  So the pass is written once, with the
additions guarded by a proposition `w`: `w := False` reads as `ResB`/`CacheB`, `w := True` as `ResS`/`CacheS`. -/

def ResW (cs : List Char) (w : Prop) (off : Nat) {α : Type} (P : α → Prop) : Res α → Prop
  | .ok v s => BSt' cs s ∧ (w → off ≤ s.off ∧ P v)
  | .err e => IsBoundary cs e.pos
  | .panic m => ¬ RuntimePanic m

def CacheW (cs : List Char) (w : Prop) : Global → Prop := Cached fun k r => ResW cs w k.2 (ValB cs) r

def InvW (cs : List Char) (w : Prop) (off : Nat) {α : Type} (P : α → Prop) (x : Out α) : Prop :=
  OutAll (CacheW cs w) (ResW cs w off P) x

structure RecW (cs : List Char) (w : Prop) (rec : Rec) : Prop where
  expr : ∀ ctx e s g, BSt' cs s → CacheW cs w g → InvW cs w s.off (AllV (ValB cs)) (rec.expr ctx e s g)
  rule : ∀ name s g, BSt' cs s → CacheW cs w g → InvW cs w s.off (ValB cs) (rec.rule name s g)

section
variable {cs : List Char} {w : Prop} {off : Nat} {α : Type} {P : α → Prop}

theorem resW_false {r : Res α} : ResW cs False off P r ↔ ResB cs r := by
  cases r with
  | ok v s => exact ⟨fun h => h.1, fun h => ⟨h, fun hw => hw.elim⟩⟩
  | err e => exact Iff.rfl
  | panic m => exact Iff.rfl

theorem cacheW_false {g : Global} : CacheW cs False g ↔ CacheB cs g :=
  ⟨Cached.mono fun _ _ => resW_false.mp, Cached.mono fun _ _ => resW_false.mpr⟩

/-- a matcher that keeps boundary states and never overruns keeps the invariant: its errors are reported
    through `reportError`, it leaves `far` alone and does not move back -/
theorem IsMatcher.resW {β : Type} {m : St → Res β} (hm : IsMatcher m) {s : St} (hs : BSt' cs s)
    (hb : ∀ v s', m s = .ok v s' → BSt cs s') (hp : ∀ msg, m s ≠ .panic msg) {f : β → α} (hf : ∀ v, P (f v)) :
    ResW cs w s.off P ((m s).map f) := by
  rcases hm.cases s with ⟨sp, he⟩ | ⟨n, v, _, he⟩ | he
  · rw [he]; exact isBoundary_reportError sp hs
  · have hb' := hb _ _ he
    rw [he]; exact ⟨⟨hb', hs.2⟩, fun _ => ⟨Nat.le_add_right _ _, hf v⟩⟩
  · exact absurd he (hp _)

/-- a terminal: one of the matchers, with no field -/
theorem terminal_resW {e : Expr} {m} (h : terminalOf e = some (.ok m)) {s} (hs : BSt' cs s) :
    ResW cs w s.off (AllV (ValB cs)) (m s) := by
  cases e <;> simp only [terminalOf, Option.some.injEq, reduceCtorEq] at h
  case range lo hi =>
    split at h <;> cases h
    exact (isMatcher_parseCharacterRange _ _).resW hs (fun _ _ => bst_parseCharacterRange hs.1)
      (nopanic_parseCharacterRange hs.1) fun _ => AllV.nil
  case lit ins body =>
    split at h <;> cases h
    rename_i lm hc
    obtain ⟨hci, hsi⟩ := compileLit_ascii hc
    cases lm with
    | charLit c =>
      exact (isMatcher_parseCharacterLiteral c).resW hs (fun _ _ => bst_parseCharacterLiteral hs.1)
        (nopanic_parseCharacterLiteral hs.1) fun _ => AllV.nil
    | strLit l =>
      exact (isMatcher_parseStringLiteral l).resW hs (fun _ _ => bst_parseStringLiteral hs.1)
        (nopanic_parseStringLiteral hs.1) fun _ => AllV.nil
    | charLitI c =>
      exact (isMatcher_parseCharacterLiteralInsensitive c).resW hs
        (fun _ _ => bst_parseCharacterLiteralInsensitive (hci c rfl) hs.1) (nopanic_parseCharacterLiteralInsensitive hs.1)
        fun _ => AllV.nil
    | strLitI l =>
      exact (isMatcher_parseStringLiteralInsensitive l).resW hs
        (fun _ _ => bst_parseStringLiteralInsensitive (hsi l rfl) hs.1)
        (nopanic_parseStringLiteralInsensitive (hsi l rfl) hs.1) fun _ => AllV.nil
  case eoi =>
    cases h
    exact isMatcher_parseEndOfInput.resW hs (fun _ _ => bst_parseEndOfInput hs.1) (nopanic_parseEndOfInput hs.1)
      fun _ => AllV.nil

theorem cacheW_only : CacheOnly (CacheW cs w) := fun _ _ hc h => h.of_cache hc

theorem InvW.ok {v : α} {s : St} {g : Global} (hs : BSt' cs s) (hv : w → off ≤ s.off ∧ P v) (hg : CacheW cs w g) :
    InvW cs w off P (some (.ok v s, g)) := OutAll.res hg ⟨hs, hv⟩

theorem InvW.err {e : PErr} {g : Global} (he : IsBoundary cs e.pos) (hg : CacheW cs w g) :
    InvW cs w off P (some (.err e, g)) := OutAll.res hg he

theorem InvW.panic {m : String} {g : Global} (hm : ¬ RuntimePanic m) (hg : CacheW cs w g) :
    InvW cs w off P (some (.panic m, g)) := OutAll.res hg hm

theorem InvW.of_le {off' : Nat} {x : Out α} (hle : w → off ≤ off') (hx : InvW cs w off' P x) :
    InvW cs w off P x := by
  intro r g' h
  obtain ⟨hg, hr⟩ := hx r g' h
  refine ⟨hg, ?_⟩
  cases r with
  | ok v s => exact ⟨hr.1, fun hw => ⟨Nat.le_trans (hle hw) (hr.2 hw).1, (hr.2 hw).2⟩⟩
  | err e => exact hr
  | panic m => exact hr

/-- the invariant at a node that looks at the outcome of a sub-run (which may have been started further on) -/
theorem InvW.caseR {β : Type} {Q : β → Prop} {off' : Nat} {x : Out α} {ok : α → St → Global → Out β}
    {err : PErr → Global → Out β} (hx : InvW cs w off' P x)
    (hok : ∀ v s g, BSt' cs s → (w → off' ≤ s.off ∧ P v) → CacheW cs w g → InvW cs w off Q (ok v s g))
    (herr : ∀ e g, IsBoundary cs e.pos → CacheW cs w g → InvW cs w off Q (err e g)) :
    InvW cs w off Q (Peg.caseR x ok err) :=
  OutAll.caseR hx (fun v s g hg hr => hok v s g hr.1 hr.2 hg) (fun e g hg he => herr e g he hg) (fun _ h => h)

theorem InvW.bind {β : Type} {Q : β → Prop} {x : Out α} {k : α → St → Global → Out β} (hx : InvW cs w off P x)
    (hk : ∀ v s g, BSt' cs s → (w → off ≤ s.off ∧ P v) → CacheW cs w g → InvW cs w off Q (k v s g)) :
    InvW cs w off Q (bindR x k) :=
  hx.caseR hk fun _ _ he hg => .err he hg

theorem withSkipWs_W {rec : Rec} (hrec : RecW cs w rec) {ctx : Ctx} {s : St} {g : Global}
    {k : St → Global → Out α} (hs : BSt' cs s) (hg : CacheW cs w g)
    (hk : ∀ s1 g1, BSt' cs s1 → (w → s.off ≤ s1.off) → CacheW cs w g1 → InvW cs w s.off P (k s1 g1)) :
    InvW cs w s.off P (withSkipWs rec ctx s g k) := by
  unfold withSkipWs
  split
  · exact (hrec.rule _ s g hs hg).bind fun _ s1 g1 hs1 hv hg1 => hk s1 g1 hs1 (fun hw => (hv hw).1) hg1
  · exact hk s g hs (fun _ => Nat.le_refl _) hg

end

/-! ### expression level -/

section
variable {env : Env} {rec : Rec} {cs : List Char} {w : Prop}

theorem evalSeq_W (hrec : RecW cs w rec) {ctx : Ctx} {off : Nat} :
    ∀ ps seen acc s g, BSt' cs s → (w → off ≤ s.off ∧ AllV (ValB cs) acc) → CacheW cs w g →
      InvW cs w off (fun p : List String × Parsed => AllV (ValB cs) p.2) (evalSeq env rec ctx ps seen acc s g) := by
  intro ps
  induction ps with
  | nil => intro seen acc s g hs ha hg; exact .ok hs ha hg
  | cons p ps ih =>
    intro seen acc s g hs ha hg
    rw [evalSeq]
    refine ((hrec.expr ctx p s g hs hg).of_le fun hw => (ha hw).1).bind fun r s1 g1 hs1 hr hg1 => ?_
    cases hm : mergePart (filterRuleFields ctx.ruleFields (ownFields env p)) seen acc r with
    | error m => simp only [hm]; exact .panic (not_rt_codegen m) hg1
    | ok x =>
      simp only [hm]
      exact ih _ _ _ _ hs1 (fun hw => ⟨(hr hw).1, mergePart_V valB_closed hm (ha hw).2 (hr hw).2⟩) hg1

theorem evalAlts_W (hrec : RecW cs w rec) {ctx : Ctx} {fields} {off : Nat} :
    ∀ as s g, BSt' cs s → (w → off ≤ s.off) → CacheW cs w g →
      InvW cs w off (AllV (ValB cs)) (evalAlts env rec ctx fields as s g) := by
  intro as
  induction as with
  | nil => intro s g hs _ hg; exact .err (isBoundary_reportFarthest hs) hg
  | cons a as ih =>
    intro s g hs hle hg
    rw [evalAlts_step]
    refine (hrec.expr ctx a s g hs hg).caseR (fun r s' g' hs' hv hg' => ?_)
      (fun e g' he hg' => ih _ _ (bst'_recordError hs he) (by rw [recordError_off]; exact hle) hg')
    split
    · rename_i p hp
      exact .ok hs' (fun hw => ⟨Nat.le_trans (hle hw) (hv hw).1, convertArm_V valB_closed hp (hv hw).2⟩) hg'
    · exact .panic (not_rt_codegen _) hg'

theorem evalLoop_W {body : St → Global → Out Parsed}
    (hbody : ∀ s g, BSt' cs s → CacheW cs w g → InvW cs w s.off (AllV (ValB cs)) (body s g)) {fields} {off : Nat} :
    ∀ k iters acc s g, BSt' cs s → (w → off ≤ s.off ∧ AllV (ValB cs) acc) → CacheW cs w g →
      InvW cs w off (fun p : Nat × Parsed => AllV (ValB cs) p.2) (evalLoop body fields k iters acc s g) := by
  intro k
  induction k with
  | zero => intro iters acc s g _ _ _; exact OutAll.none
  | succ k ih =>
    intro iters acc s g hs ha hg
    rw [evalLoop_step]
    refine (hbody s g hs hg).caseR (fun r s1 g1 hs1 hv hg1 => ?_)
      (fun e g1 he hg1 => .ok (bst'_recordError hs he) (by rw [recordError_off]; exact ha) hg1)
    split
    · rename_i acc' hacc
      exact ih _ _ _ _ hs1
        (fun hw => ⟨Nat.le_trans (ha hw).1 (hv hw).1, extendAll_V valB_closed hacc (ha hw).2 (hv hw).2⟩) hg1
    · exact .panic (not_rt_codegen _) hg1

theorem stepExpr_W (hrec : RecW cs w rec) (n : Nat) (ctx : Ctx) (e : Expr) (s : St) (g : Global) (hs : BSt' cs s)
    (hg : CacheW cs w g) : InvW cs w s.off (AllV (ValB cs)) (stepExpr env rec n ctx e s g) := by
  have hnil : w → s.off ≤ s.off ∧ AllV (ValB cs) [] := fun _ => ⟨Nat.le_refl _, AllV.nil⟩
  match hterm : terminalOf e with
  | some (.ok m) =>
    rw [stepExpr_terminal hterm]
    exact withSkipWs_W hrec hs hg fun s1 g1 hs1 hle hg1 => .of_le hle (OutAll.res hg1 (terminal_resW hterm hs1))
  | some (.error msg) => rw [stepExpr_terminal_error hterm]; exact .panic (terminal_error_not_rt hterm) hg
  | none =>
    cases e with
    | range lo hi => simp [terminalOf] at hterm
    | lit ins body => simp [terminalOf] at hterm
    | eoi => simp [terminalOf] at hterm
    | choice alts =>
      match alts with
      | [] => exact .panic (by decide) hg
      | [a] => exact hrec.expr ctx a s g hs hg
      | a :: b :: rest => exact evalAlts_W hrec _ _ _ hs (fun _ => Nat.le_refl _) hg
    | seq parts =>
      match parts with
      | [] => exact .ok hs hnil hg
      | [a] => exact hrec.expr ctx a s g hs hg
      | a :: b :: rest =>
        refine (evalSeq_W hrec (a :: b :: rest) [] [] s g hs hnil hg).bind fun x s' g' hs' hv hg' => ?_
        obtain ⟨seen, acc⟩ := x
        simp only []
        split
        · rename_i p hp
          exact .ok hs' (fun hw => ⟨(hv hw).1, project_V hp (hv hw).2⟩) hg'
        · exact .panic (not_rt_codegen _) hg'
    | group b => exact hrec.expr ctx b s g hs hg
    | opt b =>
      rw [opt_step]
      refine (hrec.expr ctx b s g hs hg).caseR (fun _ _ _ hs' hv hg' => .ok hs' hv hg') (fun e g' he hg' => ?_)
      split
      · rename_i p hp
        exact .ok (bst'_recordError hs he)
          (fun _ => ⟨by rw [recordError_off]; exact Nat.le_refl _, defaults_V valB_closed hp⟩) hg'
      · exact .panic (not_rt_codegen _) hg'
    | closure b plus =>
      simp only [stepExpr]
      split
      · exact .panic (not_rt_codegen _) hg
      · rename_i init hinit
        refine (evalLoop_W (hrec.expr ctx b) n 0 init s g hs
          (fun _ => ⟨Nat.le_refl _, closureInit_V valB_closed hinit⟩) hg).bind fun x s' g' hs' hv hg' => ?_
        obtain ⟨iters, acc⟩ := x
        simp only []
        split
        · exact .err (isBoundary_reportFarthest hs') hg'
        · exact .ok hs' hv hg'
    | neg b =>
      rw [neg_step]
      exact (hrec.expr ctx b s g hs hg).caseR (fun _ _ _ _ _ hg' => .err (isBoundary_reportError _ hs) hg')
        (fun _ _ _ hg' => .ok hs hnil hg')
    | pos b => exact (hrec.expr ctx b s g hs hg).bind fun _ _ g' _ _ hg' => .ok hs hnil hg'
    | incl r =>
      simp only [stepExpr]
      split
      · exact .panic (by decide) hg
      · exact hrec.expr ctx _ s g hs hg
    | field name boxed typ =>
      simp only [stepExpr]
      refine withSkipWs_W hrec hs hg fun s1 g1 hs1 hle hg1 => ?_
      refine ((hrec.rule typ s1 g1 hs1 hg1).of_le hle).bind fun v s' g' hs' hv hg' => ?_
      cases name with
      | none => exact .ok hs' (fun hw => ⟨(hv hw).1, AllV.nil⟩) hg'
      | some nm =>
        simp only []
        split
        · rename_i fv hp
          exact .ok hs' (fun hw => ⟨(hv hw).1, AllV.single (postprocessField_V valB_closed hp (hv hw).2)⟩) hg'
        · exact .panic (not_rt_codegen _) hg'

/-! ### rule level -/

theorem ruleBody_W (hrec : RecW cs w rec) (r : Rule) (s : St) (g : Global) (hs : BSt' cs s) (hg : CacheW cs w g) :
    InvW cs w s.off (ValB cs) (ruleBody env rec r s g) := by
  cases hf : getFields env.g env.nf r.definition with
  | ok fields =>
    rw [ruleBody_eq hf]
    split
    · exact .panic (by decide) hg
    · refine (hrec.expr _ _ s g hs hg).bind fun p s' g' hs' hv hg' => ?_
      cases hval : ruleValue r fields s p s' with
      | error m => exact .panic (ruleValue_error_not_rt hval) hg'
      | ok v =>
        refine runChecks_all cacheW_only (fun _ => isBoundary_reportError _ hs') ⟨hs', fun hw => ⟨(hv hw).1, ?_⟩⟩ _ g' hg'
        refine ruleValue_V hval (valB_slice hs hs' (hv hw).1) (fun fs pos hfs hpos => .node _ _ _ hfs fun a b hab => ?_)
          (hv hw).2
        obtain ⟨rfl, rfl⟩ := hpos a b hab
        exact ⟨hs.1.2, hs'.1.2, (hv hw).1⟩
  | err | fuel => simp only [ruleBody, hf]; exact .panic (by decide) hg

theorem stepRule_W (hx : GoodExterns env.hooks) (hv : w → ExternValsB cs env.hooks) (hrec : RecW cs w rec) (n : Nat)
    (name : String) (s : St) (g : Global) (hs : BSt' cs s) (hg : CacheW cs w g) :
    InvW cs w s.off (ValB cs) (stepRule env rec n name s g) := by
  simp only [stepRule]
  split
  · exact normalRule_all cacheW_only (fun _ _ hg hr => hg.insert hr) (fun _ _ hg hl => hg _ _ hl)
      (isBoundary_reportError _ hs) (fun g hg => ruleBody_W hrec _ s g hs hg) n g hg
  · exact charRule_all (isBoundary_reportError _ hs)
      (fun c => (isMatcher_parseCharacterLiteral c).resW hs (fun _ _ => bst_parseCharacterLiteral hs.1)
        (nopanic_parseCharacterLiteral hs.1) .chr)
      (fun lo hi => (isMatcher_parseCharacterRange lo hi).resW hs (fun _ _ => bst_parseCharacterRange hs.1)
        (nopanic_parseCharacterRange hs.1) .chr)
      (show ¬ RuntimePanic _ by decide) (show ¬ RuntimePanic _ by decide) (fun id g hg => hrec.rule id s g hs hg)
      cacheW_only g hg
  · refine externRule_all cacheW_only (fun _ => isBoundary_reportError _ hs) (fun u v adv u' he => ?_) g hg
    obtain ⟨pre, rem, hat⟩ := bst_iff_at.mp hs.1
    obtain ⟨p, ⟨t, rfl⟩, rfl⟩ := hx _ rem _ _ _ _ (hat.2.2 ▸ he)
    rw [advanceSafe_enc s p t v hat.2.2]
    exact ⟨⟨hat.advance.bst, hs.2⟩, fun hw => ⟨Nat.le_add_right _ _, hv hw _ _ _ _ _ _ he⟩⟩
  · split
    · exact OutAll.res hg (isMatcher_parseChar.resW hs (fun _ _ => bst_parseChar hs.1) (nopanic_parseChar hs.1) .chr)
    · split
      · exact OutAll.res hg (isMatcher_parseWhitespace.resW hs (fun _ _ => bst_parseWhitespace hs.1)
          (nopanic_parseWhitespace hs.1) fun _ => .unit)
      · exact .panic (not_rt_undefined _) hg

end

theorem eval_W (env : Env) (cs : List Char) (w : Prop) (hx : GoodExterns env.hooks)
    (hv : w → ExternValsB cs env.hooks) : ∀ n, RecW cs w (eval env n) :=
  eval_induction ⟨fun _ _ _ _ _ _ => OutAll.none, fun _ _ _ _ _ => OutAll.none⟩ fun _ n ih =>
    ⟨stepExpr_W ih n, stepRule_W hx hv ih n⟩

/-- C04, evaluator form: boundary states and a boundary cache give boundary results and a boundary cache -/
theorem eval_boundary (env : Env) (cs : List Char) (hx : GoodExterns env.hooks) : ∀ n,
    (∀ ctx e s g r g', (eval env n).expr ctx e s g = some (r, g') → BSt' cs s → CacheB cs g →
      ResB cs r ∧ CacheB cs g') ∧
    (∀ name s g r g', (eval env n).rule name s g = some (r, g') → BSt' cs s → CacheB cs g →
      ResB cs r ∧ CacheB cs g') := by
  intro n
  have h := eval_W env cs False hx (fun hw => hw.elim) n
  refine ⟨fun ctx e s g r g' he hs hc => ?_, fun name s g r g' he hs hc => ?_⟩
  · obtain ⟨hc', hr⟩ := h.expr ctx e s g hs (cacheW_false.mpr hc) r g' he
    exact ⟨resW_false.mp hr, cacheW_false.mp hc'⟩
  · obtain ⟨hc', hr⟩ := h.rule name s g hs (cacheW_false.mpr hc) r g' he
    exact ⟨resW_false.mp hr, cacheW_false.mp hc'⟩

theorem C04_no_runtime_panic (env : Env) (cs : List Char) (hx : GoodExterns env.hooks) (rule : String) (n u : Nat)
    {r : Res Val} {g : Global} (h : parseAdvanced env n rule (enc cs) u = some (r, g)) :
    ∀ m, r = .panic m → ¬ RuntimePanic m := by
  intro m hm
  subst hm
  exact ((eval_boundary env cs hx n).2 _ _ _ _ _ h (bst'_new cs) (cacheW_false.mp (.init u))).1

theorem C04_offsets_on_boundaries (env : Env) (cs : List Char) (hx : GoodExterns env.hooks) (rule : String)
    (n u : Nat) {r : Res Val} {g : Global} (h : parseAdvanced env n rule (enc cs) u = some (r, g)) :
    (∀ v s, r = .ok v s → IsBoundary cs s.off ∧ s.off ≤ (enc cs).length) ∧
    (∀ e, r = .err e → IsBoundary cs e.pos ∧ e.pos ≤ (enc cs).length) := by
  have hr := ((eval_boundary env cs hx n).2 _ _ _ _ _ h (bst'_new cs) (cacheW_false.mp (.init u))).1
  constructor
  · intro v s hm; subst hm
    exact ⟨hr.1.2, isBoundary_le hr.1.2⟩
  · intro e hm; subst hm
    exact ⟨hr, isBoundary_le hr⟩

/-! ### the hypothesis `GoodExterns` is satisfiable -/

example : GoodExterns (default : Hooks) := by
  intro f rem u v adv u' h
  cases h

/-- an extern that consumes one character -/
def oneCharHooks : Hooks :=
  { extern := fun _ bs u => match decodeHead bs with
      | some c => (.ok (.ext "c" c.toNat, c.utf8Size), u)
      | none => (.error "eof", u),
    check := fun _ _ u => (true, u), charCheck := fun _ _ => true }

theorem oneCharHooks_good : GoodExterns oneCharHooks := by
  intro f rem u v adv u' h
  cases rem with
  | nil => simp [oneCharHooks, enc_nil, decodeHead_nil] at h
  | cons c r =>
    simp only [oneCharHooks, decodeHead_enc_cons, Prod.mk.injEq, Except.ok.injEq] at h
    refine ⟨[c], by simp, ?_⟩
    rw [enc_singleton, String.length_utf8EncodeChar]
    exact h.1.2.symm

/-- the tree returned by `parse_advanced`: every `position` is an ordered pair of character boundaries of the
    input, every `@string` value is the encoding of a contiguous part of the input text -/
theorem C04_values_on_boundaries (env : Env) (cs : List Char) (hx : GoodExterns env.hooks)
    (hv : ExternValsB cs env.hooks) (rule : String) (n u : Nat) {r : Res Val} {g : Global}
    (h : parseAdvanced env n rule (enc cs) u = some (r, g)) : ∀ v s, r = .ok v s → ValB cs v := by
  intro v s hm
  subst hm
  exact (((eval_W env cs True hx (fun _ => hv) n).rule _ _ _ (bst'_new cs) (.init u) _ _ h).2.2 trivial).2

/-- offsets are monotone along every (rule) evaluation from a boundary state with a good cache -/
theorem eval_offsets_monotone (env : Env) (cs : List Char) (hx : GoodExterns env.hooks)
    (hv : ExternValsB cs env.hooks) (n : Nat) {name : String} {s s' : St} {g g' : Global} {v : Val}
    (h : (eval env n).rule name s g = some (.ok v s', g')) (hs : BSt' cs s) (hc : CacheS cs g) :
    s.off ≤ s'.off :=
  (((eval_V ValPred.trivial env (externV_trivial _) n).rule name s g
    fun nm off _ _ hl => ⟨(hc nm off _ hl).2.1, trivial⟩).post h).1

/-! ### the hypotheses are satisfiable; a concrete run -/

example (cs : List Char) : ExternValsB cs (default : Hooks) := by
  intro f bs u v adv u' h
  cases h

theorem oneCharHooks_vals (cs : List Char) : ExternValsB cs oneCharHooks := by
  intro f bs u v adv u' h
  simp only [oneCharHooks] at h
  split at h
  · simp only [Prod.mk.injEq, Except.ok.injEq] at h
    rw [← h.1.1]; exact .ext _ _
  · simp at h

/-- `@string @position S = 'é' X;  @extern(one) X;` with an extern that consumes one character -/
def demoEnv : Env :=
  { g := { rules := [.rule { directives := [.string, .position], name := "S",
                             definition := .seq [.lit false [.chr 'é'], .field none false "X"] },
                     .externRule { function := ["one"], returnType := none, name := "X" }] },
    settings := {}, hooks := oneCharHooks, nf := 10 }

theorem demo_run : (parseAdvanced demoEnv 5 "S" (enc [' ', 'é', 'ß', 'x']) 0).map (·.1) =
    some (.ok (.node "S" [("string", .str (enc [' ', 'é', 'ß']))] (some (0, 5))) ⟨enc ['x'], 5, none⟩) := by
  rfl

/-- the theorems apply to the concrete run: offset 5 is a boundary of `" éßx"` and the tree is `ValB` -/
example : IsBoundary [' ', 'é', 'ß', 'x'] 5 ∧
    ValB [' ', 'é', 'ß', 'x'] (.node "S" [("string", .str (enc [' ', 'é', 'ß']))] (some (0, 5))) := by
  cases hrun : parseAdvanced demoEnv 5 "S" (enc [' ', 'é', 'ß', 'x']) 0 with
  | none => have := demo_run; rw [hrun] at this; cases this
  | some a =>
    obtain ⟨r, g⟩ := a
    have h := demo_run
    rw [hrun] at h
    simp only [Option.map_some, Option.some.injEq] at h
    subst h
    exact ⟨((C04_offsets_on_boundaries demoEnv _ oneCharHooks_good "S" 5 0 hrun).1 _ _ rfl).1,
      C04_values_on_boundaries demoEnv _ oneCharHooks_good (oneCharHooks_vals _) "S" 5 0 hrun _ _ rfl⟩

/-- `GoodExterns` cannot be dropped: an extern that answers "1 byte" in front of a two-byte character makes
    `advance_safe` panic (this is the runtime's own check, a genuine `RuntimePanic`) -/
example :
    let badEnv : Env := { demoEnv with hooks := { oneCharHooks with extern := fun _ _ u => (.ok (.unit, 1), u) } }
    (parseAdvanced badEnv 5 "X" (enc ['é']) 0).map (·.1) = some (.panic "byte index is not a char boundary") ∧
    RuntimePanic "byte index is not a char boundary" :=
  ⟨by rfl, Or.inr rfl⟩

end Peg
