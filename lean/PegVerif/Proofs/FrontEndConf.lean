import PegVerif.Proofs.FrontEndProofs
import PegVerif.Proofs.Complete
/-
  C12/C17, conformance: the model front end (`FrontEnd.parse` = `eval` on the extracted meta-grammar) is
  exactly the PEG reading (`Spec.parse`) of grammar.ebnf.  Soundness and completeness of the model
  (`parse_sound`; `parse_complete_at`, which keeps the fuel of the reference) applied at `FrontEnd.metaEnv`,
  whose hypotheses hold by evaluation;
  the conversion of the value tree to a `Grammar` is monotone in its depth fuel, and so is the front end
  (`FrontEnd.parse_mono`).
-/
namespace Peg
open Spec

theorem noLeftrecB_of {g : Grammar} (h : NoLeftrec g) : noLeftrecB g = true := by
  unfold noLeftrecB
  rw [List.all_eq_true]
  intro e he
  cases e with
  | rule r => simp [h r he]
  | charRule r => rfl
  | externRule r => rfl

theorem metaGrammar_noLeftrec : NoLeftrec Extracted.metaGrammar :=
  NV.noLeftrec_of (by decide +kernel)

theorem metaEnv_pure : PureHooks FrontEnd.metaEnv.hooks := NV.pure_default

/-- **C12, soundness of the front end**: a grammar returned by `FrontEnd.parse` is the conversion
    of a value tree that the reference PEG semantics of grammar.ebnf assigns to the text; a parse
    error is a failure of the reference semantics. -/
theorem C12_conformance_sound (fuel : Nat) (text : List UInt8) :
    (∀ g, FrontEnd.parse fuel text = .grammar g →
      ∃ m v s, Spec.parse FrontEnd.metaEnv 0 m "Grammar" text = some (.ok v s) ∧
        FrontEnd.toGrammar fuel v = some g) ∧
    (∀ e, FrontEnd.parse fuel text = .parseError e →
      ∃ m, Spec.parse FrontEnd.metaEnv 0 m "Grammar" text = some (.err Spec.noErr)) := by
  unfold FrontEnd.parse
  cases hp : parseAdvanced FrontEnd.metaEnv fuel "Grammar" text 0 with
  | none => exact ⟨(fun _ h => by cases h), (fun _ h => by cases h)⟩
  | some p =>
    obtain ⟨r', gl⟩ := p
    obtain ⟨m, hm⟩ := parse_sound FrontEnd.metaEnv metaEnv_pure metaGrammar_noLeftrec "Grammar" text 0 fuel hp
    cases r' with
    | ok v s =>
      simp only
      cases hg : FrontEnd.toGrammar fuel v with
      | some g0 => exact ⟨fun g h => ⟨m, v, Spec.clr s, hm, by cases h; exact hg⟩, (fun _ h => by cases h)⟩
      | none => exact ⟨(fun _ h => by cases h), (fun _ h => by cases h)⟩
    | err e => exact ⟨(fun _ h => by cases h), fun _ _ => ⟨m, hm⟩⟩
    | panic msg => exact ⟨(fun _ h => by cases h), (fun _ h => by cases h)⟩

/-- **C12, completeness of the front end**: a value tree `v` that the reference PEG semantics of grammar.ebnf
    assigns to a text is what the model front end converts, with the fuel of the reference and every larger one. -/
theorem C12_conformance_complete {m : Nat} {text : List UInt8} {v s}
    (h : Spec.parse FrontEnd.metaEnv 0 m "Grammar" text = some (.ok v s)) {n : Nat} (hn : m ≤ n) :
    FrontEnd.parse n text =
      (match FrontEnd.toGrammar n v with
       | some g => .grammar g
       | none => .other "unexpected value shape") := by
  obtain ⟨r', g', h0, ha⟩ := parse_complete_at FrontEnd.metaEnv metaEnv_pure metaGrammar_noLeftrec "Grammar" text 0 m h
  have hp : parseAdvanced FrontEnd.metaEnv n "Grammar" text 0 = some (r', g') :=
    (eval_mono FrontEnd.metaEnv hn).rule _ _ _ _ h0
  cases r' with
  | ok v' s' =>
    cases ha
    simp only [FrontEnd.parse, hp]
    cases FrontEnd.toGrammar n v <;> rfl
  | err e => cases ha
  | panic p => cases ha

/-! ### the value-to-AST conversion is monotone in its depth fuel -/

section conv
open FrontEnd

theorem mapM_option_mono {α β} {f g : α → Option β} (h : ∀ a b, f a = some b → g a = some b) :
    ∀ (l : List α) (bs : List β), l.mapM f = some bs → l.mapM g = some bs := by
  intro l
  induction l with
  | nil => intro bs hb; simpa using hb
  | cons a l ih =>
    intro bs hb
    simp only [List.mapM_cons, Option.bind_eq_bind, Option.pure_def, Option.bind_eq_some_iff] at hb ⊢
    obtain ⟨b, hfa, bs', hl, hbs⟩ := hb
    exact ⟨b, h a b hfa, bs', ih bs' hl, hbs⟩

mutual
theorem toChoice_succ : ∀ n v e, toChoice n v = some e → toChoice (n+1) v = some e
  | 0, _, _, h => by unfold toChoice at h; cases h
  | n+1, v, e, h => by
    unfold toChoice at h
    split at h
    · cases h
    · rename_i k fs pos heq
      have hk : k = n := by omega
      subst hk
      unfold toChoice
      simp only [Option.bind_eq_bind, Option.pure_def, Option.bind_eq_some_iff] at h ⊢
      obtain ⟨cs, hcs, ss, hss, he⟩ := h
      exact ⟨cs, hcs, ss, mapM_option_mono (toSequence_succ k) cs ss hss, he⟩
    · cases h
theorem toSequence_succ : ∀ n v e, toSequence n v = some e → toSequence (n+1) v = some e
  | 0, _, _, h => by unfold toSequence at h; cases h
  | n+1, v, e, h => by
    unfold toSequence at h
    split at h
    · cases h
    · rename_i k fs pos heq
      have hk : k = n := by omega
      subst hk
      unfold toSequence
      simp only [Option.bind_eq_bind, Option.pure_def, Option.bind_eq_some_iff] at h ⊢
      obtain ⟨cs, hcs, ss, hss, he⟩ := h
      exact ⟨cs, hcs, ss, mapM_option_mono (toDelim_succ k) cs ss hss, he⟩
    · cases h
theorem toDelim_succ : ∀ n v e, toDelim n v = some e → toDelim (n+1) v = some e
  | 0, _, _, h => by unfold toDelim at h; cases h
  | n+1, v, e, h => by
    unfold toDelim at h ⊢
    split at h
    all_goals first
      | (cases h; done)
      | (first
           | exact h
           | (simp only [Option.bind_eq_bind, Option.pure_def, Option.bind_eq_some_iff] at h ⊢
              obtain ⟨a, ⟨x, hx, ha⟩, rest⟩ := h
              first
                | exact ⟨a, ⟨x, hx, toChoice_succ n _ _ ha⟩, rest⟩
                | exact ⟨a, ⟨x, hx, toDelim_succ n _ _ ha⟩, rest⟩))
end

theorem toRuleEntry_succ (n : Nat) {v e} (h : toRuleEntry n v = some e) : toRuleEntry (n+1) v = some e := by
  unfold toRuleEntry at h ⊢
  split at h
  · simp only [Option.bind_eq_bind, Option.pure_def, Option.bind_eq_some_iff] at h ⊢
    obtain ⟨ds, hds, name, hname, d, ⟨x, hx, hd⟩, rest⟩ := h
    exact ⟨ds, hds, name, hname, d, ⟨x, hx, toChoice_succ n _ _ hd⟩, rest⟩
  · exact h
  · exact h
  · cases h

theorem toGrammar_mono {n m : Nat} (hnm : n ≤ m) {v g} (h : toGrammar n v = some g) :
    toGrammar m v = some g := by
  refine fuel_mono (f := fun n => toGrammar n v) (fun n g h => ?_) hnm h
  unfold toGrammar at h ⊢
  split at h
  · simp only [Option.bind_eq_bind, Option.pure_def, Option.bind_eq_some_iff] at h ⊢
    obtain ⟨rs, hrs, es, hes, rest⟩ := h
    exact ⟨rs, hrs, es, mapM_option_mono (fun a b => toRuleEntry_succ n) rs es hes, rest⟩
  · cases h

end conv

/-- More fuel changes no definite answer of the front end.  The two others: "out of fuel", and "unexpected value
    shape", which becomes a grammar when the conversion is given the depth it needs. -/
theorem FrontEnd.parse_mono {n n' : Nat} (hnn : n ≤ n') {text : List UInt8} {o : FrontEnd.Outcome}
    (h : FrontEnd.parse n text = o) (hf : o ≠ .other "out of fuel") (hs : o ≠ .other "unexpected value shape") :
    FrontEnd.parse n' text = o := by
  unfold FrontEnd.parse at h ⊢
  cases hp : parseAdvanced FrontEnd.metaEnv n "Grammar" text 0 with
  | none => rw [hp] at h; exact absurd h.symm hf
  | some p =>
    obtain ⟨r, gl⟩ := p
    have hp' : parseAdvanced FrontEnd.metaEnv n' "Grammar" text 0 = some (r, gl) :=
      (eval_mono FrontEnd.metaEnv hnn).rule _ _ _ _ hp
    rw [hp] at h
    rw [hp']
    cases r with
    | ok v s =>
      simp only at h ⊢
      cases hg : FrontEnd.toGrammar n v with
      | some g => rw [hg] at h; rw [toGrammar_mono hnn hg]; exact h
      | none => rw [hg] at h; exact absurd h.symm hs
    | err e => exact h
    | panic m => exact h

/-- **C12, completeness, grammar form**: if the reference semantics assigns the value tree `v`
    to the text and `v` converts to the grammar `g` (at some depth), then the model front end
    returns exactly `g` for every large enough fuel. -/
theorem C12_conformance_complete_grammar (m : Nat) (text : List UInt8) {v s k g}
    (h : Spec.parse FrontEnd.metaEnv 0 m "Grammar" text = some (.ok v s))
    (hg : FrontEnd.toGrammar k v = some g) :
    ∃ n0, ∀ n, n0 ≤ n → FrontEnd.parse n text = .grammar g := by
  refine ⟨max m k, fun n hle => ?_⟩
  rw [C12_conformance_complete h (show m ≤ n by omega), toGrammar_mono (show k ≤ n by omega) hg]

/-! ### the run on `textExport`, read off the reference run -/

/-- The reference reading of `textExport` with fuel 64 is a success that consumed all 15 bytes, with a value tree that
    converts to `@export A = B;`; with fuel 30 the front end says that the fuel is too little (one evaluation: see
    `frontend_examples`). -/
theorem textExport_runs :
    (match Spec.parse FrontEnd.metaEnv 0 64 "Grammar" textExport with
     | some (.ok v s) => (s.off == 15 && s.rest == []) && isExportAB (match FrontEnd.toGrammar 64 v with
         | some g => .grammar g
         | none => .other "unexpected value shape")
     | _ => false) = true ∧
    (match FrontEnd.parse 30 textExport with | .other m => m == "out of fuel" | _ => false) = true := by
  decide +kernel

theorem textExport_spec : ∃ v s, Spec.parse FrontEnd.metaEnv 0 64 "Grammar" textExport = some (.ok v s) ∧
    (s.off == 15 && s.rest == []) = true ∧
    isExportAB (match FrontEnd.toGrammar 64 v with
      | some g => .grammar g
      | none => .other "unexpected value shape") = true := by
  have h := textExport_runs.1
  cases hs : Spec.parse FrontEnd.metaEnv 0 64 "Grammar" textExport with
  | none => rw [hs] at h; cases h
  | some r =>
    rw [hs] at h
    cases r with
    | ok v s => exact ⟨v, s, rfl, (Bool.and_eq_true _ _).mp h⟩
    | err e => cases h
    | panic p => cases h

/-- comments are whitespace, directives precede the name, a bare identifier is an unnamed field: the model front end
    answers what the reference reading does, with the same fuel (`C12_conformance_complete`) -/
theorem frontend_example_export : isExportAB (FrontEnd.parse 64 textExport) = true := by
  obtain ⟨v, s, hs, _, hg⟩ := textExport_spec
  rw [C12_conformance_complete hs (Nat.le_refl 64)]
  exact hg

/-- the hypotheses of the two conformance theorems hold for the front end's environment, and the
    `allRefsDefined` check is not vacuous (it rejects a dangling reference) -/
example : PureHooks FrontEnd.metaEnv.hooks ∧ NoLeftrec FrontEnd.metaEnv.g := ⟨metaEnv_pure, metaGrammar_noLeftrec⟩
example : noLeftrecB ⟨[.rule ⟨[.leftrec], "A", .eoi⟩]⟩ = false := by decide
/-- the hypotheses of `C12_conformance_complete_grammar` are satisfiable: by soundness the
    reference semantics assigns this text a value tree that converts to a grammar -/
example : ∃ m v s g, Spec.parse FrontEnd.metaEnv 0 m "Grammar" textHexa = some (.ok v s) ∧
    FrontEnd.toGrammar 54 v = some g := by
  have h := frontend_example_hexa
  cases hp : FrontEnd.parse 54 textHexa with
  | grammar g =>
    obtain ⟨m, v, s, h1, h2⟩ := (C12_conformance_sound 54 textHexa).1 g hp
    exact ⟨m, v, s, g, h1, h2⟩
  | parseError e => rw [hp] at h; cases h
  | other msg => rw [hp] at h; cases h

end Peg
