import PegVerif.Compile
import PegVerif.Proofs.Lengths
/-
  The syntactic well-formedness analysis of property C01, `wfCheck` (Bool-valued, fuel = depth): every rule
  reference resolves (`allRefsDefined`), no include cycle, no closure with a nullable body, no left recursion.
  Definitions only: Termination.lean proves that it is sound, MetaChecks.lean evaluates it on the extracted
  meta-grammar.
-/
namespace Peg

/-- a rule name that a call `parse_<name>` resolves: defined in the grammar, or the builtin `char` -/
def nameDefined (g : Grammar) (n : String) : Bool := (g.find n).isSome || n == "char"

/-- all rule references inside an expression resolve (`false` when the fuel does not cover the
    depth of the expression, so a `true` is never vacuous) -/
def refsOk (g : Grammar) : Nat → Expr → Bool
  | 0, _ => false
  | n+1, e =>
    match e with
    | .choice xs => xs.all (refsOk g n)
    | .seq xs => xs.all (refsOk g n)
    | .group b => refsOk g n b
    | .opt b => refsOk g n b
    | .closure b _ => refsOk g n b
    | .neg b => refsOk g n b
    | .pos b => refsOk g n b
    | .incl r => (g.findRule r).isSome
    | .field _ _ typ => nameDefined g typ
    | .range _ _ => true
    | .lit _ _ => true
    | .eoi => true

def entryRefsOk (g : Grammar) (fuel : Nat) : RuleEntry → Bool
  | .rule r => refsOk g fuel r.definition
  | .charRule r => r.choices.all fun p => match p with
    | .ident n => nameDefined g n
    | _ => true
  | .externRule _ => true

def allRefsDefinedN (fuel : Nat) (g : Grammar) : Bool := g.rules.all (entryRefsOk g fuel)

/-- every rule referenced by a field, an include or a char-rule identifier part is defined (or is
    the builtin `char`; includes must name a normal rule) -/
def allRefsDefined (g : Grammar) : Bool := allRefsDefinedN 64 g

/-- "may succeed without consuming a byte" (conservative: `true` when the depth fuel runs out).
    Fuel = AST depth + include hops + rule unfoldings. -/
def nullableE (g : Grammar) : Nat → Expr → Bool
  | 0, _ => true
  | d+1, e =>
    match e with
    | .choice alts => alts.any (nullableE g d)
    | .seq parts => parts.all (nullableE g d)
    | .group b => nullableE g d b
    | .opt _ => true
    | .closure b plus => if plus then nullableE g d b else true
    | .neg _ => true
    | .pos _ => true
    | .range _ _ => false
    | .lit ins body =>
      (match compileLit ins body with
       | .ok m => m.nullable
       | _ => true)
    | .eoi => true
    | .incl r =>
      (match g.findRule r with
       | some rule => nullableE g d rule.definition
       | none => true)
    | .field _ _ typ =>
      (match g.find typ with
       | some (.rule r) => nullableE g d r.definition   -- checks can only make the rule fail
       | some (.charRule cr) =>                         -- literal / range parts consume a character;
         cr.choices.any fun p => match p with           -- an identifier part is a call of any rule
           | .ident n => nullableE g d (.field none false n)
           | _ => false
       | some (.externRule _) => true                   -- a user function may return length 0
       | none => !(typ == "char"))                      -- builtin `Whitespace` (and undefined names)

/-- left calls of a sequence: those of the first part, and of the following parts while the
    preceding ones are nullable -/
def leftSeq (null : Expr → Bool) (lc : Expr → List String) : List Expr → List String
  | [] => []
  | p :: ps => lc p ++ (if null p then leftSeq null lc ps else [])

/-- the rules that can be called before this expression has consumed any byte.
    `nd` = fuel of the nullability tests, the `Nat` argument = depth fuel (AST depth + include hops),
    `skip` = whitespace is skipped in front of tokens. -/
def leftCalls (g : Grammar) (nd : Nat) : Nat → Bool → Expr → List String
  | 0, _, _ => []
  | d+1, skip, e =>
    match e with
    | .choice alts => alts.flatMap (leftCalls g nd d skip)
    | .seq parts => leftSeq (nullableE g nd) (leftCalls g nd d skip) parts
    | .group b => leftCalls g nd d skip b
    | .opt b => leftCalls g nd d skip b
    | .closure b _ => leftCalls g nd d skip b
    | .neg b => leftCalls g nd d skip b
    | .pos b => leftCalls g nd d skip b
    | .range _ _ => if skip then ["Whitespace"] else []
    | .lit _ _ => if skip then ["Whitespace"] else []
    | .eoi => if skip then ["Whitespace"] else []
    | .incl r =>
      (match g.findRule r with
       | some rule => leftCalls g nd d skip rule.definition
       | none => [])
    | .field _ _ typ => if skip then ["Whitespace", typ] else [typ]

/-- every closure body (through includes) is not nullable; `false` when the depth fuel does not
    cover the expression (so a `true` is never vacuous, `leftCalls` with the same fuel is exact, and
    include cycles are rejected) -/
def closuresOk (g : Grammar) (nd : Nat) : Nat → Expr → Bool
  | 0, _ => false
  | d+1, e =>
    match e with
    | .choice alts => alts.all (closuresOk g nd d)
    | .seq parts => parts.all (closuresOk g nd d)
    | .group b => closuresOk g nd d b
    | .opt b => closuresOk g nd d b
    | .closure b _ => !(nullableE g nd b) && closuresOk g nd d b
    | .neg b => closuresOk g nd d b
    | .pos b => closuresOk g nd d b
    | .range _ _ => true
    | .lit _ _ => true
    | .eoi => true
    | .incl r =>
      (match g.findRule r with
       | some rule => closuresOk g nd d rule.definition
       | none => true)          -- panics: an answer
    | .field _ _ _ => true

/-- the skip-whitespace flag a normal rule's body is generated with -/
def ruleSkip (st : Settings) (r : Rule) : Bool := st.skipWhitespace && !r.flags.noSkipWs

/-- left-call edges of one grammar entry -/
def edgesOf (g : Grammar) (st : Settings) (fuel : Nat) : RuleEntry → List String
  | .rule r => leftCalls g fuel fuel (ruleSkip st r) r.definition
  | .charRule r => r.choices.filterMap fun p => match p with
    | .ident n => some n
    | _ => none
  | .externRule _ => []

def edgeTable (g : Grammar) (st : Settings) (fuel : Nat) : List (String × List String) :=
  g.rules.map fun e => (e.name, edgesOf g st fuel e)

def rankOf (tbl : List (String × Nat)) (n : String) : Nat :=
  match tbl.find? (fun p => p.1 == n) with
  | some p => p.2
  | none => 0

/-- one round of longest-path relaxation -/
def relax (edges : List (String × List String)) (tbl : List (String × Nat)) : List (String × Nat) :=
  edges.map fun p => (p.1, p.2.foldl (fun m c => max m (rankOf tbl c + 1)) 0)

/-- iterate `relax` until stable (at most `k` rounds) -/
def relaxIter (edges : List (String × List String)) : Nat → List (String × Nat) → List (String × Nat)
  | 0, tbl => tbl
  | k+1, tbl =>
    let tbl' := relax edges tbl
    if tbl' == tbl then tbl else relaxIter edges k tbl'

/-- candidate rank of every rule = length of the longest left-call chain starting there
    (exact when the left-call graph is acyclic; otherwise `rankOk` below fails) -/
def rankTable (edges : List (String × List String)) : List (String × Nat) :=
  relaxIter edges (edges.length + 1) (edges.map fun p => (p.1, 0))

/-- the rank strictly decreases along every left-call edge ⇔ (for a finite graph) no left recursion -/
def rankOk (edges : List (String × List String)) (tbl : List (String × Nat)) : Bool :=
  edges.all fun p => p.2.all fun c => rankOf tbl c < rankOf tbl p.1

/-- no left recursion at all (`@leftrec` is ignored by `Spec`, that case is property C07) -/
def noLeftRecursion (g : Grammar) (st : Settings) (fuel : Nat) : Bool :=
  let edges := edgeTable g st fuel
  rankOk edges (rankTable edges)

def allClosuresOk (g : Grammar) (fuel : Nat) : Bool :=
  g.rules.all fun e => match e with
    | .rule r => closuresOk g fuel fuel r.definition
    | _ => true

/-- the part of well-formedness termination depends on: no closure (reachable through includes) has a
    nullable body, includes are acyclic (and the fuel covers every definition), no left recursion -/
def wfTermN (fuel : Nat) (g : Grammar) (st : Settings) : Bool :=
  allClosuresOk g fuel && noLeftRecursion g st fuel

/-- well-formed grammars of property C01: every referenced rule is defined (or builtin), no include
    cycle, no closure with a nullable body, no left recursion.  `fuel` bounds the nesting depth of the
    definitions (plus include hops) the analysis is willing to look at. -/
def wfCheckN (fuel : Nat) (g : Grammar) (st : Settings) : Bool :=
  allRefsDefinedN fuel g && !Compile.hasIncludeCycle g fuel && wfTermN fuel g st

def wfCheck (g : Grammar) (st : Settings) : Bool := wfCheckN 64 g st

end Peg
