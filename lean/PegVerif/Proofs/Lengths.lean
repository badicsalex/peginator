import PegVerif.Eval
/-
  The remaining input never grows: `Drop b s s'` ("`s'` has no more input left than `s`, strictly less
  if `b`"), and what `advance`, `advanceSafe` and each builtin matcher do to the length of the remaining
  input; `LitMatcher.nullable`: the literal matchers that can succeed without shortening it.  Over the model
  alone: Matchers.lean, which has what the matchers share, builds on this file.
-/
namespace Peg

def Drop (b : Prop) (s s' : St) : Prop :=
  s'.rest.length ≤ s.rest.length ∧ (b → s'.rest.length < s.rest.length)

theorem Drop.mono {b b' : Prop} {s s' : St} (h : Drop b s s') (hb : b' → b) : Drop b' s s' :=
  ⟨h.1, fun x => h.2 (hb x)⟩

theorem Drop.trans {b1 b2 b : Prop} {s s1 s2 : St} (h1 : Drop b1 s s1) (h2 : Drop b2 s1 s2)
    (hb : b → b1 ∨ b2) : Drop b s s2 := by
  refine ⟨Nat.le_trans h2.1 h1.1, fun x => ?_⟩
  cases hb x with
  | inl y => exact Nat.lt_of_le_of_lt h2.1 (h1.2 y)
  | inr y => exact Nat.lt_of_lt_of_le (h2.2 y) h1.1

theorem Drop.of_eq {b : Prop} {s s' : St} (h : s'.rest = s.rest) (hb : ¬ b) : Drop b s s' :=
  ⟨by rw [h]; exact Nat.le_refl _, fun x => absurd x hb⟩

theorem Drop.of_lt {b : Prop} {s s' : St} (h : s'.rest.length < s.rest.length) : Drop b s s' :=
  ⟨Nat.le_of_lt h, fun _ => h⟩

/-- a drop that starts after some input has been skipped and ends in a state with the same rest -/
theorem Drop.after {b : Prop} {s s0 s1 s' : St} (h0 : s0.rest.length ≤ s.rest.length) (d : Drop b s0 s1)
    (hr : s'.rest = s1.rest) : Drop b s s' :=
  ⟨by rw [hr]; exact Nat.le_trans d.1 h0, fun hb => by rw [hr]; exact Nat.lt_of_lt_of_le (d.2 hb) h0⟩

theorem advance_len {α} {s : St} {n : Nat} {v v' : α} {s' : St} (h : s.advance n v = .ok v' s') :
    s'.rest.length + n = s.rest.length := by
  unfold St.advance at h
  split at h
  · cases h
  · cases h
    simp only [List.length_drop]
    omega

theorem advanceSafe_ok_inv {α} {s s' : St} {n : Nat} {v v' : α} (h : s.advanceSafe n v = .ok v' s') :
    v' = v ∧ n ≤ s.rest.length ∧ s' = { s with rest := s.rest.drop n, off := s.off + n } := by
  unfold St.advanceSafe at h
  split at h
  · cases h
  · split at h
    · cases h
    · cases h; exact ⟨rfl, by omega, rfl⟩

theorem advanceSafe_len {α} {s : St} {n : Nat} {v v' : α} {s' : St} (h : s.advanceSafe n v = .ok v' s') :
    s'.rest.length ≤ s.rest.length := by
  obtain ⟨-, -, rfl⟩ := advanceSafe_ok_inv h
  simp only [List.length_drop]
  omega

theorem parseChar_len {s : St} {v s'} (h : parseChar s = .ok v s') : s'.rest.length < s.rest.length := by
  unfold parseChar at h
  split at h
  · cases h
  · rename_i c _
    have := advance_len h
    have := Char.utf8Size_pos c
    omega

theorem parseCharacterLiteral_len {s : St} {c v s'} (h : parseCharacterLiteral s c = .ok v s') :
    s'.rest.length < s.rest.length := by
  unfold parseCharacterLiteral at h
  split at h
  · split at h
    · cases h
    · split at h
      · cases h
      · have := advance_len h; omega
  · split at h
    · cases h
    · have := advance_len h
      have := Char.utf8Size_pos c
      omega

theorem parseCharacterRange_len {s : St} {lo hi v s'} (h : parseCharacterRange s lo hi = .ok v s') :
    s'.rest.length < s.rest.length := by
  unfold parseCharacterRange at h
  split at h
  · split at h
    · cases h
    · split at h
      · cases h
      · have := advance_len h; omega
  · split at h
    · cases h
    · split at h
      · cases h
      · rename_i c _ _
        have := advance_len h
        have := Char.utf8Size_pos c
        omega

theorem parseCharacterLiteralInsensitive_len {s : St} {c v s'}
    (h : parseCharacterLiteralInsensitive s c = .ok v s') : s'.rest.length < s.rest.length := by
  unfold parseCharacterLiteralInsensitive at h
  split at h
  · cases h
  · split at h
    · cases h
    · have := advance_len h; omega

theorem enc_length_pos {l : List Char} (h : l.isEmpty = false) : 0 < (enc l).length := by
  cases l with
  | nil => simp at h
  | cons c cs =>
    have := Char.utf8Size_pos c
    simp only [enc, List.flatMap_cons, List.length_append, String.length_utf8EncodeChar]
    omega

theorem parseStringLiteral_len {s : St} {l v s'} (h : parseStringLiteral s l = .ok v s') :
    Drop (l.isEmpty = false) s s' := by
  unfold parseStringLiteral at h
  simp only at h
  split at h
  · cases h
  · have h1 := advance_len h
    refine ⟨by omega, fun hl => ?_⟩
    have := enc_length_pos hl
    omega

theorem parseStringLiteralInsensitive_len {s : St} {l v s'}
    (h : parseStringLiteralInsensitive s l = .ok v s') : Drop (l.isEmpty = false) s s' := by
  unfold parseStringLiteralInsensitive at h
  simp only at h
  split at h
  · cases h
  · have h1 := advance_len h
    refine ⟨by omega, fun hl => ?_⟩
    have := enc_length_pos hl
    omega

/-- can the matcher a literal compiles to succeed on the empty string; if not, its call shortens the rest (the two lemmas
    above for the string matchers): the form in which Termination.lean and Sentinel.lean use the `_len` lemmas.
    `LRC.litNullable` of SpecLR.lean is the same function, among the model files -/
def LitMatcher.nullable : LitMatcher → Bool
  | .charLit _ => false
  | .charLitI _ => false
  | .strLit l => l.isEmpty
  | .strLitI l => l.isEmpty

theorem parseEndOfInput_len {s : St} {v s'} (h : parseEndOfInput s = .ok v s') : s' = s := by
  unfold parseEndOfInput at h
  split at h
  · cases h; rfl
  · cases h

end Peg
