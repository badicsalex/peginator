import PegVerif.Eval
import PegVerif.Proofs.Basics
import PegVerif.Proofs.Matchers
import PegVerif.Proofs.EvalLogic
import PegVerif.Proofs.GrowRun
/-
  C07 – `@leftrec` rules terminate and build the left-nested tree of the longest growth.

  The model of the generated seed-and-grow loop is `growLoop` / `memoBody` (left-recursive branch).
  A finished run of that loop is the relation `GrowRun body key s best g chain r g'` of GrowRun.lean (`chain` lists the
  results that improved on `best` one after the other, `r` is the answer); everything below is said about runs.
  1. each improvement ends strictly further, hence a bound on the iterations (termination half);
  2. the answer is the last element of the chain, and it is what the cache holds (result half; `GrowRun.cache` of
     GrowRun.lean);
  3. `DirectLeftRec`: a body that behaves like `A = A x | b`, and the left-nested tree it yields;
  4. an invariant of the whole evaluator (`LR.RInv`; `LR.Within`, `LR.CacheW`, `LR.Keeps`): states and
     cached successes stay inside the input, results end at or after their start, cache entries are
     never overwritten (below the wrapper of a normal rule by the closure properties of EvalLogic.lean, `LR.Inv.closed`
     and `LR.Inv.fx`).  It discharges the hypotheses of 1–3 for the real rule body, and it is the
     part LRProg.lean and RefineLR.lean import this file for (the packrat files read GrowRun.lean only);
  5. non-vacuity.
-/
namespace Peg

open LR

/-! ### 1. progress and the iteration bound -/

/-- end offset of a successful result -/
def Res.endOff {α} : Res α → Option Nat
  | .ok _ s => some s.off
  | _ => none

/-- the end offsets of the chain increase strictly, starting strictly above `lo` (if any) -/
def ChainFrom : Option Nat → List (Val × St) → Prop
  | _, [] => True
  | lo, (_, ns) :: rest => (∀ b, lo = some b → b < ns.off) ∧ ChainFrom (some ns.off) rest

/-- **progress**: every iteration that continues the loop has produced a result strictly further than
    the previous `best` (the very first one is exempt when `best` is the failing seed) -/
theorem GrowRun.increasing {body : St → Global → Out Val} {key : String × Nat} {s : St}
    {best g chain r g'} (h : GrowRun body key s best g chain r g') :
    ChainFrom best.endOff chain := by
  induction h with
  | panic hb => trivial
  | stopOk hb hle => trivial
  | stopErr hb => trivial
  | fail hb hbest => trivial
  | @grow best g v ns g' chain r g'' hb hfar hrest ih =>
    refine ⟨?_, ih⟩
    intro b hb'
    cases best with
    | ok bv bs => simp only [Res.endOff, Option.some.injEq] at hb'; subst hb'; exact hfar bv bs rfl
    | err _ => simp [Res.endOff] at hb'
    | panic _ => simp [Res.endOff] at hb'

theorem ChainFrom.lt_all {b : Nat} : ∀ {chain : List (Val × St)}, ChainFrom (some b) chain →
    ∀ x ∈ chain, b < x.2.off := by
  intro chain
  induction chain generalizing b with
  | nil => intro _ x hx; cases hx
  | cons y rest ih =>
    intro h x hx
    obtain ⟨h1, h2⟩ := h
    have hy := h1 b rfl
    rcases List.mem_cons.1 hx with rfl | hx
    · exact hy
    · exact Nat.lt_trans hy (ih h2 x hx)

theorem ChainFrom.pairwise : ∀ {lo} {chain : List (Val × St)}, ChainFrom lo chain →
    chain.Pairwise (fun a b => a.2.off < b.2.off) := by
  intro lo chain
  induction chain generalizing lo with
  | nil => intro _; exact List.Pairwise.nil
  | cons y rest ih =>
    intro h
    exact List.Pairwise.cons (fun x hx => h.2.lt_all x hx) (ih h.2)

/-- every element of the chain is a successful result of the body on the start state -/
theorem GrowRun.chain_body {body : St → Global → Out Val} {key : String × Nat} {s : St}
    {best g chain r g'} (h : GrowRun body key s best g chain r g') :
    ∀ x ∈ chain, ∃ g0 g1, body s g0 = some (.ok x.1 x.2, g1) := by
  induction h with
  | panic hb => intro x hx; cases hx
  | stopOk hb hle => intro x hx; cases hx
  | stopErr hb => intro x hx; cases hx
  | fail hb hbest => intro x hx; cases hx
  | @grow best g v ns g' chain r g'' hb hfar hrest ih =>
    intro x hx
    rcases List.mem_cons.1 hx with rfl | hx
    · exact ⟨_, _, hb⟩
    · exact ih x hx

theorem ChainFrom.length_le {L : Nat} : ∀ {chain : List (Val × St)} {lo : Option Nat} {lb : Nat},
    ChainFrom lo chain → (∀ x ∈ chain, x.2.off ≤ L) → (∀ b, lo = some b → lb ≤ b + 1) →
    (lo = none → ∀ x ∈ chain, lb ≤ x.2.off) → chain.length ≤ L + 1 - lb := by
  intro chain
  induction chain with
  | nil => intro lo lb _ _ _ _; simp
  | cons y rest ih =>
    intro lo lb h hL hlo hnone
    obtain ⟨h1, h2⟩ := h
    have hyL := hL y List.mem_cons_self
    have hylb : lb ≤ y.2.off := by
      cases lo with
      | none => exact hnone rfl y List.mem_cons_self
      | some b => have := h1 b rfl; have := hlo b rfl; omega
    have := ih (lo := some y.2.off) (lb := y.2.off + 1) h2
      (fun x hx => hL x (List.mem_cons_of_mem _ hx)) (fun b hb => by cases hb; omega)
      (fun hn => by cases hn)
    simp only [List.length_cons]
    omega

/-- the body only returns end states between the start offset and the end of the input -/
def BodyWithin (body : St → Global → Out Val) (s : St) : Prop :=
  ∀ g v ns g', body s g = some (.ok v ns, g') → s.off ≤ ns.off ∧ ns.off ≤ s.off + s.rest.length

/-- **C07, termination half** (relative to termination of the body): a run entered with the failing seed whose
    improvements end between the start and the end of the input is answered by the loop function with fuel
    `remaining input length + 2` already – the body is evaluated at most that often -/
theorem GrowRun.fuel_le {body : St → Global → Out Val} {key : String × Nat} {s : St}
    {e0 g chain r g'} (h : GrowRun body key s (.err e0) g chain r g')
    (hchain : ∀ x ∈ chain, s.off ≤ x.2.off ∧ x.2.off ≤ s.off + s.rest.length) :
    ∃ k0, k0 ≤ s.rest.length + 2 ∧ ∀ k', k0 ≤ k' → growLoop body key s k' (.err e0) g = some (r, g') := by
  refine ⟨chain.length + 1, ?_, fun k' hk' => h.toLoop k' (by omega)⟩
  have := ChainFrom.length_le (L := s.off + s.rest.length) (lb := s.off) h.increasing
    (fun x hx => (hchain x hx).2) (fun _ hb => nomatch hb) (fun _ x hx => (hchain x hx).1)
  omega

/-- the count when the loop is entered with a success `bs` already: at most one iteration per
    remaining byte after `bs`, plus the final one -/
theorem GrowRun.length_le_ok {body : St → Global → Out Val} {key : String × Nat} {s : St}
    (hB : BodyWithin body s) {bv bs g chain r g'} (h : GrowRun body key s (.ok bv bs) g chain r g') :
    chain.length ≤ s.off + s.rest.length - bs.off := by
  have := ChainFrom.length_le (L := s.off + s.rest.length) (lb := bs.off + 1) h.increasing
    (fun x hx => by obtain ⟨g0, g1, hb⟩ := h.chain_body x hx; exact (hB _ _ _ _ hb).2)
    (fun b hb => by simp only [Res.endOff, Option.some.injEq] at hb; omega)
    (fun hn => by simp [Res.endOff] at hn)
  omega

/-- the same for the whole wrapper: the `n` of a `@leftrec` `memoBody` is only used as loop fuel, so bounds on the
    improvements of the run it starts bound the `n` it needs -/
theorem memoBody_lr_fuel {flags : RuleFlags} {name : String} {body : St → Global → Out Val}
    {n : Nat} {s : St} {g : Global} {x : Res Val × Global} (hlr : flags.leftRecursive = true)
    (h : memoBody flags name body n s g = some x)
    (hchain : ∀ {chain r g'}, GrowRun body (name, s.off) s (.err (s.reportError .leftRecursionSentinel))
      (g.insert (name, s.off) (.err (s.reportError .leftRecursionSentinel))) chain r g' →
      ∀ y ∈ chain, s.off ≤ y.2.off ∧ y.2.off ≤ s.off + s.rest.length) :
    ∃ k0, k0 ≤ s.rest.length + 2 ∧ ∀ k', k0 ≤ k' → memoBody flags name body k' s g = some x := by
  cases hl : g.lookup (name, s.off) with
  | some c =>
    rw [memoBody_lr_hit hlr hl] at h
    exact ⟨0, by omega, fun _ _ => by rw [memoBody_lr_hit hlr hl, h]⟩
  | none =>
    simp only [memoBody_lr_miss hlr hl] at h ⊢
    obtain ⟨chain, _, hr⟩ := growLoop_run _ _ _ x.1 x.2 h
    exact hr.fuel_le (hchain hr)

theorem memoBody_leftrec_fuel {flags : RuleFlags} {name : String} {body : St → Global → Out Val}
    {n : Nat} {s : St} {g : Global} {x : Res Val × Global} (hlr : flags.leftRecursive = true)
    (hB : BodyWithin body s) (h : memoBody flags name body n s g = some x) :
    ∃ k0, k0 ≤ s.rest.length + 2 ∧ ∀ k', k0 ≤ k' → memoBody flags name body k' s g = some x :=
  memoBody_lr_fuel hlr h fun hr y hy => by obtain ⟨g0, g1, hb⟩ := hr.chain_body y hy; exact hB _ _ _ _ hb

/-! ### 2. the result: the last element of the strictly increasing chain -/

def Res.okPair {α} : Res α → Option (α × St)
  | .ok v s => some (v, s)
  | _ => none

/-- the last success: the last element of the chain, or `best` itself if the chain is empty -/
def lastOk (best : Res Val) (chain : List (Val × St)) : Option (Val × St) :=
  match chain.getLast? with
  | some x => some x
  | none => best.okPair

theorem lastOk_cons (best : Res Val) (x : Val × St) (chain : List (Val × St)) :
    lastOk best (x :: chain) = lastOk (.ok x.1 x.2) chain := by
  cases chain with
  | nil => simp [lastOk, Res.okPair]
  | cons y rest =>
    have : (y :: rest).getLast? = some ((y :: rest).getLast (by simp)) := List.getLast?_eq_some_getLast _
    simp only [lastOk, List.getLast?_cons_cons, this]

/-- what the loop returns -/
inductive GrowResult (body : St → Global → Out Val) (key : String × Nat) (s : St) (best : Res Val)
    (g : Global) (chain : List (Val × St)) (r : Res Val) (g' : Global) : Prop
  /-- some body evaluation panicked -/
  | panic (m : String) (hr : r = .panic m)
  /-- the longest growth: the last success of the chain (`best` if the chain is empty) -/
  | longest (v : Val) (ns : St) (hl : lastOk best chain = some (v, ns)) (hr : r = .ok v ns)
  /-- no success at all: the very first body evaluation failed; its error is returned and cached -/
  | failed (e : PErr) (gb : Global) (hc : chain = []) (hbest : ∀ bv bs, best ≠ .ok bv bs)
      (hb : body s (growPre key g) = some (.err e, gb)) (hr : r = .err e)
      (hg : g' = gb.insert key (.err e))

theorem GrowRun.result {body : St → Global → Out Val} {key : String × Nat} {s : St}
    {best g chain r g'} (h : GrowRun body key s best g chain r g') :
    GrowResult body key s best g chain r g' := by
  induction h with
  | panic hb => exact .panic _ rfl
  | stopOk hb hle => exact .longest _ _ rfl rfl
  | stopErr hb => exact .longest _ _ rfl rfl
  | fail hb hbest => exact .failed _ _ rfl hbest hb rfl rfl
  | @grow best g v ns g' chain r g'' hb hfar hrest ih =>
    cases ih with
    | panic m hr => exact .panic m hr
    | longest v' ns' hl hr => exact .longest v' ns' (by rw [lastOk_cons]; exact hl) hr
    | failed e gb hc hbest _ _ _ => exact absurd rfl (hbest v ns)

/-- **C07, result half.**  A run of the loop that answers `(r, g')` consists of a chain of body
    results with strictly increasing end offsets (each strictly further than the previous `best`);
    `r` is the last of them – the longest growth – (or `best`, if the chain is empty and `best` is a
    success), or the error of the body if the very first evaluation fails; a panic of the body is
    passed on.  If the body leaves the entry of `key` alone, the cache entry for `key` at the end is
    the returned result. -/
theorem growLoop_result {body : St → Global → Out Val} {key : String × Nat} {s : St} {k : Nat}
    {best : Res Val} {g : Global} {r : Res Val} {g' : Global}
    (h : growLoop body key s k best g = some (r, g')) :
    ∃ chain : List (Val × St), chain.length < k ∧
      ChainFrom best.endOff chain ∧
      chain.Pairwise (fun a b => a.2.off < b.2.off) ∧
      (∀ x ∈ chain, ∃ g0 g1, body s g0 = some (.ok x.1 x.2, g1)) ∧
      GrowResult body key s best g chain r g' ∧
      (KeepsKey body key s → g.lookup key = some best → (∀ m, r ≠ .panic m) →
        g'.lookup key = some r) := by
  obtain ⟨chain, hl, hr⟩ := growLoop_run k best g r g' h
  exact ⟨chain, hl, hr.increasing, hr.increasing.pairwise, hr.chain_body, hr.result,
    fun hk hg hnp => hr.cache hk hg hnp⟩

/-! ### 3. the usual shape `A = A x | b`, semantically -/

/-- `b0` extended `i` times: `ext (i-1) (… (ext 1 (ext 0 b0)))`, the tree nested to the left
    (`ext j` is the extension built in growth step `j`: "a node holding the previous result as its
    left child and the `j`-th `x`") -/
def nestL (ext : Nat → Val → Val) (b0 : Val) : Nat → Val
  | 0 => b0
  | i + 1 => ext i (nestL ext b0 i)

/-- the successive improved results `(v_i, s_i), …, (v_{i+d-1}, s_{i+d-1})` -/
def growChain (ext : Nat → Val → Val) (b0 : Val) (st : Nat → St) : Nat → Nat → List (Val × St)
  | _, 0 => []
  | i, d + 1 => (nestL ext b0 i, st i) :: growChain ext b0 st (i + 1) d

@[simp] theorem growChain_length (ext : Nat → Val → Val) (b0 : Val) (st : Nat → St) (i d : Nat) :
    (growChain ext b0 st i d).length = d := by
  induction d generalizing i with
  | zero => rfl
  | succ d ih => simp [growChain, ih]

/-- the global state the loop hands to the body when the current seed is `seed`: the seed has just
    been inserted under `key`, then the two ghost events are logged -/
def seeded (key : String × Nat) (seed : Res Val) (g : Global) : Global :=
  growPre key (g.insert key seed)

@[simp] theorem seeded_lookup (key : String × Nat) (seed : Res Val) (g : Global) :
    (seeded key seed g).lookup key = some seed := lookup_insert_self _ _ _

/-- The behaviour of the body of a directly left-recursive rule `A = A x | b` on the start state `s`,
    as a function of the seed it finds in the cache under `key`.  The clauses quantify over every
    global state `seeded key seed g` (arbitrary `g`: rest of the cache, log, user context), i.e. over
    all global states the loop can hand to the body with that seed; nothing is assumed about the
    global state the body returns.
    * `base`: with the failing seed `e0` the body succeeds with `b0`, ending in `st 0` (the base
      alternative `b`; the recursive alternative fails on the failing seed);
    * `step`: with the seed `ok v_i (st i)`, `i < m`, the body succeeds with `ext i v_i`, ending in
      `st (i+1)`, strictly further (the recursive alternative consumes the seed and one more `x`);
    * `stop`: with the seed `ok v_m (st m)` the body fails or does not get further than `st m`
      (there is no further `x`; the base alternative ends in `st 0`).
    `DirectLeftRec.of_lookup` derives this from the more natural formulation "whenever
    `g.lookup key = some seed` …" (the body depends on the global state only through `lookup key`). -/
structure DirectLeftRec (body : St → Global → Out Val) (key : String × Nat) (s : St) (e0 : PErr)
    (b0 : Val) (ext : Nat → Val → Val) (st : Nat → St) (m : Nat) : Prop where
  base : ∀ g, ∃ g', body s (seeded key (.err e0) g) = some (.ok b0 (st 0), g')
  step : ∀ i, i < m → ∀ g, ∃ g', body s (seeded key (.ok (nestL ext b0 i) (st i)) g) =
    some (.ok (ext i (nestL ext b0 i)) (st (i + 1)), g')
  mono : ∀ i, i < m → (st i).off < (st (i + 1)).off
  stop : ∀ g,
    (∃ e g', body s (seeded key (.ok (nestL ext b0 m) (st m)) g) = some (.err e, g')) ∨
    (∃ v' ns g', body s (seeded key (.ok (nestL ext b0 m) (st m)) g) = some (.ok v' ns, g') ∧
      ns.off ≤ (st m).off)

/-- the formulation through `lookup`: result value and end state of the body depend on the global
    state only through the seed found under `key` -/
theorem DirectLeftRec.of_lookup {body : St → Global → Out Val} {key : String × Nat} {s : St} {e0 : PErr}
    {b0 : Val} {ext : Nat → Val → Val} {st : Nat → St} {m : Nat}
    (base : ∀ g, g.lookup key = some (.err e0) → ∃ g', body s g = some (.ok b0 (st 0), g'))
    (step : ∀ i, i < m → ∀ g v, g.lookup key = some (.ok v (st i)) →
      ∃ g', body s g = some (.ok (ext i v) (st (i + 1)), g'))
    (mono : ∀ i, i < m → (st i).off < (st (i + 1)).off)
    (stop : ∀ g v, g.lookup key = some (.ok v (st m)) →
      (∃ e g', body s g = some (.err e, g')) ∨
      (∃ v' ns g', body s g = some (.ok v' ns, g') ∧ ns.off ≤ (st m).off)) :
    DirectLeftRec body key s e0 b0 ext st m :=
  ⟨fun g => base _ (seeded_lookup _ _ g), fun i hi g => step i hi _ _ (seeded_lookup _ _ g), mono,
   fun g => stop _ _ (seeded_lookup _ _ g)⟩

/-- `DirectLeftRec` relative to the global states `P` the body is asked about, with what a body run keeps (`U`).
    `DirectLeftRec` itself is the instance with both trivial (`DirectLeftRec.gen`) -/
structure DirectGen (P : Global → Prop) (U : Global → Global → Prop) (body : St → Global → Out Val)
    (key : String × Nat) (s : St) (e0 : PErr) (b0 : Val) (ext : Nat → Val → Val) (st : Nat → St) (m : Nat) :
    Prop where
  base : ∀ g, P g → ∃ g', body s (seeded key (.err e0) g) = some (.ok b0 (st 0), g') ∧ U g g'
  step : ∀ i, i < m → ∀ g, P g → ∃ g', body s (seeded key (.ok (nestL ext b0 i) (st i)) g) =
    some (.ok (ext i (nestL ext b0 i)) (st (i + 1)), g') ∧ U g g'
  mono : ∀ i, i < m → (st i).off < (st (i + 1)).off
  stop : ∀ g, P g →
    (∃ e g', body s (seeded key (.ok (nestL ext b0 m) (st m)) g) = some (.err e, g') ∧ U g g') ∨
    (∃ v' ns g', body s (seeded key (.ok (nestL ext b0 m) (st m)) g) = some (.ok v' ns, g') ∧
      ns.off ≤ (st m).off ∧ U g g')

section
variable {P : Global → Prop} {U : Global → Global → Prop} {body : St → Global → Out Val}
  {key : String × Nat} {s : St} {e0 : PErr} {b0 : Val} {ext : Nat → Val → Val} {st : Nat → St} {m : Nat}

theorem DirectGen.run_from (H : DirectGen P U body key s e0 b0 ext st m)
    (hPU : ∀ g g', P g → U g g' → P g') (htr : ∀ a b c, U a b → U b c → U a c) :
    ∀ d i, i + d = m → ∀ g : Global, P g →
      ∃ g', GrowRun body key s (.ok (nestL ext b0 i) (st i))
        (g.insert key (.ok (nestL ext b0 i) (st i))) (growChain ext b0 st (i + 1) d)
        (.ok (nestL ext b0 m) (st m)) g' ∧ U g g' := by
  intro d
  induction d with
  | zero =>
    intro i hi g hg
    obtain rfl : i = m := by omega
    rcases H.stop g hg with ⟨e, g', hb, hu⟩ | ⟨v', ns, g', hb, hle, hu⟩
    · exact ⟨g', .stopErr hb, hu⟩
    · exact ⟨g', .stopOk hb hle, hu⟩
  | succ d ih =>
    intro i hi g hg
    obtain ⟨g1, hb, hu1⟩ := H.step i (by omega) g hg
    obtain ⟨g', hr, hu'⟩ := ih (i + 1) (by omega) g1 (hPU _ _ hg hu1)
    refine ⟨g', ?_, htr _ _ _ hu1 hu'⟩
    show GrowRun body key s _ _ ((nestL ext b0 (i + 1), st (i + 1)) :: growChain ext b0 st (i + 1 + 1) d) _ g'
    refine .grow hb ?_ hr
    intro bv bs he
    cases he
    exact H.mono i (by omega)

/-- the run of the loop for a directly left-recursive body: exactly `m + 2` body evaluations, the
    successive cached results are `(b0, st 0), (ext 0 b0, st 1), …`, the answer is the last one -/
theorem DirectGen.run (H : DirectGen P U body key s e0 b0 ext st m)
    (hPU : ∀ g g', P g → U g g' → P g') (htr : ∀ a b c, U a b → U b c → U a c) (g : Global) (hg : P g) :
    ∃ g', GrowRun body key s (.err e0) (g.insert key (.err e0)) (growChain ext b0 st 0 (m + 1))
      (.ok (nestL ext b0 m) (st m)) g' ∧ U g g' := by
  obtain ⟨g1, hb, hu1⟩ := H.base g hg
  obtain ⟨g', hr, hu'⟩ := H.run_from hPU htr m 0 (by omega) g1 (hPU _ _ hg hu1)
  exact ⟨g', .grow hb (fun bv bs he => by cases he) hr, htr _ _ _ hu1 hu'⟩

theorem DirectLeftRec.gen (H : DirectLeftRec body key s e0 b0 ext st m) :
    DirectGen (fun _ => True) (fun _ _ => True) body key s e0 b0 ext st m :=
  ⟨fun g _ => (H.base g).imp fun _ h => ⟨h, trivial⟩, fun i hi g _ => (H.step i hi g).imp fun _ h => ⟨h, trivial⟩,
    H.mono, fun g _ => (H.stop g).imp (fun ⟨e, g', h⟩ => ⟨e, g', h, trivial⟩)
      (fun ⟨v', ns, g', h, hle⟩ => ⟨v', ns, g', h, hle, trivial⟩)⟩

end

/-- **C07_direct** (loop level).  For a body behaving like `A = A x | b` with `m` extensions
    available, the loop entered with the failing seed (just inserted under `key`, as `memoBody` does)
    returns `ok v_m s_m` with `v_m = ext (m-1) (… (ext 0 b0))`: the tree nested to the left, each
    extension holding the previous result.  It evaluates the body exactly `m + 2` times: any loop fuel
    `≥ m + 2` gives this answer, any smaller one runs out; the successive improved (and cached) results
    are `(v_0, s_0), …, (v_m, s_m)`.  If moreover the body leaves the entry of `key` alone, that
    entry is the returned result at the end. -/
theorem C07_direct {body : St → Global → Out Val} {key : String × Nat} {s : St} {e0 : PErr}
    {b0 : Val} {ext : Nat → Val → Val} {st : Nat → St} {m : Nat}
    (H : DirectLeftRec body key s e0 b0 ext st m) (g : Global) :
    ∃ g', (∀ k, m + 2 ≤ k → growLoop body key s k (.err e0) (g.insert key (.err e0)) =
              some (.ok (nestL ext b0 m) (st m), g')) ∧
          (∀ k, k ≤ m + 1 → growLoop body key s k (.err e0) (g.insert key (.err e0)) = none) ∧
          GrowRun body key s (.err e0) (g.insert key (.err e0)) (growChain ext b0 st 0 (m + 1))
            (.ok (nestL ext b0 m) (st m)) g' ∧
          (KeepsKey body key s → g'.lookup key = some (.ok (nestL ext b0 m) (st m))) := by
  obtain ⟨g', hr, -⟩ := H.gen.run (fun _ _ _ _ => trivial) (fun _ _ _ _ _ => trivial) g trivial
  refine ⟨g', fun k hk => hr.toLoop k (by simp; omega), fun k hk => hr.toLoop_none k (by simp; omega), hr,
    fun hk => hr.cache hk (lookup_insert_self _ _ _) (fun m' he => by cases he)⟩

/-- **C07_direct** for the rule wrapper, relative to the global states asked about: on a cache miss the
    left-recursive `memoBody` seeds the cache with the failing sentinel and grows; with a body of the shape
    `A = A x | b` it returns the left-nested tree `v_m`, ending in `s_m`, after exactly `m + 2` body
    evaluations, and keeps what the body runs keep. -/
theorem DirectGen.memoBody {P : Global → Prop} {U : Global → Global → Prop} {flags : RuleFlags} {name : String}
    {body : St → Global → Out Val} {s : St} {b0 : Val} {ext : Nat → Val → Val} {st : Nat → St} {m : Nat}
    (hlr : flags.leftRecursive = true)
    (H : DirectGen P U body (name, s.off) s (s.reportError .leftRecursionSentinel) b0 ext st m)
    (hPU : ∀ g g', P g → U g g' → P g') (htr : ∀ a b c, U a b → U b c → U a c)
    {g : Global} (hg : P g) (hmiss : g.lookup (name, s.off) = none) :
    ∃ g', (∀ n, m + 2 ≤ n →
            memoBody flags name body n s g = some (.ok (nestL ext b0 m) (st m), g')) ∧
          (∀ n, n ≤ m + 1 → memoBody flags name body n s g = none) ∧
          U g g' ∧
          (KeepsKey body (name, s.off) s →
            g'.lookup (name, s.off) = some (.ok (nestL ext b0 m) (st m))) := by
  obtain ⟨g', hr, hu⟩ := H.run hPU htr g hg
  refine ⟨g', fun n hn => ?_, fun n hn => ?_, hu, fun hk =>
    hr.cache hk (lookup_insert_self _ _ _) (fun m' he => by cases he)⟩
  · rw [memoBody_lr_miss hlr hmiss]; exact hr.toLoop n (by simp; omega)
  · rw [memoBody_lr_miss hlr hmiss]; exact hr.toLoop_none n (by simp; omega)

theorem C07_direct_memoBody {flags : RuleFlags} {name : String} {body : St → Global → Out Val} {s : St}
    {b0 : Val} {ext : Nat → Val → Val} {st : Nat → St} {m : Nat} (hlr : flags.leftRecursive = true)
    (H : DirectLeftRec body (name, s.off) s (s.reportError .leftRecursionSentinel) b0 ext st m)
    {g : Global} (hmiss : g.lookup (name, s.off) = none) :
    ∃ g', (∀ n, m + 2 ≤ n →
            memoBody flags name body n s g = some (.ok (nestL ext b0 m) (st m), g')) ∧
          (∀ n, n ≤ m + 1 → memoBody flags name body n s g = none) :=
  (H.gen.memoBody hlr (fun _ _ _ _ => trivial) (fun _ _ _ _ _ => trivial) trivial hmiss).imp
    fun _ h => ⟨h.1, h.2.1⟩

/-- the same for `parse_advanced` started on a normal rule: the fuel of the rule is the loop fuel -/
theorem DirectLeftRec.parse {env : Env} {rule : String} {r : Rule} {n : Nat} {inp : List UInt8} {u : Nat}
    {b0 : Val} {ext : Nat → Val → Val} {st : Nat → St} {m : Nat}
    (hf : env.g.find rule = some (.rule r)) (hlr : r.flags.leftRecursive = true)
    (H : DirectLeftRec (ruleBody env (eval env n) r) (r.name, (St.new inp).off) (St.new inp)
      ((St.new inp).reportError .leftRecursionSentinel) b0 ext st m) (hn : m + 2 ≤ n) :
    ∃ g', parseAdvanced env (n + 1) rule inp u = some (.ok (nestL ext b0 m) (st m), g') := by
  obtain ⟨g', h, _⟩ := C07_direct_memoBody hlr H
    (g := (Global.init u).emit (.traceStart r.name (St.new inp).off)) rfl
  exact ⟨traceResult g' (.ok (nestL ext b0 m) (st m)),
    by simp only [parseAdvanced, eval, Peg.step, stepRule, hf, normalRule, h n hn]⟩

/-! ### 4. the evaluator stays inside the input and never overwrites a cache entry

  An invariant of the whole evaluator (same scheme as `Trace`): for every evaluation
  `f s g = some (r, g')`
  * `Keeps g g'`: every cache entry present in `g` is still there, unchanged, in `g'` (entries are
    only inserted on a miss; the grow loop only rewrites the entry it created itself);
  * if the start state lies within an input of total length `L` (`off + rest.length = L`) and every
    cached success does (and ends at/after the offset of its key), then the same holds for `g'`, and a
    successful result ends at/after the start offset, within the input.
  This discharges `BodyWithin`-style and `KeepsKey` hypotheses for the real rule body. -/

namespace LR

/-- the state is a cursor into an input of total length `L` -/
def Within (L : Nat) (s : St) : Prop := s.off + s.rest.length = L

/-- every cached success ends within the input, at/after the offset it is cached for -/
def CacheW (L : Nat) (g : Global) : Prop :=
  ∀ k v s', g.lookup k = some (.ok v s') → k.2 ≤ s'.off ∧ Within L s'

/-- cache entries of `g` survive unchanged in `g'` -/
def Keeps (g g' : Global) : Prop := ∀ k x, g.lookup k = some x → g'.lookup k = some x

/-- a success ends at/after the start offset, within the input -/
def Fwd (L : Nat) (s : St) {α} (r : Res α) : Prop :=
  ∀ v s', r = .ok v s' → s.off ≤ s'.off ∧ Within L s'

def Post (L : Nat) (s : St) (g : Global) {α} (r : Res α) (g' : Global) : Prop :=
  Keeps g g' ∧ (Within L s → CacheW L g → CacheW L g' ∧ Fwd L s r)

def Inv (L : Nat) (s : St) {α} (f : Global → Out α) : Prop :=
  ∀ g r g', f g = some (r, g') → Post L s g r g'

structure RInv (L : Nat) (rec : Rec) : Prop where
  expr : ∀ ctx e s, Inv L s (rec.expr ctx e s)
  rule : ∀ name s, Inv L s (rec.rule name s)

theorem Keeps.refl (g : Global) : Keeps g g := fun _ _ h => h
theorem Keeps.trans {a b c : Global} (h1 : Keeps a b) (h2 : Keeps b c) : Keeps a c :=
  fun k x h => h2 k x (h1 k x h)
theorem Keeps.of_cache {g g' : Global} (h : g'.cache = g.cache) : Keeps g g' :=
  fun k x hx => by rw [lookup_of_cache_eq h]; exact hx
theorem cacheW_iff {L} {g : Global} :
    CacheW L g ↔ Cached (fun k r => ∀ v s', r = .ok v s' → k.2 ≤ s'.off ∧ Within L s') g :=
  Cached.ok_iff _

theorem CacheW.of_cache {L} {g g' : Global} (h : g'.cache = g.cache) (hc : CacheW L g) : CacheW L g' :=
  cacheW_iff.2 ((cacheW_iff.1 hc).of_cache h)

theorem CacheW.init (L u : Nat) : CacheW L (Global.init u) := cacheW_iff.2 (.init u)

theorem Fwd.err {L s α} (e : PErr) : Fwd L s (.err e : Res α) := fun _ _ h => by cases h
theorem Fwd.panic {L s α} (m : String) : Fwd L s (.panic m : Res α) := fun _ _ h => by cases h
theorem Fwd.same {L s α} (v : α) (hs : Within L s) : Fwd L s (.ok v s) :=
  fun _ _ h => by cases h; exact ⟨Nat.le_refl _, hs⟩
theorem Fwd.ok_iff {L s α} {v : α} {s1 : St} : Fwd L s (.ok v s1) ↔ (s.off ≤ s1.off ∧ Within L s1) :=
  ⟨fun h => h v s1 rfl, fun h _ _ he => by cases he; exact h⟩
theorem Fwd.trans {L s s1 α} {r : Res α} (h1 : s.off ≤ s1.off) (h : Fwd L s1 r) : Fwd L s r :=
  fun v s' he => ⟨Nat.le_trans h1 (h v s' he).1, (h v s' he).2⟩
theorem Fwd.map {L s α β} {r : Res α} (f : α → β) (h : Fwd L s r) : Fwd L s (r.map f) := by
  intro v s' he
  obtain ⟨v0, h0⟩ := map_ok he
  exact h v0 s' h0

theorem within_recordError {L s e} : Within L (s.recordError e) ↔ Within L s := by
  unfold Within; simp

theorem Post.refl {L s g α} {r : Res α} (hr : Within L s → Fwd L s r) : Post L s g r g :=
  ⟨Keeps.refl g, fun hs hc => ⟨hc, hr hs⟩⟩

theorem Post.ok_trans {L s s1 g g1 g' α β} {v : α} {r : Res β} (h1 : Post L s g (.ok v s1) g1)
    (h2 : Post L s1 g1 r g') : Post L s g r g' := by
  refine ⟨h1.1.trans h2.1, fun hs hc => ?_⟩
  obtain ⟨hc1, hf1⟩ := h1.2 hs hc
  obtain ⟨ho, hw⟩ := Fwd.ok_iff.1 hf1
  obtain ⟨hc2, hf2⟩ := h2.2 hw hc1
  exact ⟨hc2, hf2.trans ho⟩

theorem Post.then_same {L s g g1 g' α β} {r1 : Res α} {r : Res β} (h1 : Post L s g r1 g1)
    (h2 : Post L s g1 r g') : Post L s g r g' := by
  refine ⟨h1.1.trans h2.1, fun hs hc => ?_⟩
  obtain ⟨hc1, _⟩ := h1.2 hs hc
  exact h2.2 hs hc1

theorem Post.of_recordError {L s e g g' α} {r : Res α} (h : Post L (s.recordError e) g r g') :
    Post L s g r g' :=
  ⟨h.1, fun hs hc =>
    have ⟨hc', hf⟩ := h.2 (within_recordError.2 hs) hc
    ⟨hc', fun v s' he => recordError_off s e ▸ hf v s' he⟩⟩

theorem Post.mono_res {L s g g' α β} {r : Res α} {r' : Res β} (h : Post L s g r g')
    (hr : Within L s → Fwd L s r → Fwd L s r') : Post L s g r' g' :=
  ⟨h.1, fun hs hc => ⟨(h.2 hs hc).1, hr hs (h.2 hs hc).2⟩⟩

theorem Post.cache_l {L s g0 g g' α} {r : Res α} (hc : g0.cache = g.cache) (h : Post L s g0 r g') :
    Post L s g r g' :=
  ⟨(Keeps.of_cache hc).trans h.1, fun hs hw => h.2 hs (hw.of_cache hc)⟩

theorem Post.cache_r {L s g g' g'' α} {r : Res α} (hc : g''.cache = g'.cache) (h : Post L s g r g') :
    Post L s g r g'' :=
  ⟨h.1.trans (Keeps.of_cache hc), fun hs hw => ⟨(h.2 hs hw).1.of_cache hc, (h.2 hs hw).2⟩⟩

theorem Inv.pure {L s α} {r : Res α} (hr : Within L s → Fwd L s r) : Inv L s (fun g => some (r, g)) := by
  intro g r' g' h; cases h; exact Post.refl hr

theorem Inv.panic {L s α} (m : String) : Inv L s (fun g => some ((.panic m : Res α), g)) :=
  Inv.pure (fun _ => Fwd.panic m)
theorem Inv.err {L s α} (e : PErr) : Inv L s (fun g => some ((.err e : Res α), g)) :=
  Inv.pure (fun _ => Fwd.err e)
theorem Inv.okSame {L s α} (v : α) : Inv L s (fun g => some (.ok v s, g)) :=
  Inv.pure (fun hs => Fwd.same v hs)

theorem Inv.of_recordError {L s e α} {f : Global → Out α} (h : Inv L (s.recordError e) f) : Inv L s f :=
  fun g r g' hx => (h g r g' hx).of_recordError

/-- the node shape `caseR`: a success continues from where it ended, a failure from the start -/
theorem Inv.caseR {L s α β} {f : Global → Out α} {ok : α → St → Global → Out β} {err : PErr → Global → Out β}
    (hf : Inv L s f) (hok : ∀ v s1, Inv L s1 (ok v s1)) (herr : ∀ e, Inv L s (err e)) :
    Inv L s (fun g => caseR (f g) ok err) := by
  intro g r g' h
  rcases caseR_inv h with ⟨v, s1, g1, hx, h⟩ | ⟨e, g1, hx, h⟩ | ⟨m, hx, rfl⟩
  · exact (hf _ _ _ hx).ok_trans (hok _ _ _ _ _ h)
  · exact (hf _ _ _ hx).then_same (herr _ _ _ _ h)
  · exact (hf _ _ _ hx).mono_res fun _ _ => Fwd.panic m

/-- continuation whose result is relative to the *original* state (lookaheads) -/
theorem bindR_inv_same {L s α β} {f : Global → Out α} {k : α → St → Global → Out β}
    (hf : Inv L s f) (hk : ∀ v s1, Inv L s (k v s1)) : Inv L s (fun g => bindR (f g) k) := by
  intro g r g' h
  rcases caseR_inv (h : caseR (f g) k _ = _) with ⟨v, s1, g1, hx, h⟩ | ⟨e, g1, hx, h⟩ | ⟨m, hx, rfl⟩
  · exact (hf _ _ _ hx).then_same (hk _ _ _ _ _ h)
  · cases h; exact (hf _ _ _ hx).mono_res fun _ _ => Fwd.err e
  · exact (hf _ _ _ hx).mono_res fun _ _ => Fwd.panic m

/-! #### the matchers -/

theorem _root_.Peg.IsMatcher.fwd {α} {m : St → Res α} (hm : IsMatcher m) {L s} (hs : Within L s) :
    Fwd L s (m s) := by
  intro v s' h
  obtain ⟨n, hn, rfl⟩ := hm.ok_inv h
  unfold Within at hs ⊢
  simp only [List.length_drop]
  exact ⟨Nat.le_add_right _ _, by omega⟩

theorem fwd_advanceSafe {L s α} (n : Nat) (v : α) (hs : Within L s) : Fwd L s (s.advanceSafe n v) := by
  unfold St.advanceSafe
  split
  · exact Fwd.panic _
  · split
    · exact Fwd.panic _
    · rename_i hn _
      refine Fwd.ok_iff.2 ⟨Nat.le_add_right _ _, ?_⟩
      unfold Within at hs ⊢
      simp only [List.length_drop]
      omega

/-! #### every node -/

theorem Inv.closed (L : Nat) : EvalClosed fun {_} s f => Inv L s f where
  stuck _ := fun _ _ _ h => nomatch h
  ok v _ := Inv.okSame v
  err e _ := Inv.err e
  panic m _ := Inv.panic m
  matcher hm _ := Inv.pure fun hs => hm.fwd hs
  caseR := Inv.caseR
  look hf v := bindR_inv_same hf fun _ _ => Inv.okSame v
  recErr := Inv.of_recordError

theorem Inv.fx (L : Nat) : EvalFx fun {_} s f => Inv L s f where
  toEvalClosed := Inv.closed L
  readUctx hk g := hk g.uctx g
  setUctx _ hf _ r g' h := (hf _ r g' h).cache_l rfl
  call _ hf _ r g' h := (hf _ r g' h).cache_l rfl
  advanceSafe _ _ _ := Inv.pure fun hs => fwd_advanceSafe _ _ hs

section
variable {env : Env} {rec : Rec} {L : Nat}

theorem evalSeq_inv (hrec : RInv L rec) {ctx : Ctx} :
    ∀ ps seen acc s, Inv L s (evalSeq env rec ctx ps seen acc s) :=
  (Inv.closed L).evalSeq hrec.expr

theorem evalLoop_inv {body : St → Global → Out Parsed} (hbody : ∀ s, Inv L s (body s)) {fields} :
    ∀ k iters acc s, Inv L s (evalLoop body fields k iters acc s) :=
  (Inv.closed L).evalLoop hbody

end

/-! #### rule level -/

section
variable {env : Env} {rec : Rec} {L : Nat}

theorem runChecks_inv : ∀ fs v s, Inv L s (runChecks env fs v s) := (Inv.fx L).runChecks

theorem ruleBody_inv (hrec : RInv L rec) (r : Rule) (s : St) : Inv L s (ruleBody env rec r s) :=
  (Inv.closed L).ruleBody hrec.expr runChecks_inv r s

/-- entries other than `key` survive -/
def KeepsExcept (key : String × Nat) (g g' : Global) : Prop :=
  ∀ k x, k ≠ key → g.lookup k = some x → g'.lookup k = some x

theorem Keeps.except {g g' : Global} (h : Keeps g g') (key : String × Nat) : KeepsExcept key g g' :=
  fun k x _ hx => h k x hx

theorem KeepsExcept.trans {key : String × Nat} {a b c : Global} (h1 : KeepsExcept key a b)
    (h2 : KeepsExcept key b c) : KeepsExcept key a c :=
  fun k x hk hx => h2 k x hk (h1 k x hk hx)

theorem keepsExcept_insert (g : Global) (key : String × Nat) (x : Res Val) :
    KeepsExcept key g (g.insert key x) :=
  fun k y hk hy => by rw [lookup_insert_ne g x hk]; exact hy

theorem cacheW_insert {g : Global} {key : String × Nat} {x : Res Val} (hc : CacheW L g)
    (hx : ∀ v s', x = .ok v s' → key.2 ≤ s'.off ∧ Within L s') : CacheW L (g.insert key x) :=
  cacheW_iff.2 ((cacheW_iff.1 hc).insert hx)

/-- a run of the grow loop, for a body satisfying the evaluator invariant: entries other than `key`
    survive; the improved results lie within the input, at/after the start; so do the final cache and
    the answer -/
theorem _root_.Peg.GrowRun.inv {body : St → Global → Out Val} (hbody : ∀ s, Inv L s (body s))
    {key : String × Nat} {s : St} (hkey : key.2 ≤ s.off) {best g chain r g'}
    (h : GrowRun body key s best g chain r g') :
    KeepsExcept key g g' ∧ (Within L s → CacheW L g →
      (∀ x ∈ chain, s.off ≤ x.2.off ∧ Within L x.2) ∧ (Fwd L s best → CacheW L g' ∧ Fwd L s r)) := by
  induction h with
  | @panic _ g _ _ hb =>
    have hp : Post L s g _ _ := (hbody _ _ _ _ hb).cache_l rfl
    exact ⟨hp.1.except key, fun hs hc => ⟨fun _ hx => (nomatch hx), fun _ => hp.2 hs hc⟩⟩
  | @stopOk _ _ g _ _ _ hb _ =>
    have hp : Post L s g _ _ := (hbody _ _ _ _ hb).cache_l rfl
    exact ⟨hp.1.except key, fun hs hc => ⟨fun _ hx => (nomatch hx), fun hb' => ⟨(hp.2 hs hc).1, hb'⟩⟩⟩
  | @stopErr _ _ g _ _ hb =>
    have hp : Post L s g _ _ := (hbody _ _ _ _ hb).cache_l rfl
    exact ⟨hp.1.except key, fun hs hc => ⟨fun _ hx => (nomatch hx), fun hb' => ⟨(hp.2 hs hc).1, hb'⟩⟩⟩
  | @fail _ g _ _ hb _ =>
    have hp : Post L s g _ _ := (hbody _ _ _ _ hb).cache_l rfl
    exact ⟨(hp.1.except key).trans (keepsExcept_insert _ _ _), fun hs hc => ⟨fun _ hx => (nomatch hx),
      fun _ => ⟨cacheW_insert (hp.2 hs hc).1 (fun v' s' he => by cases he), Fwd.err _⟩⟩⟩
  | @grow _ g _ _ _ _ _ _ hb _ _ ih =>
    have hp : Post L s g _ _ := (hbody _ _ _ _ hb).cache_l rfl
    refine ⟨((hp.1.except key).trans (keepsExcept_insert _ _ _)).trans ih.1, fun hs hc => ?_⟩
    obtain ⟨hc1, hf⟩ := hp.2 hs hc
    obtain ⟨ho, hw⟩ := Fwd.ok_iff.1 hf
    obtain ⟨hch, hfin⟩ := ih.2 hs
      (cacheW_insert hc1 (fun v' s' he => by cases he; exact ⟨Nat.le_trans hkey ho, hw⟩))
    refine ⟨fun x hx => ?_, fun _ => hfin hf⟩
    rcases List.mem_cons.1 hx with rfl | hx
    · exact ⟨ho, hw⟩
    · exact hch x hx

theorem keeps_of_except_miss {g g' : Global} {key : String × Nat} (hmiss : g.lookup key = none)
    (h : KeepsExcept key g g') : Keeps g g' := by
  intro k x hx
  refine h k x ?_ hx
  intro hk
  subst hk
  rw [hmiss] at hx
  cases hx

theorem memoBody_inv {body : St → Global → Out Val} (hbody : ∀ s, Inv L s (body s)) (flags : RuleFlags)
    (name : String) (n : Nat) (s : St) : Inv L s (memoBody flags name body n s) := by
  intro g r g' h
  have hit : ∀ {cached ev}, g.lookup (name, s.off) = some cached → Post L s g cached (g.emit ev) := by
    intro cached ev hl
    refine ⟨Keeps.of_cache rfl, fun _ hc => ⟨hc.of_cache rfl, fun v s' he => ?_⟩⟩
    subst he
    exact hc _ _ _ hl
  cases memoBody_run h with
  | lrHit _ hl => exact hit hl
  | hit _ _ hl => exact hit hl
  | plain _ _ hb => exact hbody _ _ _ _ hb
  | lrGrow _ hmiss hr =>
    obtain ⟨hk, hc⟩ := hr.inv hbody (Nat.le_refl _)
    refine ⟨keeps_of_except_miss hmiss ((keepsExcept_insert _ _ _).trans hk), fun hs hw => ?_⟩
    exact (hc hs (cacheW_insert hw (fun v s' he => by cases he))).2 (Fwd.err _)
  | @miss _ g0 _ _ hmiss hx =>
    have hp : Post L s g r g0 := (hbody _ _ _ _ hx).cache_l rfl
    refine ⟨keeps_of_except_miss hmiss ((hp.1.except _).trans fun k y hk hy => by
      rw [missGlobal_lookup_ne r g0 hk]; exact hy), fun hs hw => ?_⟩
    obtain ⟨hc0, hf⟩ := hp.2 hs hw
    exact ⟨cacheW_iff.2 ((cacheW_iff.1 hc0).miss hf), hf⟩

theorem normalRule_inv (hrec : RInv L rec) (n : Nat) (r : Rule) (s : St) :
    Inv L s (normalRule env rec n r s) := by
  intro g res g' h
  obtain ⟨g0, hx, rfl⟩ := normalRule_eq_some h
  exact ((memoBody_inv (ruleBody_inv hrec r) _ _ _ _ _ _ _ hx).cache_l rfl).cache_r (traceResult_cache _ _)

theorem step_inv (hrec : RInv L rec) (n : Nat) : RInv L (step env rec n) :=
  ⟨(Inv.closed L).stepExpr hrec.expr hrec.rule n, (Inv.closed L).stepRule n
    (fun r s _ => normalRule_inv hrec n r s) ((Inv.fx L).charRule hrec.rule) (Inv.fx L).externRule⟩

end

theorem eval_inv (env : Env) (L : Nat) : ∀ n, RInv L (eval env n) :=
  eval_induction ⟨fun _ _ s => (Inv.closed L).stuck s, fun _ s => (Inv.closed L).stuck s⟩ fun _ n h => step_inv h n

end LR

/-! #### consequences for the real rule body: `C07` without side conditions on the body -/

/-- the real rule body never changes an existing cache entry -/
theorem ruleBody_keepsKey (env : Env) (n : Nat) (r : Rule) (key : String × Nat) (s : St) :
    KeepsKey (ruleBody env (eval env n) r) key s :=
  fun g res g' h x hx => (ruleBody_inv (L := 0) (eval_inv env 0 n) r s g res g' h).1 key x hx

/-- **C07, termination half, for the model of the generated code.**  Let `r` be a `@leftrec` rule,
    `s` a cursor into an input of length `L`, `g` a global state whose cached successes lie within that
    input (true for the fresh state of `parse_advanced` and preserved by every evaluation:
    `eval_inv`).  If the wrapper answers at all (its body evaluations, run with recursion fuel `n`,
    terminate), then it answers with loop fuel `remaining input + 2`: the grow loop evaluates the body
    at most `s.rest.length + 2` times. -/
theorem C07_terminates (env : Env) (n : Nat) (r : Rule) (hlr : r.flags.leftRecursive = true) {L : Nat}
    {s : St} {g : Global} (hs : Within L s) (hc : CacheW L g) {k : Nat} {x : Res Val × Global}
    (h : memoBody r.flags r.name (ruleBody env (eval env n) r) k s g = some x) :
    ∃ k0, k0 ≤ s.rest.length + 2 ∧
      ∀ k', k0 ≤ k' → memoBody r.flags r.name (ruleBody env (eval env n) r) k' s g = some x := by
  refine memoBody_lr_fuel hlr h fun hr y hy => ?_
  obtain ⟨h1, h2⟩ := ((hr.inv (ruleBody_inv (eval_inv env L n) r) (Nat.le_refl _)).2 hs
    (cacheW_insert hc (fun v s' he => by cases he))).1 y hy
  unfold Within at h2 hs
  exact ⟨h1, by omega⟩

/-- the same one level up (`parse_<rule>`): the third argument of `normalRule` is only loop fuel -/
theorem C07_terminates_rule (env : Env) (n : Nat) (r : Rule) (hlr : r.flags.leftRecursive = true) {L : Nat}
    {s : St} {g : Global} (hs : Within L s) (hc : CacheW L g) {k : Nat} {x : Res Val × Global}
    (h : normalRule env (eval env n) k r s g = some x) :
    ∃ k0, k0 ≤ s.rest.length + 2 ∧ ∀ k', k0 ≤ k' → normalRule env (eval env n) k' r s g = some x := by
  obtain ⟨res, g'⟩ := x
  obtain ⟨g1, hx, rfl⟩ := normalRule_eq_some h
  obtain ⟨k0, hk0, hk⟩ := C07_terminates env n r hlr hs
    (CacheW.of_cache (g' := g.emit (.traceStart r.name s.off)) rfl hc) hx
  exact ⟨k0, hk0, fun k' hk' => by simp only [normalRule, hk k' hk']⟩

/-- every state and cache entry produced by a parse lies within the input; results end at/after the
    start -/
theorem parseAdvanced_within (env : Env) (n : Nat) (rule : String) (inp : List UInt8) (u : Nat)
    {r : Res Val} {g' : Global} (h : parseAdvanced env n rule inp u = some (r, g')) :
    CacheW inp.length g' ∧ ∀ v s', r = .ok v s' → s'.off + s'.rest.length = inp.length := by
  have hs : Within inp.length (St.new inp) := by simp [Within, St.new]
  obtain ⟨hc, hf⟩ := ((eval_inv env inp.length n).rule rule _ _ _ _ h).2 hs (CacheW.init _ _)
  exact ⟨hc, fun v s' he => (hf v s' he).2⟩

/-! ### 5. non-vacuity: `@export @leftrec E = l:*E '+' r:Num | b:Num;  @string Num = {'0'..'9'}+;` -/

namespace LeftRecExample

def ruleE : Rule := ⟨[.export, .leftrec], "E",
  .choice [.seq [.field (some (.ident "l")) true "E", .lit false [.chr '+'],
                 .field (some (.ident "r")) false "Num"],
           .seq [.field (some (.ident "b")) false "Num"]]⟩
def ruleNum : Rule := ⟨[.string], "Num",
  .choice [.seq [.closure (.choice [.seq [.range (.chr '0') (.chr '9')]]) true]]⟩
def envE : Env := { g := ⟨[.rule ruleE, .rule ruleNum]⟩, settings := {}, hooks := default, nf := 10 }

/-- the bytes of `"1+2+3"` -/
def inp : List UInt8 := [49, 43, 50, 43, 51]

/-- end to end: the generated parser's model on `"1+2+3"` returns the tree nested to the left,
    consumes the whole input, and evaluated the body of `E` at offset 0 exactly 4 = m + 2 times
    (ghost event `bodyEval`) -/
example :
    (match parseAdvanced envE 50 "E" inp 0 with
     | some (.ok v s, g) =>
       v.render == "E { l: Some(E { l: Some(E { l: None, r: None, b: Some(S\"31\") }), r: Some(S\"32\"), b: None }), r: Some(S\"33\"), b: None }"
       && s.off == 5 && s.rest == []
       && (g.log.filter (fun e => match e with | .bodyEval "E" 0 => true | _ => false)).length == 4
     | _ => false) = true := by decide +kernel

/-- the same on `"1+2"` -/
example :
    (match parseAdvanced envE 50 "E" [49, 43, 50] 0 with
     | some (.ok v s, _) =>
       v.render == "E { l: Some(E { l: None, r: None, b: Some(S\"31\") }), r: Some(S\"32\"), b: None }"
       && s.off == 3
     | _ => false) = true := by decide +kernel

/-- a failing first iteration (`"+"`): the rule fails, and what is cached for `("E", 0)` afterwards is
    the body's error, not the `leftRecursionSentinel` seed -/
example :
    (match parseAdvanced envE 50 "E" [43] 0 with
     | some (.err e, g) =>
       (match g.lookup ("E", 0) with
        | some (.err e') => e' == e && e'.spec != .leftRecursionSentinel
        | _ => false)
     | _ => false) = true := by decide +kernel

/-- `@export @leftrec A = l:*A 'x';` (no base alternative): the body fails with the error it reads from
    the seed, so the error returned (and cached) carries `leftRecursionSentinel` – the sentinel entry is
    replaced by the body's result, but that result is the sentinel error itself -/
example :
    let a : Rule := ⟨[.export, .leftrec], "A",
      .choice [.seq [.field (some (.ident "l")) true "A", .lit false [.chr 'x']]]⟩
    let env : Env := { g := ⟨[.rule a]⟩, settings := {}, hooks := default, nf := 10 }
    (match parseAdvanced env 20 "A" [120] 0 with
     | some (.err e, g) =>
       e.spec == .leftRecursionSentinel &&
       (match g.lookup ("A", 0) with
        | some (.err e') => e' == e
        | _ => false)
     | _ => false) = true := by decide +kernel

/-- `BodyWithin` is satisfiable (any body built from the matchers; here: one byte) -/
example (s : St) : BodyWithin (fun s g => some (s.advance 1 Val.unit, g)) s := by
  intro g v ns g' h
  simp only [Option.some.injEq, Prod.mk.injEq] at h
  have := (IsMatcher.advance 1 Val.unit).fwd (L := s.off + s.rest.length) (s := s) rfl v ns h.1
  unfold Within at this
  omega

/-! The hypotheses of `C07_direct` hold for the *real* body of `E` (the model of the generated
    `E_impl::parse`, with recursion fuel 11) on `"1+2+3"`, with `m = 2` extensions. -/

def s0 : St := St.new inp
def b0E : Val := .node "E" [("l", .none), ("r", .none), ("b", .some (.str [49]))] none
/-- growth step `i` wraps the previous tree: `E { l: Some(Box(prev)), r: Some(<i-th number>), b: None }` -/
def extE (i : Nat) (v : Val) : Val :=
  .node "E" [("l", .some (.boxed v)), ("r", .some (.str [50 + i.toUInt8])), ("b", .none)] none
/-- the end states: after `1`, `1+2`, `1+2+3` -/
def stE (i : Nat) : St :=
  ⟨inp.drop (2 * i + 1), 2 * i + 1, some ⟨2 * i + 1, .expectedCharacterRange '0' '9'⟩⟩

theorem direct : DirectLeftRec (ruleBody envE (eval envE 11) ruleE) ("E", s0.off) s0
    (s0.reportError .leftRecursionSentinel) b0E extE stE 2 where
  base := fun _ => ⟨_, rfl⟩
  step := fun i hi g =>
    match i, hi with
    | 0, _ => ⟨_, rfl⟩
    | 1, _ => ⟨_, rfl⟩
  mono := fun i hi =>
    match i, hi with
    | 0, _ => by decide
    | 1, _ => by decide
  stop := fun _ => .inr ⟨_, _, _, rfl, by decide⟩

/-- hence, by `DirectLeftRec.parse` (not by evaluation): the parser returns `ext 1 (ext 0 b0)`, i.e.
    `E{l: E{l: E{b: "1"}, r: "2"}, r: "3"}`, ending at offset 5 -/
theorem parse_123 : ∃ g', parseAdvanced envE 12 "E" inp 0 =
    some (.ok (extE 1 (extE 0 b0E)) (stE 2), g') :=
  DirectLeftRec.parse (r := ruleE) rfl rfl direct (by decide)

/-- that tree, rendered -/
theorem render_123 : (extE 1 (extE 0 b0E)).render =
    "E { l: Some(E { l: Some(E { l: None, r: None, b: Some(S\"31\") }), r: Some(S\"32\"), b: None }), r: Some(S\"33\"), b: None }" := by
  decide +kernel

end LeftRecExample

end Peg
