import PegVerif.Syntax
/-
  `Rule.flags` in closed form: a flag is set iff the rule carries the directive.  `Rule.checks` sees the `@check`
  directives only.
-/
namespace Peg

theorem foldl_add (ds : List Directive) (f : RuleFlags) :
    ds.foldl RuleFlags.add f =
      { noSkipWs := f.noSkipWs || ds.contains .noSkipWs, exported := f.exported || ds.contains .export,
        string := f.string || ds.contains .string, position := f.position || ds.contains .position,
        memoize := f.memoize || ds.contains .memoize,
        leftRecursive := f.leftRecursive || ds.contains .leftrec } := by
  induction ds generalizing f with
  | nil => simp
  | cons d ds ih => rw [List.foldl_cons, ih]; cases d <;> simp [RuleFlags.add]

/-- a flag is set iff the rule has the directive -/
theorem Rule.flags_eq (r : Rule) :
    r.flags =
      { noSkipWs := r.directives.contains .noSkipWs, exported := r.directives.contains .export,
        string := r.directives.contains .string, position := r.directives.contains .position,
        memoize := r.directives.contains .memoize, leftRecursive := r.directives.contains .leftrec } := by
  unfold Rule.flags; rw [foldl_add]; rfl

/-- the `@check` list does not see the removal of directives of another kind -/
theorem Rule.checks_filter (r : Rule) {p : Directive → Bool} (hp : ∀ f, p (.check f) = true) :
    ({ r with directives := r.directives.filter p } : Rule).checks = r.checks := by
  unfold Rule.checks
  rw [List.filterMap_filter]
  congr 1
  funext d
  cases d <;> simp [hp]

end Peg
