import PegVerif.Proofs.RefineLR
import PegVerif.Proofs.EvalMono
import PegVerif.Proofs.Matchers
import PegVerif.Proofs.SpecLemmas
/-
  Completeness of the implementation model with respect to the reference semantics WITH left
  recursion (the converse of `eval_refLR`, RefineLR.lean): for a grammar of the class `LROk` and pure
  user functions, whenever `SpecLR.parse` answers, the model `parseAdvanced` answers too (with enough
  fuel), and its answer abstracts to the reference answer.  Hence the generated parser terminates
  with an answer exactly when the growth semantics does (`parse_terminates_iffLR`; `Props.C01_iff_leftrec`).

  GENERAL left recursion (direct, or indirect through ordinary rules: everything `LROk` admits), not
  only direct left recursion.

  Structure ("the model does not get stuck").  Model and reference spend their fuel in step: both
  evaluators descend one level per unfolding and start their loops (closure, grow loop) with the fuel
  as counter, and the model evaluates nothing the reference does not (a cache hit only saves work).
  So the statement is at EQUAL fuel.  `CompAt m rec` = `rec` is sound, and every evaluation that the reference evaluator
  `SpecLR.eval env u m σ` answers is answered by the model evaluator `rec` (`eval_compLR`: by `eval env m`) with a
  result that abstracts to the reference's and leaves the invariant,
  from every model state satisfying the invariant of RefineLR.lean (`PreLR`, `SafeH`) whose growing heads /
  planted seeds are compatible with `σ` (`Compat` – the "compatible σ" quantification of RefineLR.lean, used
  the other way round: GIVEN the model state and a compatible `σ` under which the reference answers; the
  three together are `At`).
  The lemmas of the traversal assume this of the recursive calls and conclude only THAT the node answers: the model
  goes where the reference went because each sub-run has the reference's outcome.  What the node's answer is, and
  that the invariant holds afterwards, is NOT proved again: once per unfolding of the evaluator (`eval_compLR`; in the grow loop once per body evaluation) it is
  taken from the soundness of the evaluator (`eval_refLR_rec`) applied to the run that was just shown to exist, plus
  determinism of the reference semantics (`sound`).
  One lemma per helper / construct, for any such `rec`; then induction on the fuel `m`.  That the answer at fuel `m` is
  the answer at every larger fuel is monotonicity of the model (`eval_mono`, EvalMono.lean), used
  where a statement speaks of every larger fuel (`parse_convergesLR`; the bridges of LeftRecShape.lean, which
  read a sequence of parts and a list of alternatives through `CompAt.seqAt`, `CompAt.altsAt`).

  The step particular to left recursion is the grow loop (`growLoop_a`): when `SpecLR.growLoop` runs
  `k` iterations from the seed `abs best`, `Peg.growLoop` – from a model state whose cache holds
  `best` under the key of the head – answers with the same loop counter; every body evaluation is
  answered by the induction hypothesis under `σ` extended with the current seed (`compat_grow`).
-/
namespace Peg
open Spec SpecLR

namespace CLR

/-! ## convergence of the model -/

/-- the fuel-indexed implementation computation `f` answers `(r', g')` for every large enough fuel -/
def Cv {α} (f : Nat → Out α) (r' : Res α) (g' : Global) : Prop :=
  ∃ n0, ∀ n, n0 ≤ n → f n = some (r', g')

/-- `f` answers (with one and the same answer) for every large enough fuel -/
def Ans {α} (f : Nat → Out α) : Prop := ∃ r' g', Cv f r' g'

theorem Ans.of_eq {α} {f f' : Nat → Out α} (h : Ans f) (he : ∀ n, f n = f' n) : Ans f' := by
  obtain ⟨r', g', n0, h0⟩ := h
  exact ⟨r', g', n0, fun n hn => (he n) ▸ h0 n hn⟩

/-! ## a node of the model answers -/

/-- a node that looks at the outcome of a sub-computation: the sub-computation answers whenever its
    reference counterpart does, with an answer that abstracts to the reference's and satisfies `Q`;
    each continuation answers whenever the reference's does -/
theorem caseR_a {α β} {sx : SOut α} {ok : α → St → SOut β} {err : SOut β} {r : Res β}
    {x : Out α} {fok : α → St → Global → Out β} {ferr : PErr → Global → Out β}
    {Q : Res α → Global → Prop} (h : caseS sx ok err = some r)
    (hx : ∀ rx, sx = some rx → ∃ r' g', x = some (r', g') ∧ abs r' = rx ∧ Q r' g')
    (hok : ∀ v s1 g1, x = some (.ok v s1, g1) → ok v (clr s1) = some r → Q (.ok v s1) g1 →
      (fok v s1 g1).isSome = true)
    (herr : ∀ e g1, err = some r → Q (.err e) g1 → (ferr e g1).isSome = true) :
    (caseR x fok ferr).isSome = true := by
  cases sx with
  | none => cases h
  | some rx =>
    obtain ⟨r', g1, rfl, rfl, hq⟩ := hx rx rfl
    cases r' with
    | ok v s1 => exact hok v s1 g1 rfl h hq
    | err e => exact herr e g1 h hq
    | panic m => rfl

theorem bindR_a {α β} {sx : SOut α} {k : α → St → SOut β} {r : Res β}
    {x : Out α} {fk : α → St → Global → Out β} {Q : Res α → Global → Prop}
    (h : bindS sx k = some r)
    (hx : ∀ rx, sx = some rx → ∃ r' g', x = some (r', g') ∧ abs r' = rx ∧ Q r' g')
    (hk : ∀ v s1 g1, x = some (.ok v s1, g1) → k v (clr s1) = some r → Q (.ok v s1) g1 →
      (fk v s1 g1).isSome = true) :
    (bindR x fk).isSome = true :=
  caseR_a h hx hk fun _ _ _ _ => rfl

/-- sequencing with a continuation that always answers (pure plumbing, `@check` calls) -/
theorem bindR_tot {α β} {x : Out α} {fk : α → St → Global → Out β}
    (hx : x.isSome = true) (hk : ∀ v s1 g1, (fk v s1 g1).isSome = true) :
    (bindR x fk).isSome = true := by
  obtain ⟨⟨r', g1⟩, rfl⟩ := Option.isSome_iff_exists.1 hx
  cases r' with
  | ok v s1 => exact hk v s1 g1
  | _ => rfl

/-- a computation that answers, and whose answer is one the reference reaches eventually
    (soundness): the answer abstracts to the reference answer `r` (the reference is deterministic) -/
theorem sound {α} {x : Out α} {F : Nat → SOut α} {r : Res α} {m : Nat}
    {Q : Res α → Global → Prop} (ha : x.isSome = true) (hF : F m = some r) (hdet : Det F)
    (hs : ∀ r' g', x = some (r', g') → Evt F (abs r') ∧ Q r' g') :
    ∃ r' g', x = some (r', g') ∧ abs r' = r ∧ Q r' g' := by
  obtain ⟨⟨r', g'⟩, rfl⟩ := Option.isSome_iff_exists.1 ha
  obtain ⟨hev, hq⟩ := hs r' g' rfl
  exact ⟨r', g', rfl, (hdet m r _ hF hev).symm, hq⟩

/-! ## the completeness statement -/

section
variable {env : Env} {u : Nat} {inp : List UInt8} {N : String → List String}

variable (u inp) in
/-- the edges between grammar positions, as the refinement traversal names them -/
theorem edges : (lrSys env u inp N []).Laws env u := lrSys_laws

variable (env u inp N) in
/-- the model state `(s, g)` with growing heads `H` and the seed environment `σ` stand at the position `P`:
    the invariant of RefineLR.lean holds, `P` is safe for the heads, `σ` is compatible with the state -/
structure At (H : Heads) (σ : Seeds) (s : St) (g : Global) (P : PosP) : Prop where
  pre : PreLR env u inp N H s g
  safe : SafeH H s.off P
  comp : Compat H σ g s.off P

theorem At.imp {H : Heads} {σ : Seeds} {s : St} {g : Global} {P P' : PosP} (h : At env u inp N H σ s g P)
    (himp : Imp P P') : At env u inp N H σ s g P' :=
  ⟨h.pre, h.safe.imp himp, h.comp.imp h.pre.le himp⟩

/-- after a sub-run that kept the frame of `lrSys`; `P'` follows from `P` in case no input was consumed -/
theorem At.next {H : Heads} {σ : Seeds} {s s1 : St} {g g1 : Global} {P P' : PosP}
    (h : At env u inp N H σ s g P) (hp1 : PreLR env u inp N H s1 g1)
    (hfr : s.off ≤ s1.off ∧ LR.Keeps g g1) (himp : s1.off = s.off → Imp P P') :
    At env u inp N H σ s1 g1 P' :=
  ⟨hp1, h.safe.next h.pre.le hfr.1 himp, h.comp.next hfr.2 h.pre.le hfr.1 himp⟩

/-- the same cursor, a global state with the same cache and user context -/
theorem At.of_cache {H : Heads} {σ : Seeds} {s : St} {g g0 : Global} {P P' : PosP}
    (h : At env u inp N H σ s g P) (hc : g0.cache = g.cache) (hu : g0.uctx = g.uctx) (himp : Imp P P') :
    At env u inp N H σ s g0 P' :=
  h.next (h.pre.of_cache hc hu) ⟨Nat.le_refl _, LR.Keeps.of_cache hc⟩ fun _ => himp

variable (env u inp N) in
/-- the model evaluator `rec` against the reference evaluator at fuel `m`: `rec` is sound (`ref`), and whatever the
    reference answers it answers, with a result that abstracts to the reference's and the postcondition of soundness,
    from every model state satisfying the invariant, at a position that is safe for the growing heads, under every
    seed environment compatible with the model state -/
structure CompAt (m : Nat) (rec : Rec) : Prop where
  ref : RefLR env u inp N rec
  expr : ∀ {H σ ctx e s g r}, (SpecLR.eval env u m σ).expr ctx e (clr s) = some r →
    At env u inp N H σ s g (fun Q md => ChkE env N Q md ctx.skipWs e) →
    ∃ r' g', rec.expr ctx e s g = some (r', g') ∧ abs r' = r ∧ (lrSys env u inp N H).Out s g r' g'
  rule : ∀ {H σ name s g r}, (SpecLR.eval env u m σ).rule name (clr s) = some r →
    At env u inp N H σ s g (fun Q md => ChkR env N Q md name) →
    ∃ r' g', rec.rule name s g = some (r', g') ∧ abs r' = r ∧ (lrSys env u inp N H).Out s g r' g'

section traversal
variable {m : Nat} {rec : Rec} (hc : CompAt env u inp N m rec)
include hc

/-! ## expression level -/

theorem withSkipWs_a {α} {ctx : Ctx} {H : Heads} {σ : Seeds} {s : St} {g : Global}
    {k : St → SOut α} {fk : St → Global → Out α} {r : Res α}
    {P : PosP} (h : Spec.withSkipWs (SpecLR.eval env u m σ) ctx (clr s) k = some r)
    (hat : At env u inp N H σ s g P)
    (himp : ctx.skipWs = true → Imp P (fun Q md => ChkR env N Q md "Whitespace"))
    (hk : ∀ s1 g1, k (clr s1) = some r → PreLR env u inp N H s1 g1 → s.off ≤ s1.off ∧ LR.Keeps g g1 →
      (fk s1 g1).isSome = true) :
    (Peg.withSkipWs rec ctx s g fk).isSome = true := by
  unfold Spec.withSkipWs at h
  unfold Peg.withSkipWs
  split at h
  · rename_i hs
    simp only [hs, if_true]
    exact bindR_a (fk := fun _ s' g' => fk s' g') (Q := (lrSys env u inp N H).Out s g) h
      (fun rx hx => hc.rule hx (hat.imp (himp hs))) fun v s1 g1 _ h hq => hk s1 g1 h hq.1 hq.2
  · rename_i hs
    simp only [hs]
    exact hk _ _ h hat.pre ⟨Nat.le_refl _, LR.Keeps.refl g⟩

theorem evalSeq_a {ctx : Ctx} {H : Heads} {σ : Seeds} :
    ∀ ps seen acc s g r, Spec.evalSeq env (SpecLR.eval env u m σ) ctx ps seen acc (clr s) = some r →
      At env u inp N H σ s g (fun Q md => ChkSeq env N Q md ctx.skipWs ps) →
      (evalSeq env rec ctx ps seen acc s g).isSome = true := by
  intro ps
  induction ps with
  | nil => exact fun _ _ _ _ _ _ _ => rfl
  | cons p ps ih =>
    intro seen acc s g r h hat
    simp only [Spec.evalSeq] at h
    simp only [evalSeq]
    refine bindR_a h (fun rx hx => hc.expr hx (hat.imp ((edges u inp).parts_head))) ?_
    intro v s1 g1 hx h hq
    -- a part that certainly consumes input ends the constraint on the rest
    have htail := (hc.ref.gref H).seqTail ctx p ps s g v s1 g1 hx hat.pre
    split at h
    · rename_i msg hm
      simp only [hm, Option.isSome_some]
    · rename_i seen' acc' hm
      simp only [hm]
      exact ih _ _ _ _ _ h (hat.next hq.1 hq.2 htail)

theorem evalAlts_a {ctx : Ctx} {fields} {H : Heads} {σ : Seeds} :
    ∀ as s g r, Spec.evalAlts env (SpecLR.eval env u m σ) ctx fields as (clr s) = some r →
      At env u inp N H σ s g (AltsP env N ctx.skipWs as) →
      (evalAlts env rec ctx fields as s g).isSome = true := by
  intro as
  induction as with
  | nil => exact fun _ _ _ _ _ => rfl
  | cons a as ih =>
    intro s g r h hat
    rw [Spec.evalAlts_step] at h
    rw [evalAlts_step]
    refine caseR_a h
      (fun rx hx => hc.expr hx (hat.imp ((edges u inp).alts_head)))
      (fun v _ _ _ _ _ => ?_) fun e g1 h hq => ?_
    · cases convertArm fields (ownFields env a) v <;> rfl
    · rw [← clr_recordError s e] at h
      exact ih _ _ _ h (hat.next (hat.pre.recErr hq.1.1 hq.1.2 e)
        ⟨Nat.le_of_eq (recordError_off s e).symm, hq.2⟩ fun _ => (edges u inp).alts_tail)

/-- what `CompAt.expr` says of an expression, for a sequence of parts and for a list of alternatives -/
theorem CompAt.seqAt {ctx : Ctx} {H : Heads} {σ : Seeds} {ps seen acc s g r}
    (h : Spec.evalSeq env (SpecLR.eval env u m σ) ctx ps seen acc (clr s) = some r)
    (hat : At env u inp N H σ s g (fun Q md => ChkSeq env N Q md ctx.skipWs ps)) :
    ∃ r' g', evalSeq env rec ctx ps seen acc s g = some (r', g') ∧ abs r' = r :=
  let ⟨r', g', hx, ha, _⟩ := sound (Q := fun _ _ => True) (evalSeq_a hc ps seen acc s g r h hat) h
    (.of_mono fun _ _ _ hm h => Spec.evalSeq_le (SpecLR.eval_mono env u hm σ) _ _ _ _ _ h)
    fun r' g' hx =>
      ⟨(evalSeq_gx lrSys_laws (hc.ref.gref H) ps seen acc s g r' g' hx hat.pre hat.safe).1.1 σ hat.comp, trivial⟩
  ⟨r', g', hx, ha⟩

theorem CompAt.altsAt {ctx : Ctx} {fields} {H : Heads} {σ : Seeds} {as s g r}
    (h : Spec.evalAlts env (SpecLR.eval env u m σ) ctx fields as (clr s) = some r)
    (hat : At env u inp N H σ s g (AltsP env N ctx.skipWs as)) :
    ∃ r' g', evalAlts env rec ctx fields as s g = some (r', g') ∧ abs r' = r :=
  let ⟨r', g', hx, ha, _⟩ := sound (Q := fun _ _ => True) (evalAlts_a hc as s g r h hat) h
    (.of_mono fun _ _ _ hm h => Spec.evalAlts_le (SpecLR.eval_mono env u hm σ) _ _ _ h)
    fun r' g' hx =>
      ⟨(evalAlts_gx lrSys_laws (hc.ref.gref H) as s g r' g' hx hat.pre hat.safe).1.1 σ hat.comp, trivial⟩
  ⟨r', g', hx, ha⟩

/-- the closure loop, with the loop counter of the reference -/
theorem evalLoop_a {ctx : Ctx} {b : Expr} {fields} {H : Heads} {σ : Seeds} :
    ∀ k iters acc s g r,
      Spec.evalLoop ((SpecLR.eval env u m σ).expr ctx b) fields k iters acc (clr s) = some r →
      At env u inp N H σ s g (fun Q md => ChkE env N Q md ctx.skipWs b) →
      (evalLoop (rec.expr ctx b) fields k iters acc s g).isSome = true := by
  intro k
  induction k with
  | zero => exact fun _ _ _ _ _ h => nomatch h
  | succ k ih =>
    intro iters acc s g r h hat
    rw [Spec.evalLoop_step] at h
    rw [evalLoop_step]
    refine caseR_a h (fun rx hx => hc.expr hx hat) (fun v s1 g1 _ h hq => ?_)
      fun _ _ _ _ => rfl
    cases hacc : extendAll fields acc v with
    | error msg => rfl
    | ok acc' =>
      simp only [hacc] at h
      exact ih _ _ _ _ _ h (hat.next hq.1 hq.2 fun _ => Imp.refl _)

/-- a sub-expression evaluated at the same cursor, at a position that follows from the current one -/
theorem CompAt.expr_imp {H : Heads} {σ : Seeds} {ctx : Ctx}
    {e : Expr} {s g r} {P : PosP} (himp : Imp P (fun Q md => ChkE env N Q md ctx.skipWs e))
    (h : (SpecLR.eval env u m σ).expr ctx e (clr s) = some r) (hat : At env u inp N H σ s g P) :
    (rec.expr ctx e s g).isSome = true :=
  let ⟨_, _, hx, _⟩ := hc.expr h (hat.imp himp)
  Option.isSome_of_eq_some hx

theorem stepExpr_a (m' : Nat) {H : Heads} {σ : Seeds} {ctx e s g r}
    (h : Spec.stepExpr env (SpecLR.eval env u m σ) m' ctx e (clr s) = some r)
    (hat : At env u inp N H σ s g (fun Q md => ChkE env N Q md ctx.skipWs e)) :
    (stepExpr env rec m' ctx e s g).isSome = true := by
  match hterm : terminalOf e with
  | some (.error msg) => exact Option.isSome_of_eq_some (stepExpr_terminal_error hterm s g)
  | some (.ok mt) =>
    rw [Spec.stepExpr_terminal hterm] at h
    rw [stepExpr_terminal hterm]
    exact withSkipWs_a hc h hat (fun hw => (edges u inp).terminal_ws hterm hw)
      fun _ _ _ _ _ => rfl
  | none =>
  cases e with
  | range | lit | eoi => simp [terminalOf] at hterm
  | choice alts =>
    match alts with
    | [] => rfl
    | [a] => exact hc.expr_imp (edges u inp).alts_head h (hat.imp (edges u inp).choice_alts)
    | a :: b :: rest => exact evalAlts_a hc _ _ _ _ h (hat.imp (edges u inp).choice_alts)
  | seq parts =>
    match parts with
    | [] => rfl
    | [a] => exact hc.expr_imp (edges u inp).parts_head h (hat.imp (edges u inp).seq_parts)
    | a :: b :: rest =>
      obtain ⟨rx, hx⟩ := bindS_some h
      refine bindR_tot (evalSeq_a hc _ _ _ _ _ _ hx (hat.imp (edges u inp).seq_parts)) ?_
      intro ⟨_, acc⟩ s1 g1
      dsimp only
      cases project (filterRuleFields ctx.ruleFields (ownFields env (.seq (a :: b :: rest)))) acc <;> rfl
  | group b => exact hc.expr_imp (edges u inp).group h hat
  | opt b =>
    rw [Spec.opt_step] at h
    rw [opt_step]
    refine caseR_a h (fun rx hx => hc.expr hx (hat.imp (edges u inp).opt))
      (fun _ _ _ _ _ _ => rfl) fun e g1 _ _ => ?_
    cases defaults (filterRuleFields ctx.ruleFields (ownFields env b)) <;> rfl
  | closure b plus =>
    simp only [Spec.stepExpr] at h
    simp only [stepExpr]
    cases hinit : closureInit (filterRuleFields ctx.ruleFields (ownFields env b)) with
    | error msg => rfl
    | ok init =>
      simp only [hinit] at h
      obtain ⟨rl, hl⟩ := bindS_some h
      refine bindR_tot (evalLoop_a hc _ _ _ _ _ _ hl (hat.imp (edges u inp).closure)) ?_
      intro ⟨iters, acc⟩ s1 g1
      dsimp only
      split <;> rfl
  | neg b =>
    rw [Spec.neg_step] at h
    rw [neg_step]
    exact caseR_a h (fun rx hx => hc.expr hx (hat.imp (edges u inp).neg))
      (fun _ _ _ _ _ _ => rfl) fun _ _ _ _ => rfl
  | pos b =>
    obtain ⟨rx, hx⟩ := bindS_some h
    exact bindR_tot (fk := fun _ _ g' => some (.ok [] s, g'))
      (hc.expr_imp (edges u inp).pos hx hat) fun _ _ _ => rfl
  | incl r0 =>
    simp only [Spec.stepExpr] at h
    simp only [stepExpr]
    split at h
    · rename_i hf
      simp only [hf, Option.isSome_some]
    · rename_i rule hf
      simp only [hf]
      exact hc.expr_imp ((edges u inp).incl hf) h hat
  | field name boxed typ =>
    refine withSkipWs_a hc h hat (fun hw => (edges u inp).field_ws hw) ?_
    intro s1 g1 h hp1 hfr1
    obtain ⟨rx, hx⟩ := bindS_some h
    obtain ⟨_, _, hx', _⟩ := hc.rule hx (hat.next hp1 hfr1 fun _ => (edges u inp).field_typ)
    refine bindR_tot (Option.isSome_of_eq_some hx') ?_
    intro v s2 g2
    cases name with
    | none => rfl
    | some nm =>
      dsimp only
      cases postprocessField ctx.ruleFields nm.key typ v <;> rfl

/-! ## rule level -/

omit hc in
/-- `@check` calls always answer -/
theorem runChecks_tot (env : Env) : ∀ fs v s g, (runChecks env fs v s g).isSome = true := by
  intro fs
  induction fs with
  | nil => exact fun _ _ _ => rfl
  | cons f fs ih =>
    intro v s g
    simp only [runChecks]
    split
    · rfl
    · exact ih _ _ _

theorem ruleBody_a {r0 : Rule} {H : Heads} {σ : Seeds} {s g r}
    (h : Spec.ruleBody env u (SpecLR.eval env u m σ) r0 (clr s) = some r)
    (hat : At env u inp N H σ s g (fun Q md => ChkE env N Q md (ruleW env r0) r0.definition)) :
    (ruleBody env rec r0 s g).isSome = true := by
  cases hf : getFields env.g env.nf r0.definition with
  | ok fields =>
    rw [Spec.ruleBody_eq hf] at h
    rw [ruleBody_eq hf]
    split at h
    · rename_i hmix
      rw [if_pos hmix]
      rfl
    · -- the definition is evaluated; what follows it always answers
      rename_i hmix
      rw [if_neg hmix]
      obtain ⟨rx, hx⟩ := bindS_some h
      refine bindR_tot (hc.expr_imp (Imp.refl _) hx hat) fun v s1 g1 => ?_
      cases ruleValue r0 fields s v s1 with
      | ok val => exact runChecks_tot env _ _ _ _
      | error msg => rfl
  | err | fuel => simp only [ruleBody, hf, Option.isSome_some]

/-! ### the grow loop -/

/-- **the grow loop.**  When `SpecLR.growLoop` answers from the seed `abs best` (under a seed environment
    `σ` the answer of `r0` at this offset cannot depend on: `Adm`), `Peg.growLoop` answers with the same loop
    counter, from every model state satisfying the invariant with the head `(r0.name, s.off)` growing and
    `best` planted in the cache: an iteration is a node like any other, its sub-run the body under `σ`
    extended by the current seed. -/
theorem growLoop_a (hp : PureHooks env.hooks) {name : String} {r0 : Rule} {H : Heads} {s : St} {σ : Seeds}
    (hfind : env.g.find name = some (.rule r0))
    (hself : ChkE env N r0.name true (ruleW env r0) r0.definition)
    (hothers : ∀ Q, (Q, s.off) ∈ H → ChkE env N Q false (ruleW env r0) r0.definition)
    (hσ : Adm env N σ name s.off) :
    ∀ k best g res,
      SpecLR.growLoop (fun seed =>
        Spec.ruleBody env u (SpecLR.eval env u m (((r0.name, s.off), seed) :: σ)) r0 (clr s)) k (abs best)
        = some res →
      PreLR env u inp N ((r0.name, s.off) :: H) s g → g.lookup (r0.name, s.off) = some best →
      (growLoop (ruleBody env rec r0) (r0.name, s.off) s k best g).isSome = true := by
  intro k
  induction k with
  | zero => exact fun _ _ _ h => nomatch h
  | succ k ih =>
    intro best g res h hpre hl
    rw [SpecLR.growLoop_step] at h
    rw [growLoop_step]
    have hcompat : Compat ((r0.name, s.off) :: H) (((r0.name, s.off), abs best) :: σ)
        (growPre (r0.name, s.off) g) s.off (fun Q md => ChkE env N Q md (ruleW env r0) r0.definition) :=
      compat_grow hfind hσ hself hothers hl
    refine caseR_a (Q := (lrSys env u inp N ((r0.name, s.off) :: H)).Out s (growPre (r0.name, s.off) g)) h
      (fun rb hb => sound (ruleBody_a (g := growPre (r0.name, s.off) g) hc hb
            ⟨hpre.of_cache rfl rfl, safeH_grow hself hothers, hcompat⟩)
          hb (.of_mono fun _ _ _ hm h => Spec.ruleBody_le (SpecLR.eval_mono env u hm _) h)
          fun _ _ hx =>
            have ⟨⟨⟨hev, hinv⟩, _⟩, hfr⟩ := growBody_gx (hc.ref.gref _) hc.ref.rinv hp hfind hself hothers hpre hl hx
            ⟨hev _ hσ, hinv, hfr⟩)
      (fun v ns gb _ h hinv => ?_) fun e gb _ _ => by cases best <;> rfl
    -- the same comparison with `best` on both sides; after an improvement the new seed is planted
    rw [SpecLR.improves_abs] at h
    split
    · rw [if_pos ‹_›] at h
      exact ih (.ok v ns) _ _ h (hpre.grown hinv.1 hinv.2.1) (LR.lookup_insert_self _ _ _)
    · rfl

/-! ### rules -/

omit hc in
/-- from the memoized body to the rule: trace events around it -/
theorem normalRule_of_memo {n : Nat} {r0 : Rule} {s : St} {g : Global}
    (h : (memoBody r0.flags r0.name (ruleBody env rec r0) n s
      (g.emit (.traceStart r0.name s.off))).isSome = true) :
    (normalRule env rec n r0 s g).isSome = true := by
  obtain ⟨⟨res, g1⟩, he⟩ := Option.isSome_iff_exists.1 h
  simp only [normalRule, he, Option.isSome_some]

/-- a normal rule: trace; `@leftrec` (seed / earlier answer from the cache, or the grow loop);
    `@memoize` (hit, or miss: run the body and insert); plain -/
theorem normalRule_a (hp : PureHooks env.hooks) (hok : LRHyp env N) {H : Heads} {σ : Seeds} {name : String} {r0 : Rule} {s g r}
    (hfind : env.g.find name = some (.rule r0))
    (h : SpecLR.stepRule env u (SpecLR.eval env u m) m σ name (clr s) = some r)
    (hat : At env u inp N H σ s g (fun Q md => ChkR env N Q md name)) :
    (normalRule env rec m r0 s g).isSome = true := by
  apply normalRule_of_memo
  rw [memoBody_step]
  split
  · -- @leftrec
    rename_i hlr
    split
    · rfl
    · rename_i hl
      obtain ⟨hself, hothers, hpre1, hgc⟩ := grow_start hok hfind hlr hat.pre hat.safe hl
      rw [specLR_stepRule_grow hfind hlr _ _ _ (clr s) ((hgc σ hat.comp).no_self hfind)] at h
      exact growLoop_a hc hp hfind hself hothers (hgc σ hat.comp) m
        (.err (s.reportError .leftRecursionSentinel)) _ r h hpre1 (LR.lookup_insert_self _ _ _)
  · -- not @leftrec
    rename_i hlr
    have hlr' : r0.flags.leftRecursive = false := by simpa using hlr
    rw [specLR_stepRule_plain hfind hlr'] at h
    have hbody : ∀ g0 : Global, g0.cache = g.cache → g0.uctx = g.uctx →
        (ruleBody env rec r0 s g0).isSome = true := fun g0 hc0 hu0 =>
      ruleBody_a hc h (hat.of_cache hc0 hu0 (imp_ruleBody hfind hlr'))
    split
    · split
      · rfl
      · obtain ⟨⟨res, g1⟩, hb⟩ := Option.isSome_iff_exists.1
          (hbody ((g.emit (.traceStart r0.name s.off)).emit (.bodyEval r0.name s.off)) rfl rfl)
        rw [hb]
        cases res <;> rfl
    · exact hbody _ rfl rfl

theorem charParts_a (name : String) {H : Heads} {σ : Seeds} :
    ∀ ps s g r, Spec.charParts (SpecLR.eval env u m σ) ps (clr s) = some r →
      At env u inp N H σ s g (PartsP env N ps) →
      (charParts rec name ps s g).isSome = true := by
  intro ps
  induction ps with
  | nil => exact fun _ _ _ _ _ => rfl
  | cons p ps ih =>
    intro s g r h hat
    rw [Spec.charParts_step] at h
    rw [charParts_step]
    have himp2 : Imp (PartsP env N (p :: ps)) (PartsP env N ps) :=
      (edges u inp).char_tail
    -- after a failing part the remaining parts run from the same cursor
    refine caseR_a (Q := fun r' g' => ∀ e, r' = .err e → At env u inp N H σ s g' (PartsP env N ps)) h ?_
      (fun _ _ _ _ _ _ => rfl) fun e g1 h hq => ih _ _ _ h (hq e rfl)
    -- a part that does not touch the global state
    have pureKey : ∀ rx0 : Res Val, ∃ r' g', some (rx0, g) = some (r', g') ∧ abs r' = abs rx0 ∧
        ∀ e, r' = .err e → At env u inp N H σ s g' (PartsP env N ps) :=
      fun rx0 => ⟨rx0, g, rfl, rfl, fun _ _ => hat.imp himp2⟩
    cases p with
    | chr item =>
      dsimp only
      cases item.toChar with
      | ok c =>
        rintro _ ⟨⟩
        rw [abs_map, (isMatcher_parseCharacterLiteral _).abs_clr, ← abs_map]
        exact pureKey _
      | _ => rintro _ ⟨⟩; exact pureKey (.panic _)
    | range lo hi =>
      dsimp only
      cases lo.toChar <;> cases hi.toChar <;> rintro _ ⟨⟩
      case ok.ok a b =>
        rw [abs_map, (isMatcher_parseCharacterRange _ _).abs_clr, ← abs_map]
        exact pureKey _
      all_goals exact pureKey (.panic _)
    | ident id =>
      intro rx hx
      obtain ⟨r', g1, hx', ha, hinv⟩ := hc.rule hx (hat.imp (edges u inp).char_head)
      exact ⟨r', g1, hx', ha, fun e he => by
        subst he
        exact hat.next (hat.pre.global hinv.1.1 hinv.1.2) ⟨Nat.le_refl _, hinv.2⟩ fun _ => himp2⟩

theorem stepRule_a (hp : PureHooks env.hooks) (hok : LRHyp env N) {H : Heads} {σ : Seeds} {name s g r}
    (h : SpecLR.stepRule env u (SpecLR.eval env u m) m σ name (clr s) = some r)
    (hat : At env u inp N H σ s g (fun Q md => ChkR env N Q md name)) :
    (stepRule env rec m name s g).isSome = true := by
  unfold stepRule
  cases hfind : env.g.find name with
  | none =>
    simp only
    split
    · rfl
    · split <;> rfl
  | some entry =>
    cases entry with
    | rule r0 =>
      simp only
      exact normalRule_a hc hp hok hfind h hat
    | charRule cr =>
      simp only
      have hother : ∀ r0, env.g.find name ≠ some (.rule r0) := fun r0 he => by rw [hfind] at he; cases he
      rw [specLR_stepRule_other hother] at h
      unfold Spec.stepRule at h
      rw [hfind] at h
      simp only at h
      have himp := imp_charRule (N := N) hfind
      unfold Spec.charRule at h
      unfold charRule
      split at h
      · rename_i hcnd
        simp only [if_pos hcnd]
        exact charParts_a hc _ _ _ _ _ h (hat.imp himp)
      · rename_i hcnd
        simp only [if_neg hcnd]
        simp only [clr_rest] at h
        split at h
        · rename_i hd
          simp only [hd, Option.isSome_some]
        · rename_i c hd
          simp only [hd]
          cases hcc : charChecks env cr.name cr.directives c s g with
          | mk o g1 =>
            obtain ⟨h1, h2, h3⟩ := charChecks_inv hcc
            cases o with
            | some e => rfl
            | none =>
              have hck : Spec.charChecksOk env cr.directives c = true := by simpa using h1.symm
              simp only [hck, if_true] at h
              exact charParts_a hc _ _ _ _ _ h (hat.of_cache h2 h3 himp)
    | externRule er =>
      simp only
      unfold externRule
      simp only
      cases (env.hooks.extern ("::".intercalate er.function) s.rest g.uctx).1 <;> rfl

end traversal

/-! ## the model `eval env m` -/

/-- **Completeness with left recursion, evaluator level**: every evaluation the reference semantics
    answers (at any fuel `m`, under any seed environment compatible with the model state) is
    answered by the model at the same fuel. -/
theorem eval_compLR (hp : PureHooks env.hooks) (hok : LRHyp env N) :
    ∀ m, CompAt env u inp N m (eval env m) := by
  intro m
  induction m with
  | zero => exact ⟨eval_refLR_rec hp hok 0, fun h => (nomatch h), fun h => (nomatch h)⟩
  | succ m ih =>
    have hrec := eval_refLR_rec (u := u) (inp := inp) hp hok (m + 1)
    exact ⟨hrec,
      fun {H σ ctx e s g r} h hat => sound (stepExpr_a ih m (e := e) h hat) h ((hrec.gref H).detE σ _ _ _)
        fun _ _ hx =>
          have hF := hrec.expr _ _ _ _ _ _ _ hx hat.pre hat.safe
          ⟨hF.evt hat.comp, hF.out⟩,
      fun {H σ name s g r} h hat => sound (stepRule_a ih hp hok h hat) h ((hrec.gref H).detR σ _ _)
        fun _ _ hx =>
          have hF := hrec.rule _ _ _ _ _ _ hx hat.pre hat.safe
          ⟨hF.evt hat.comp, hF.out⟩⟩

/-- a fresh global state, any cursor into the input -/
theorem preLR_fresh {s : St} (hw : WfSt inp s) (hwi : LR.Within inp.length s) :
    PreLR env u inp N [] s (Global.init u) :=
  ⟨hw, hwi, (preLR_init env u inp N).good, (preLR_init env u inp N).cw, fun k hk => by cases hk⟩

end
end CLR

/-! ## the theorems -/

open CLR in
/-- completeness at the entry point, from the class hypothesis in the form the induction uses: the model
    answers with the fuel with which the reference answers -/
theorem parse_completeLR_at (env : Env) (hp : PureHooks env.hooks) {N : String → List String}
    (hok : LRHyp env N) (rule : String) (inp : List UInt8) (u m : Nat) {r}
    (h : SpecLR.parse env u m rule inp = some r) :
    ∃ r' g', parseAdvanced env m rule inp u = some (r', g') ∧ abs r' = r := by
  obtain ⟨r', g', hx, ha, _⟩ := (eval_compLR (u := u) (inp := inp) hp hok m).rule (H := [])
    (σ := []) (name := rule) (s := St.new inp) (g := Global.init u) h
    ⟨preLR_init _ _ _ _, fun Q hq => (by cases hq), compat_init _ _ _⟩
  exact ⟨r', g', hx, ha⟩

/-- **Completeness with left recursion** (the converse of `eval_refLR`).  For a grammar in the class
    `LROk` and pure user functions: whenever the reference semantics with left recursion answers, the
    model of the generated parser answers too, with enough fuel, and its answer abstracts to the
    reference answer. -/
theorem parse_completeLR (env : Env) (hp : PureHooks env.hooks) (hok : LROk env.g env.settings)
    (rule : String) (inp : List UInt8) (u m : Nat) {r}
    (h : SpecLR.parse env u m rule inp = some r) :
    ∃ n r' g', parseAdvanced env n rule inp u = some (r', g') ∧ abs r' = r := by
  obtain ⟨r', g', hx, ha⟩ := parse_completeLR_at env hp (lrHyp_of_LROkF hok) rule inp u m h
  exact ⟨m, r', g', hx, ha⟩

/-- termination: the model answers (for some fuel) iff the reference semantics does -/
theorem parse_terminates_iffLR (env : Env) (hp : PureHooks env.hooks) (hok : LROk env.g env.settings)
    (rule : String) (inp : List UInt8) (u : Nat) :
    (∃ n, parseAdvanced env n rule inp u ≠ none) ↔ (∃ m, SpecLR.parse env u m rule inp ≠ none) := by
  simp only [Option.ne_none_iff_exists']
  constructor
  · rintro ⟨n, ⟨r', g'⟩, hx⟩
    obtain ⟨m, hm⟩ := eval_refLR env hp hok hx
    exact ⟨m, _, hm⟩
  · rintro ⟨m, r, hx⟩
    obtain ⟨n, r', g', hn, _⟩ := parse_completeLR env hp hok rule inp u m hx
    exact ⟨n, _, hn⟩

/-- … and once it answers it answers the same at every larger fuel (with `eval_mono`), so the model
    *converges* to the reference answer -/
theorem parse_convergesLR (env : Env) (hp : PureHooks env.hooks) (hok : LROk env.g env.settings)
    (rule : String) (inp : List UInt8) (u m : Nat) {r}
    (h : SpecLR.parse env u m rule inp = some r) :
    ∃ r' g' n0, (∀ n, n0 ≤ n → parseAdvanced env n rule inp u = some (r', g')) ∧ abs r' = r := by
  obtain ⟨r', g', hx, ha⟩ := parse_completeLR_at env hp (lrHyp_of_LROkF hok) rule inp u m h
  exact ⟨r', g', m, fun _ hn => (eval_mono env hn).rule _ _ _ _ hx, ha⟩

/-! ## non-vacuity -/

namespace CompleteLRExample
open LeftRecExample LRExample

/-- the hypotheses hold for `@export @leftrec E = l:*E '+' r:Num | b:Num; @string Num = {'0'..'9'}+;` -/
example : PureHooks envE.hooks ∧ LROk envE.g envE.settings := ⟨NV.pure_default, lrOk_envE⟩

/-- from the answer of the REFERENCE semantics on `"1+2+3"` (`specLR_123`) the theorem gives a run of
    the MODEL whose answer abstracts to it: all five bytes consumed -/
example : ∃ n v s' g', parseAdvanced envE n "E" inp 0 = some (.ok v s', g') ∧ s'.off = 5 := by
  obtain ⟨n, r', g', hn, hr⟩ := parse_completeLR envE NV.pure_default lrOk_envE "E" inp 0 12 specLR_123
  cases r' with
  | ok v s1 =>
    injection hr with _ hs
    exact ⟨n, v, s1, g', hn, congrArg St.off hs⟩
  | err e => cases hr
  | panic m => cases hr

/-- the calculator tower (two `@leftrec` rules, indirect recursion through `F`) and the indirect
    left recursion through an ordinary rule are instances too -/
example {inp : List UInt8} {m : Nat} {r} (h : SpecLR.parse calcEnv 0 m "E" inp = some r) :
    ∃ n r' g', parseAdvanced calcEnv n "E" inp 0 = some (r', g') ∧ abs r' = r :=
  parse_completeLR calcEnv NV.pure_default lrOk_calc "E" inp 0 m h

example {inp : List UInt8} {m : Nat} {r} (h : SpecLR.parse (ind []) 0 m "E" inp = some r) :
    ∃ n r' g', parseAdvanced (ind []) n "E" inp 0 = some (r', g') ∧ abs r' = r :=
  parse_completeLR (ind []) NV.pure_default lrOk_ind "E" inp 0 m h

end CompleteLRExample

end Peg
