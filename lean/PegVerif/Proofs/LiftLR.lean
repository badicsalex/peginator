import PegVerif.Proofs.RefineLR
import PegVerif.Proofs.Whitespace
import PegVerif.Proofs.NonVacuity
import PegVerif.Proofs.SpecLemmas
/-
  C14 (user check / extern functions) and C08 (whitespace desugaring) lifted from the plain reference
  semantics `Spec` / the class `NoLeftrec` to the reference semantics with left recursion `SpecLR` /
  the class `LROk`.

  A. C14: `C14_generated_code_refinesLR`, `C14_*LR`, the `@leftrec` + `@check` theorems.
  B. C08: `C08_desugar_exprLR`, `C08_desugar_grammarLR`.  Independent of A.
  C. whether `LROk` survives the desugaring: examples only (end of the file).
-/
namespace Peg
open Spec SpecLR WS

/-! ## A. C14 (user check / extern functions) for `SpecLR`

  ### A.0 the generated code refines `SpecLR` -/

/-- the avoid sets of the class `LROk` (the `N` of RefineLR.lean) -/
abbrev avoidN (env : Env) : String → List String :=
  fun Q => LRC.avoidSet env.g env.settings Q (LRC.fuel env.g)

/-- **C14, the generated code refines `SpecLR`** (the `LROk` version of
    `Props.C14_generated_code_refines`): no head is growing (`H = []`, `σ = []`). -/
theorem C14_generated_code_refinesLR (env : Env) (hp : PureHooks env.hooks)
    (hok : LROk env.g env.settings) (inp : List UInt8) (u n : Nat) (name : String) (s : St) (g : Global)
    {r g'} (hpre : PreLR env u inp (avoidN env) [] s g)
    (h : (eval env n).rule name s g = some (r, g')) :
    ∃ m, (SpecLR.eval env u m []).rule name (clr s) = some (abs r) :=
  (rule_evtLR env hp hok hpre h).exists

/-- … from the fresh state of `parse_advanced` (this is `eval_refLR`) -/
theorem C14_generated_code_refinesLR_fresh (env : Env) (hp : PureHooks env.hooks)
    (hok : LROk env.g env.settings) (inp : List UInt8) (u n : Nat) (name : String) {r g'}
    (h : parseAdvanced env n name inp u = some (r, g')) :
    ∃ m, SpecLR.parse env u m name inp = some (abs r) :=
  eval_refLR env hp hok h

/-- the fresh state satisfies the invariant -/
example (env : Env) (u : Nat) (inp : List UInt8) :
    PreLR env u inp (avoidN env) [] (St.new inp) (Global.init u) := preLR_init _ _ _ _

/-! ### A.1 rules that are not `@leftrec`: `SpecLR` is `Spec` with `SpecLR.eval env u n σ` as `rec` -/

/-- (i) at a name that is not a `@leftrec` rule, the rule level of `SpecLR` is that of `Spec` -/
theorem SpecLR.stepRule_of_not_leftrec {env : Env} {u : Nat} (rec : SRecLR) (n : Nat) (σ : Seeds)
    {name : String} (h : lrRule env name = none) :
    SpecLR.stepRule env u rec n σ name = Spec.stepRule env u (rec σ) name := by
  funext s
  unfold SpecLR.stepRule
  rw [h]

/-- the expression level of `SpecLR` is always that of `Spec` -/
theorem SpecLR.eval_succ_expr (env : Env) (u n : Nat) (σ : Seeds) :
    (SpecLR.eval env u (n+1) σ).expr = Spec.stepExpr env (SpecLR.eval env u n σ) n := rfl

/-- `C14_extern` for `SpecLR`: an `@extern` rule matches exactly when its function returns Ok, yields that
    value and consumes the returned number of bytes – under every seed environment -/
theorem C14_externLR (env : Env) (u n : Nat) (σ : Seeds) (name : String) (r : ExternRule) (s : St)
    (hf : env.g.find name = some (.externRule r)) :
    (SpecLR.eval env u (n+1) σ).rule name s =
      match (env.hooks.extern ("::".intercalate r.function) s.rest u).1 with
      | .ok (v, adv) => some (abs (s.advanceSafe adv v))
      | .error _ => some (.err noErr) := by
  show SpecLR.stepRule env u _ n σ name s = _
  rw [specLR_stepRule_other (fun r0 h0 => by rw [hf] at h0; cases h0)]
  simp only [Spec.stepRule, hf]
  exact Spec.externRule_eq env u r s

/-- `C14_char_checks` for `SpecLR` -/
theorem C14_char_checksLR (env : Env) (u n : Nat) (σ : Seeds) (name : String) (r : CharRule) (s : St)
    (hf : env.g.find name = some (.charRule r)) (hne : r.directives.isEmpty = false) :
    (SpecLR.eval env u (n+1) σ).rule name s =
      match decodeHead s.rest with
      | none => some (.err noErr)
      | some c =>
        if Spec.charChecksOk env r.directives c then Spec.charParts (SpecLR.eval env u n σ) r.choices s
        else some (.err noErr) := by
  show SpecLR.stepRule env u _ n σ name s = _
  rw [specLR_stepRule_other (fun r0 h0 => by rw [hf] at h0; cases h0)]
  simp only [Spec.stepRule, hf]
  exact Spec.charRule_checks env _ r s hne

/-- `C14_extern_after_skip` for `SpecLR` -/
theorem C14_extern_after_skipLR (env : Env) (u n : Nat) (σ : Seeds) (ctx : Ctx) (nm : Option FieldName)
    (bx : Bool) (typ : String) (s : St) (hs : ctx.skipWs = true) :
    (SpecLR.eval env u (n+1) σ).expr ctx (.field nm bx typ) s =
      bindS ((SpecLR.eval env u n σ).rule "Whitespace" s) (fun _ s1 =>
        bindS ((SpecLR.eval env u n σ).rule typ s1) fun v s' =>
          match nm with
          | none => some (.ok [] s')
          | some nm =>
            match postprocessField ctx.ruleFields nm.key typ v with
            | .ok fv => some (.ok [(nm.key, fv)] s')
            | .error m => some (.panic ("codegen: " ++ m))) :=
  Spec.stepExpr_field_skip env (SpecLR.eval env u n σ) n ctx nm bx typ s hs

/-! ### A.2 rules with `@check` functions: body first, then the checks -/

def Directive.isCheck : Directive → Bool
  | .check _ => true
  | _ => false

/-- the rule without its `@check` directives -/
def Rule.stripChecks (r : Rule) : Rule :=
  { r with directives := r.directives.filter (fun d => !d.isCheck) }

@[simp] theorem Rule.stripChecks_flags (r : Rule) : r.stripChecks.flags = r.flags := by
  unfold Rule.flags Rule.stripChecks
  rw [List.foldl_filter]
  congr 1
  funext f d
  cases d <;> rfl
@[simp] theorem Rule.stripChecks_name (r : Rule) : r.stripChecks.name = r.name := rfl
@[simp] theorem Rule.stripChecks_definition (r : Rule) : r.stripChecks.definition = r.definition := rfl
@[simp] theorem Rule.stripChecks_checks (r : Rule) : r.stripChecks.checks = [] :=
  List.filterMap_eq_nil_iff.2 fun d hd => by
    have := (List.mem_filter.1 hd).2
    cases d <;> first | rfl | cases this

theorem ruleShape_stripChecks (r : Rule) (fields : List FieldDesc) :
    ruleShape r.stripChecks fields = ruleShape r fields := by
  simp only [ruleShape, Rule.stripChecks_flags]

theorem ruleValue_stripChecks (r : Rule) (fields : List FieldDesc) :
    ruleValue r.stripChecks fields = ruleValue r fields := by
  funext s p s'
  simp only [ruleValue, ruleShape, stringVal, structVal, Rule.stripChecks_flags, Rule.stripChecks_name]

/-- **a rule with `@check` functions is the rule without them, followed by the checks** on the value
    it produced, at the state it reached (`Spec.runChecks_eq` says what `Spec.runChecks` is) -/
theorem Spec.ruleBody_stripChecks (env : Env) (u : Nat) (rec : SRec) (r : Rule) (s : St) :
    Spec.ruleBody env u rec r s =
      bindS (Spec.ruleBody env u rec r.stripChecks s) (fun v s' => Spec.runChecks env u r.checks v s') := by
  cases hf : getFields env.g env.nf r.definition with
  | err | fuel => simp only [Spec.ruleBody, Rule.stripChecks_definition, hf]; rfl
  | ok fields =>
    rw [Spec.ruleBody_eq hf, Spec.ruleBody_eq (r := r.stripChecks) hf, ruleValue_stripChecks, ruleShape_stripChecks]
    simp only [ruleCtx, Rule.stripChecks_flags, Rule.stripChecks_checks, Rule.stripChecks_definition]
    by_cases hm : ruleShape r fields = .mixed
    · simp only [hm, if_true]; rfl
    · simp only [hm, if_false, Spec.bindS_assoc]
      congr 1; funext p s'
      cases ruleValue r fields s p s' <;> rfl

theorem bindR_assoc {α β γ} (x : Out α) (k : α → St → Global → Out β) (k' : β → St → Global → Out γ) :
    bindR (bindR x k) k' = bindR x (fun v s g => bindR (k v s g) k') :=
  bindR_caseR x k _ k'

/-- the same factorisation in the model of the generated code -/
theorem ruleBody_stripChecks (env : Env) (rec : Rec) (r : Rule) (s : St) (g : Global) :
    ruleBody env rec r s g =
      bindR (ruleBody env rec r.stripChecks s g) (fun v s' g' => runChecks env r.checks v s' g') := by
  cases hf : getFields env.g env.nf r.definition with
  | err | fuel => simp only [ruleBody, Rule.stripChecks_definition, hf]; rfl
  | ok fields =>
    rw [ruleBody_eq hf, ruleBody_eq (r := r.stripChecks) hf, ruleValue_stripChecks, ruleShape_stripChecks]
    simp only [ruleCtx, Rule.stripChecks_flags, Rule.stripChecks_checks, Rule.stripChecks_definition]
    by_cases hm : ruleShape r fields = .mixed
    · simp only [hm, if_true]; rfl
    · simp only [hm, if_false, bindR_assoc]
      congr 1; funext p s' g'
      cases ruleValue r fields s p s' <;> rfl

/-- `C14_checks` for `SpecLR`, rule that is not `@leftrec`: the rule matches exactly when the rule
    without checks matches and every check returns true for the value it produced -/
theorem C14_checksLR (env : Env) (u n : Nat) (σ : Seeds) (name : String) (r : Rule) (s : St)
    (hf : env.g.find name = some (.rule r)) (hlr : r.flags.leftRecursive = false) :
    (SpecLR.eval env u (n+1) σ).rule name s =
      bindS (Spec.ruleBody env u (SpecLR.eval env u n σ) r.stripChecks s) (fun v s' =>
        if r.checks.all (fun f => (env.hooks.check ("::".intercalate f) v u).1) then some (.ok v s')
        else some (.err noErr)) := by
  show SpecLR.stepRule env u _ n σ name s = _
  simp only [specLR_stepRule_plain hf hlr, Spec.ruleBody_stripChecks env u _ r s, Spec.runChecks_eq]

/-! ### A.3 `@leftrec` rules with `@check` functions: the checks are INSIDE the grown body

  In the generated code `memoBody` (the cache / grow loop) wraps the closure `ruleBody`, and `ruleBody`
  ends with `runChecks`: the checks run at the end of every body evaluation, i.e. in every growth
  iteration, on the value of that iteration.  `SpecLR.stepRule` grows `Spec.ruleBody`, which also ends
  with `Spec.runChecks`: the same. -/

/-- (ii), reference semantics: the grow loop of a `@leftrec` rule iterates "body without checks, then
    the checks" -/
theorem C14_leftrec_checks_in_body {env : Env} {u : Nat} {name : String} {r : Rule}
    (hf : env.g.find name = some (.rule r)) (hlr : r.flags.leftRecursive = true)
    (rec : SRecLR) (n : Nat) (σ : Seeds) (s : St) (hseed : seedOf σ (r.name, s.off) = none) :
    SpecLR.stepRule env u rec n σ name s =
      SpecLR.growLoop (fun seed =>
        bindS (Spec.ruleBody env u (rec (((r.name, s.off), seed) :: σ)) r.stripChecks s)
          (fun v s' => Spec.runChecks env u r.checks v s')) n (.err noErr) := by
  rw [specLR_stepRule_grow hf hlr rec n σ s hseed]
  congr 1
  funext seed
  exact Spec.ruleBody_stripChecks env u _ r s

/-- (ii), model of the generated code: the same shape – the closure handed to the grow loop is "body
    without checks, then the checks" -/
theorem C14_leftrec_checks_in_body_model (env : Env) (rec : Rec) (n : Nat) (r : Rule) (s : St) (g : Global)
    (hlr : r.flags.leftRecursive = true) :
    memoBody r.flags r.name (ruleBody env rec r) n s g =
      match g.lookup (r.name, s.off) with
      | some cached => some (cached, g.emit (.info "Cache hit (left recursive)"))
      | none =>
        Peg.growLoop (fun s g => bindR (ruleBody env rec r.stripChecks s g)
            (fun v s' g' => runChecks env r.checks v s' g'))
          (r.name, s.off) s n (.err (s.reportError .leftRecursionSentinel))
          (g.insert (r.name, s.off) (.err (s.reportError .leftRecursionSentinel))) := by
  rw [← funext fun s => funext (ruleBody_stripChecks env rec r s)]
  cases hl : g.lookup (r.name, s.off) with
  | some cached => exact memoBody_lr_hit hlr hl
  | none => exact memoBody_lr_miss hlr hl

/-- consequence: **a check that rejects the value of an iteration ends the growth**; the answer is the
    previous seed (the rule fails if there is none: rejection in the first iteration) -/
theorem C14_leftrec_check_rejects (env : Env) (u : Nat) (B : Res Val → SOut Val) (fs : List (List String))
    (k : Nat) (best : Res Val) {v : Val} {ns : St} (hB : B best = some (.ok v ns))
    (hrej : fs.all (fun f => (env.hooks.check ("::".intercalate f) v u).1) = false) :
    SpecLR.growLoop (fun seed => bindS (B seed) (fun v s' => Spec.runChecks env u fs v s')) (k+1) best =
      some (match best with | .ok _ _ => best | _ => .err noErr) := by
  have hb : bindS (B best) (fun v s' => Spec.runChecks env u fs v s') = some (.err noErr) := by
    rw [hB]; simp only [bindS, Spec.runChecks_eq, hrej, Bool.false_eq_true, if_false]
  rw [SpecLR.growLoop_step, hb]
  cases best <;> rfl

/-- … and a value accepted by every check is an ordinary iteration result -/
theorem C14_leftrec_check_accepts (env : Env) (u : Nat) (B : Res Val → SOut Val) (fs : List (List String))
    (k : Nat) (best : Res Val) {v : Val} {ns : St} (hB : B best = some (.ok v ns))
    (hacc : fs.all (fun f => (env.hooks.check ("::".intercalate f) v u).1) = true) :
    SpecLR.growLoop (fun seed => bindS (B seed) (fun v s' => Spec.runChecks env u fs v s')) (k+1) best =
      (match best with
       | .ok _ bs =>
         if ns.isFurtherThan bs then
           SpecLR.growLoop (fun seed => bindS (B seed) (fun v s' => Spec.runChecks env u fs v s')) k (.ok v ns)
         else some best
       | _ => SpecLR.growLoop (fun seed => bindS (B seed) (fun v s' => Spec.runChecks env u fs v s')) k (.ok v ns)) := by
  have hb : bindS (B best) (fun v s' => Spec.runChecks env u fs v s') = some (.ok v ns) := by
    rw [hB]; simp only [bindS, Spec.runChecks_eq, hacc, if_true]
  rw [SpecLR.growLoop_step, hb]
  cases best <;> rfl

/-! ## B. whitespace desugaring for `SpecLR`

  `SpecLR.eval`, under every seed environment `σ`, is a family of evaluators whose expression level is
  `Spec.stepExpr` (`SpecLR.exprChain`), so the expression-level theorem and the induction on fuel of
  Whitespace.lean apply as they stand; the rule step with the grow loop, which evaluates the body under an
  extended `σ`, follows from the plain rule step (`SpecLR.stepRule_of_plain`).  `desugarG` keeps rule names and
  `@leftrec` flags (`lrRule_desugarEnv`), so the seed keys `(rule, offset)` correspond one to one: the *same* `σ`
  is used on both sides. -/

/-- `desugarG` changes neither the name nor the `@leftrec` flag of a rule: the `@leftrec` rule called
    `name` of the desugared grammar is the desugared `@leftrec` rule called `name` -/
theorem lrRule_desugarEnv (env : Env) (name : String) :
    lrRule (desugarEnv env) name = (lrRule env name).map desugarR :=
  SpecLR.lrRule_mapRules desugarR_name (fun r => by rw [desugarR_flags]) env name

/-- **C08, expression level, with left recursion.**  As `C08_desugar_expr`, for `SpecLR.eval` under any
    seed environment `σ`. -/
theorem C08_desugar_exprLR (env : Env) (u : Nat) (σ : Seeds) (e : Expr) (ctx : Ctx) (s : St) (r : Res Parsed)
    (hg : GoodE env.nf e) (hu : UniqueNames ctx.ruleFields) :
    (∃ n, (SpecLR.eval env u n σ).expr { ctx with skipWs := true } e s = some r) ↔
    (∃ m, (SpecLR.eval env u m σ).expr { ctx with skipWs := false } (desugarE e) s = some r) :=
  desugar_expr_chain (SpecLR.exprChain env u) σ e ctx s r hg hu

/-- both directions at once, for every seed environment (the seeds of the two sides are the same) -/
theorem C08_desugar_evalLR (env : Env) (u : Nat) (σ : Seeds) (rule : String) (s : St) (r : Res Val)
    (hskip : env.settings.skipWhitespace = true) (hG : GoodG env.nf env.g) :
    (∃ n, (SpecLR.eval env u n σ).rule rule s = some r) ↔
      (∃ m, (SpecLR.eval (desugarEnv env) u m σ).rule rule s = some r) := by
  have hl : ∀ name, (lrRule (desugarEnv env) name).map (·.name) = (lrRule env name).map (·.name) := fun name => by
    rw [lrRule_desugarEnv]
    cases lrRule env name <;> simp only [Option.map_none, Option.map_some, desugarR_name]
  constructor
  · rintro ⟨n, h⟩
    exact ⟨2 * n, (fwd_main (SpecLR.exprChain env u) (SpecLR.exprChain (desugarEnv env) u) rfl
      (fun n h1 h2 => SpecLR.stepRule_of_plain (by omega) (fun name => (hl name).symm)
        fun σ => stepRule_fwd hskip hG (h1 σ) (h2 σ)) n σ).2 _ _ _ h⟩
  · rintro ⟨m, h⟩
    exact ⟨m, (rev_main (SpecLR.exprChain env u) (SpecLR.exprChain (desugarEnv env) u) rfl
      (fun m h1 h2 => SpecLR.stepRule_of_plain (Nat.le_refl _) hl
        fun σ => stepRule_rev hskip hG (h1 σ) (h2 σ)) m σ).2 _ _ _ h⟩

/-- **C08, grammar level, with left recursion.**  The reference parser with left recursion of the
    desugared grammar (every skipping rule marked `@no_skip_ws`, an explicit `Whitespace` call in front
    of every token) answers exactly as that of the original grammar – same value, failure or panic –
    for every rule and every input, up to fuel.  Same hypotheses as `C08_desugar_grammar`; no
    hypothesis on the use of `@leftrec` (`LROk` is not needed: this is a statement about `SpecLR`). -/
theorem C08_desugar_grammarLR (env : Env) (u : Nat) (rule : String) (inp : List UInt8) (r : Res Val)
    (hskip : env.settings.skipWhitespace = true) (hG : GoodG env.nf env.g) :
    (∃ n, SpecLR.parse env u n rule inp = some r) ↔
      (∃ m, SpecLR.parse (desugarEnv env) u m rule inp = some r) :=
  C08_desugar_evalLR env u [] rule (St.new inp) r hskip hG

/-! ## non-vacuity and examples (all checked by the kernel) -/

namespace LiftLRExample
open Peg.NV

/-! ### A.3: a `@leftrec` rule with a `@check` function
    `@export @leftrec @check(shallow) E = l:*E '+' r:Num | b:Num;  @string Num = {'0'..'9'}+;`
    `shallow` accepts an `E` whose `l` is absent or is an `E` without `l` (at most one `+`). -/
def shallow (v : Val) : Bool :=
  match v with
  | .node _ fs _ =>
    (match Parsed.get fs "l" with
     | some (.some (.boxed (.node _ fs2 _))) =>
       (match Parsed.get fs2 "l" with | some (.some _) => false | _ => true)
     | _ => true)
  | _ => true
def hooksC : Hooks :=
  { extern := fun _ _ u => (.error "no such extern", u), check := fun f v u => (f != "shallow" || shallow v, u),
    charCheck := fun _ _ => true }
def ruleEC : Rule := ⟨[.export, .leftrec, .check ["shallow"]], "E", LeftRecExample.ruleE.definition⟩
def envC : Env :=
  { g := ⟨[.rule ruleEC, .rule LeftRecExample.ruleNum]⟩, settings := {}, hooks := hooksC, nf := 10 }
/-- `"1+2+3"` -/
def inp : List UInt8 := [49, 43, 50, 43, 51]

theorem pureC : PureHooks envC.hooks := ⟨fun _ _ _ => rfl, fun _ _ _ => rfl⟩
theorem lrokC : LROk envC.g envC.settings := by decide +kernel
example : ruleEC.checks = [["shallow"]] ∧ ruleEC.flags.leftRecursive = true ∧
    ruleEC.stripChecks.directives = [.export, .leftrec] := by decide +kernel

/-- the OTHER reading (NOT what peginator does): grow the body without the checks, then check the
    final value once -/
def checksOutside (env : Env) (u : Nat) (rec : SRecLR) (n : Nat) (σ : Seeds) (r : Rule) (s : St) : SOut Val :=
  bindS (SpecLR.growLoop
      (fun seed => Spec.ruleBody env u (rec (((r.name, s.off), seed) :: σ)) r.stripChecks s) n (.err noErr))
    (fun v s' => Spec.runChecks env u r.checks v s')

/-- **the checks are inside the loop.**  On `"1+2+3"`: the third iteration's value `(1+2)+3` is rejected by
    `shallow`, the growth stops, the answer is the seed `1+2` (3 bytes) – in the reference semantics AND
    in the model of the generated code, which called the check 3 times (once per iteration).  With the
    checks outside the loop the rule would grow to `(1+2)+3` and then fail altogether. -/
example :
    (match SpecLR.parse envC 0 20 "E" inp, parseAdvanced envC 20 "E" inp 0 with
     | some (.ok v s), some (.ok v' s', g) =>
       v.render == "E { l: Some(E { l: None, r: None, b: Some(S\"31\") }), r: Some(S\"32\"), b: None }"
       && v'.render == v.render && s.off == 3 && s'.off == 3
       && (g.log.filter (fun e => match e with | Ev.checkCall _ _ _ => true | _ => false)).length == 3
     | _, _ => false) = true ∧
    (match checksOutside envC 0 (SpecLR.eval envC 0 20) 20 [] ruleEC (St.new inp) with
     | some (.err _) => true
     | _ => false) = true := by
  decide +kernel

/-- `C14_leftrec_checks_in_body` at this rule -/
example (n : Nat) : SpecLR.parse envC 0 (n+1) "E" inp =
    SpecLR.growLoop (fun seed =>
      bindS (Spec.ruleBody envC 0 (SpecLR.eval envC 0 n [(("E", 0), seed)]) ruleEC.stripChecks (St.new inp))
        (fun v s' => Spec.runChecks envC 0 [["shallow"]] v s')) n (.err noErr) :=
  C14_leftrec_checks_in_body (env := envC) (name := "E") (r := ruleEC) rfl rfl (SpecLR.eval envC 0 n) n []
    (St.new inp) rfl

/-- `C14_generated_code_refinesLR` applied to the run of the model (from the fresh state, which
    satisfies the invariant) -/
theorem runC : ((eval envC 20).rule "E" (St.new inp) (Global.init 0)).isSome = true := by decide +kernel
example : ∃ m, (SpecLR.eval envC 0 m []).rule "E" (clr (St.new inp)) =
    some (abs (((eval envC 20).rule "E" (St.new inp) (Global.init 0)).get runC).1) :=
  C14_generated_code_refinesLR envC pureC lrokC inp 0 20 "E" (St.new inp) (Global.init 0)
    (preLR_init _ _ _ _) (run_eq runC)

/-! ### A.1/A.2: checks, a `@char` check and an extern in a grammar WITH a `@leftrec` rule
    `@export @leftrec E = l:*E '+' r:T | t:T;  T = n:Num | v:Vowel | x:Any;` and `Num`, `Vowel`, `Any`
    of Props/C14.lean (`@string @check(small) @check(m::odd) Num`, `@char @check(vowel) Vowel`,
    `@extern(any) Any`) -/
def ruleE2 : Rule := ⟨[.export, .leftrec], "E",
  .choice [.seq [.field (some (.ident "l")) true "E", lit '+', fld "r" "T"], .seq [fld "t" "T"]]⟩
open Peg.Props.C14_nv in
def envU2 : Env :=
  { g := ⟨[.rule ruleE2,
          .rule ⟨[], "T", .choice [.seq [fld "n" "Num"], .seq [fld "v" "Vowel"], .seq [fld "x" "Any"]]⟩,
          .rule (ruleNum numChecks), .charRule vowel, .externRule anyR]⟩,
    settings := {}, hooks := hooksU false, nf := 10 }

/-- `Props.C14_generated_code_refines` does not apply (`NoLeftrec` fails), the `LROk` version does -/
example : ¬ NoLeftrec envU2.g := fun h =>
  absurd (h ruleE2 (by simp [envU2])) (by decide +kernel)
theorem lrokU2 : LROk envU2.g envU2.settings := by decide +kernel
theorem pureU2 : PureHooks envU2.hooks := Props.C14_nv.hp

/-- `"1+a+?+2"`: `1` passes both checks of `Num`, `a` is a vowel, `?` is taken by the extern, `2` is
    rejected by `m::odd` and is not a vowel, so the extern takes it -/
def inpU : List UInt8 := [49, 43, 97, 43, 63, 43, 50]
theorem runU2_ok : ∃ v s g, parseAdvanced envU2 30 "E" inpU 0 = some (.ok v s, g) ∧ (s.off == 7) = true :=
  ok_of (fun _ s _ => s.off == 7) (by decide +kernel)
theorem runU2 : (parseAdvanced envU2 30 "E" inpU 0).isSome = true := by
  obtain ⟨_, _, _, h, _⟩ := runU2_ok
  rw [h]; rfl
example : ∃ m, SpecLR.parse envU2 0 m "E" inpU = some (abs ((parseAdvanced envU2 30 "E" inpU 0).get runU2).1) :=
  C14_generated_code_refinesLR_fresh envU2 pureU2 lrokU2 inpU 0 30 "E" (run_eq runU2)
example :
    (match parseAdvanced envU2 30 "E" inpU 0, SpecLR.parse envU2 0 30 "E" inpU with
     | some (.ok v s, _), some (.ok v' s') => v.render == v'.render && s.off == 7 && s'.off == 7
     | _, _ => false) = true := by
  obtain ⟨v, s, g, h, hk⟩ := runU2_ok
  rw [h, specLR_of_run envU2 pureU2 lrokU2 h (by decide +kernel)]
  simpa [clr] using hk

/-- `C14_externLR`, `C14_char_checksLR`, `C14_checksLR` under an arbitrary seed environment -/
example (n : Nat) (σ : Seeds) : (SpecLR.eval envU2 0 (n+1) σ).rule "Any" Props.C14_nv.s6 =
    some (abs (Props.C14_nv.s6.advanceSafe 1 (Val.ext "any" 63))) := by
  rw [C14_externLR envU2 0 n σ "Any" Props.C14_nv.anyR _ rfl]; rfl
example (n : Nat) (σ : Seeds) : (SpecLR.eval envU2 0 (n+1) σ).rule "Vowel" (St.new [98]) = some (.err noErr) := by
  rw [C14_char_checksLR envU2 0 n σ "Vowel" Props.C14_nv.vowel _ rfl rfl]; rfl
example (n : Nat) (σ : Seeds) (s : St) : (SpecLR.eval envU2 0 (n+1) σ).rule "Num" s =
    bindS (Spec.ruleBody envU2 0 (SpecLR.eval envU2 0 n σ) (ruleNum Props.C14_nv.numChecks).stripChecks s)
      (fun v s' => if [["small"], ["m", "odd"]].all (fun f => (envU2.hooks.check ("::".intercalate f) v 0).1)
        then some (.ok v s') else some (.err noErr)) :=
  C14_checksLR envU2 0 n σ "Num" (ruleNum Props.C14_nv.numChecks) s rfl rfl

/-! ### B: the desugaring of a left-recursive grammar
    `LeftRecExample.envE` (`@export @leftrec E = l:*E '+' r:Num | b:Num;`, skipping on) on `"1 + 2 + 3"` -/
open LeftRecExample in
theorem goodE : GoodG envE.nf envE.g := by
  intro r hr
  simp only [envE, List.mem_cons, RuleEntry.rule.injEq, List.mem_nil_iff, or_false] at hr
  rcases hr with rfl | rfl <;> exact ⟨by decide +kernel, by decide +kernel, by decide +kernel⟩

def inpWs : List UInt8 := [49, 32, 43, 32, 50, 32, 43, 32, 51]
open LeftRecExample in
theorem specE_some : (SpecLR.parse envE 0 20 "E" inpWs).isSome = true := by decide +kernel
open LeftRecExample in
example : ∃ m, SpecLR.parse (desugarEnv envE) 0 m "E" inpWs = some ((SpecLR.parse envE 0 20 "E" inpWs).get specE_some) :=
  (C08_desugar_grammarLR envE 0 "E" inpWs _ rfl goodE).mp ⟨20, (Option.some_get specE_some).symm⟩
open LeftRecExample in
/-- the two runs: the same left-nested tree, all 9 bytes; the desugared `E` is `@leftrec` as before (and
    `@no_skip_ws`): `lrRule` finds it under the same name, so the seed keys are the same -/
example :
    (match SpecLR.parse envE 0 20 "E" inpWs, SpecLR.parse (desugarEnv envE) 0 30 "E" inpWs with
     | some (.ok v s), some (.ok v' s') =>
       v.render == "E { l: Some(E { l: Some(E { l: None, r: None, b: Some(S\"31\") }), r: Some(S\"32\"), b: None }), r: Some(S\"33\"), b: None }"
       && v'.render == v.render && s.off == 9 && s'.off == 9
     | _, _ => false) = true ∧
    (lrRule (desugarEnv envE) "E").map (fun r => (r.name, r.flags.leftRecursive, r.flags.noSkipWs)) =
      some ("E", true, true) := by decide +kernel

/-! ### C: is `LROk` preserved by `desugarEnv`?

  NOT in general (counterexample below: it needs an include `>R` of a skipping rule into a
  `@no_skip_ws` rule – a construct for which the desugaring is not semantics-preserving either and
  which `GoodG` excludes).  For include-free grammars the walk of the desugared grammar visits the same
  rule references in the same modes (`Whitespace` first, then the token; `prog` only gets more
  permissive), so preservation is a matter of the analysis fuel `LRC.fuel`, which grows by 2 per
  token while a path needs 1 more per token; this is NOT proved here, only checked on examples. -/
open LeftRecExample in
example : LROk (desugarEnv envE).g (desugarEnv envE).settings := by decide +kernel
example : LROk (desugarEnv LRExample.calcEnv).g (desugarEnv LRExample.calcEnv).settings := by decide +kernel
example : LROk (desugarEnv envC).g (desugarEnv envC).settings := by decide +kernel
example : LROk (desugarEnv envU2).g (desugarEnv envU2).settings := by decide +kernel
/-- grammars outside the class stay outside -/
example : ¬ LROk (desugarEnv LRExample.mutEnv).g (desugarEnv LRExample.mutEnv).settings := by decide +kernel

/-- the counterexample:
    `@leftrec @no_skip_ws Q = >R | 'y';  R = 'a';  @memoize @no_skip_ws Whitespace = {' '} !Q;`
    In `Q` (no skipping) the included body `'a'` is walked without a `Whitespace` call; after the
    desugaring `R = Whitespace 'a'` and the include brings the call of the `@memoize` rule `Whitespace`
    (which can reach `Q` before consuming input, so it is not in the avoid set) into the body of `Q`. -/
def cexC : Env :=
  { g := ⟨[.rule ⟨[.leftrec, .noSkipWs], "Q", .choice [.seq [.incl "R"], .seq [lit 'y']]⟩,
          .rule ⟨[], "R", .choice [.seq [lit 'a']]⟩,
          .rule ⟨[.memoize, .noSkipWs], "Whitespace",
            .choice [.seq [.closure (.choice [.seq [lit ' ']]) false, .neg (.field none false "Q")]]⟩]⟩,
    settings := {}, hooks := default, nf := 10 }
example : LROk cexC.g cexC.settings ∧ ¬ LROk (desugarEnv cexC).g (desugarEnv cexC).settings := by decide +kernel

end LiftLRExample

end Peg
