import PegVerif.Proofs.SpecMono
/-
  Rule-wise edits of a grammar.

  A map of the normal rules that keeps their names commutes with the two lookups (`Grammar.find_mapRules`,
  `Grammar.findRule_map`).  An edit of the normal rules that keeps name, definition, `@check` list and the three
  flags `Spec.ruleBody` reads (`SameRef`: an edit of the other directives) is invisible to the field analysis and
  to the reference semantics (`getFields_mapRules`, `Spec.eval_mapRules`).
-/
namespace Peg
open Spec

def RuleEntry.mapRule (f : Rule → Rule) : RuleEntry → RuleEntry
  | .rule r => .rule (f r)
  | e => e

def Grammar.mapRules (f : Rule → Rule) (g : Grammar) : Grammar := ⟨g.rules.map (RuleEntry.mapRule f)⟩

def Env.mapRules (f : Rule → Rule) (env : Env) : Env := { env with g := env.g.mapRules f }

@[simp] theorem Env.mapRules_g (f : Rule → Rule) (env : Env) : (env.mapRules f).g = env.g.mapRules f := rfl
@[simp] theorem Env.mapRules_settings (f : Rule → Rule) (env : Env) : (env.mapRules f).settings = env.settings := rfl
@[simp] theorem Env.mapRules_nf (f : Rule → Rule) (env : Env) : (env.mapRules f).nf = env.nf := rfl

theorem Grammar.findRule_map (f : Rule → Rule) (hf : ∀ r, (f r).name = r.name) (g : Grammar) (n : String) :
    (g.mapRules f).findRule n = (g.findRule n).map f := by
  unfold Grammar.findRule Grammar.mapRules
  simp only
  generalize g.rules = l
  induction l with
  | nil => rfl
  | cons e l ih =>
    simp only [List.map_cons, List.findSome?_cons]
    cases e with
    | rule r =>
      simp only [RuleEntry.mapRule, hf]
      by_cases hn : (r.name == n) = true
      · simp only [hn, if_true, Option.map_some]
      · simp only [hn, Bool.false_eq_true, if_false]
        exact ih
    | charRule r => simp only [RuleEntry.mapRule]; exact ih
    | externRule r => simp only [RuleEntry.mapRule]; exact ih

theorem RuleEntry.mapRule_name {f : Rule → Rule} (hf : ∀ r, (f r).name = r.name) (e : RuleEntry) :
    (e.mapRule f).name = e.name := by
  cases e <;> simp [RuleEntry.mapRule, RuleEntry.name, hf]

theorem Grammar.find_mapRules {f : Rule → Rule} (hf : ∀ r, (f r).name = r.name) (g : Grammar) (n : String) :
    (g.mapRules f).find n = (g.find n).map (RuleEntry.mapRule f) := by
  unfold Grammar.find Grammar.mapRules
  simp only [List.find?_map]
  congr 2
  funext e
  simp only [Function.comp, RuleEntry.mapRule_name hf]

/-- `f` changes nothing the field analysis and the reference semantics look at -/
structure SameRef (f : Rule → Rule) : Prop where
  name : ∀ r, (f r).name = r.name
  definition : ∀ r, (f r).definition = r.definition
  checks : ∀ r, (f r).checks = r.checks
  noSkipWs : ∀ r, (f r).flags.noSkipWs = r.flags.noSkipWs
  string : ∀ r, (f r).flags.string = r.flags.string
  position : ∀ r, (f r).flags.position = r.flags.position

section
variable {f : Rule → Rule} (hf : SameRef f)
include hf

theorem getFields_mapRules (g : Grammar) : ∀ n, getFields (g.mapRules f) n = getFields g n := by
  intro n
  induction n with
  | zero => funext e; simp only [getFields]
  | succ n ih =>
    funext e
    cases e with
    | incl r =>
      simp only [getFields, Grammar.findRule_map f hf.name, ih]
      cases g.findRule r with
      | none => rfl
      | some rule => simp only [Option.map, hf.definition]
    | field name boxed typ => cases name <;> simp only [getFields]
    | _ => simp only [getFields, ih]

theorem ownFields_mapRules (env : Env) (e : Expr) : ownFields (env.mapRules f) e = ownFields env e := by
  simp only [ownFields, Env.mapRules_g, Env.mapRules_nf, getFields_mapRules hf]

namespace Spec

theorem stepExpr_mapRules (env : Env) (rec : SRec) (n : Nat) :
    stepExpr (env.mapRules f) rec n = stepExpr env rec n := by
  funext ctx e s
  cases e with
  | incl r =>
    simp only [stepExpr, Env.mapRules_g, Grammar.findRule_map f hf.name]
    cases env.g.findRule r <;> simp only [Option.map, hf.definition]
  | range | lit | eoi | field => rfl
  | _ =>
    exact eq_of_some_iff
      (fun _ => stepExpr_parts rfl (Nat.le_refl n) (fun x => ⟨ownFields_mapRules hf env x, fun _ _ h => h⟩) rfl)
      (fun _ => stepExpr_parts rfl (Nat.le_refl n) (fun x => ⟨(ownFields_mapRules hf env x).symm, fun _ _ h => h⟩) rfl)

theorem ruleBody_mapRules (env : Env) (u : Nat) (rec : SRec) (r : Rule) (s : St) :
    ruleBody (env.mapRules f) u rec (f r) s = ruleBody env u rec r s := by
  have hrc := runChecks_hooks (envA := env) (envB := env.mapRules f) rfl u
  simp only [ruleBody, Env.mapRules_g, Env.mapRules_nf, Env.mapRules_settings, getFields_mapRules hf, hrc,
    hf.definition, hf.name, hf.checks, hf.noSkipWs, hf.string, hf.position]

theorem stepRule_mapRules (env : Env) (u : Nat) (rec : SRec) :
    stepRule (env.mapRules f) u rec = stepRule env u rec := by
  funext name s
  simp only [stepRule, Env.mapRules_g, Grammar.find_mapRules hf.name]
  cases env.g.find name with
  | none => rfl
  | some e =>
    cases e with
    | rule r => exact ruleBody_mapRules hf env u rec r s
    | charRule r =>
      simp only [Option.map, RuleEntry.mapRule, charRule,
        charChecksOk_hooks (envA := env) (envB := env.mapRules f) rfl]
    | externRule r => rfl

/-- **the reference semantics does not see the edit** -/
theorem eval_mapRules (env : Env) (u : Nat) : ∀ n, Spec.eval (env.mapRules f) u n = Spec.eval env u n := by
  intro n
  induction n with
  | zero => rfl
  | succ n ih => simp only [eval, ih, step, stepExpr_mapRules hf, stepRule_mapRules hf]

end Spec
end
end Peg
