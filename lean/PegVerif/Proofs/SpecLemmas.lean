import PegVerif.Spec
/-
  What a caller can read off an answer of the combinators of the reference semantics (`abs`, `bindS`,
  `runChecks`): the inversions that the traversals of `Spec.stepExpr` / `Spec.stepRule` share; what `runChecks`,
  a `@char` rule with checks, an `@extern` rule and a rule reference after the whitespace skip are (property C14);
  and the shape of a normal rule, which model and reference share: the context of its body (`ruleCtx`), the value it
  builds (`ruleShape`, `ruleValue`), and the body of the reference in those terms (`Spec.ruleBody_shape`,
  `Spec.ruleBody_eq`; `ruleBody_eq` of Basics.lean is the model's).
-/
namespace Peg
namespace Spec

theorem abs_ok {α} {r : Res α} {v : α} {s' : St} (h : abs r = .ok v s') :
    ∃ s0, r = .ok v s0 ∧ clr s0 = s' := by
  cases r <;> cases h
  exact ⟨_, rfl, rfl⟩

theorem abs_map_ok {α β} {r : Res α} {f : α → β} {v : β} {s' : St} (h : abs (r.map f) = .ok v s') :
    ∃ v0 s0, r = .ok v0 s0 ∧ s'.rest = s0.rest ∧ v = f v0 := by
  cases r <;> cases h
  exact ⟨_, _, rfl, rfl, rfl⟩

/-- the reference semantics has no error payload -/
theorem abs_err {α} {x : Res α} {e : PErr} (h : abs x = .err e) : e = noErr ∧ ∃ e0, x = .err e0 := by
  cases x <;> cases h
  exact ⟨rfl, _, rfl⟩

theorem bindS_ok {α β} {x : SOut α} {k : α → St → SOut β} {v : β} {s' : St}
    (h : bindS x k = some (.ok v s')) : ∃ v0 s0, x = some (.ok v0 s0) ∧ k v0 s0 = some (.ok v s') := by
  cases x with
  | none => cases h
  | some a =>
    cases a with
    | ok v0 s0 => exact ⟨v0, s0, rfl, h⟩
    | err e => cases h
    | panic m => cases h

theorem bindS_some {α β} {x : SOut α} {k : α → St → SOut β} {r : Res β} (h : bindS x k = some r) :
    ∃ rx, x = some rx := by
  cases x with
  | none => cases h
  | some a => exact ⟨a, rfl⟩

theorem bindS_assoc {α β γ} (x : SOut α) (k : α → St → SOut β) (k' : β → St → SOut γ) :
    bindS (bindS x k) k' = bindS x fun a s => bindS (k a s) k' :=
  match x with
  | none | some (.ok _ _) | some (.err _) | some (.panic _) => rfl

/-- `runChecks` in closed form: the value passes when every `@check` function accepts it; value and cursor are untouched -/
theorem runChecks_eq (env : Env) (u : Nat) (fs : List (List String)) (v : Val) (s : St) :
    runChecks env u fs v s =
      if fs.all (fun f => (env.hooks.check ("::".intercalate f) v u).1) then some (.ok v s) else some (.err noErr) := by
  induction fs with
  | nil => simp [runChecks]
  | cons f fs ih =>
    simp only [runChecks, List.all_cons]
    by_cases hb : (env.hooks.check ("::".intercalate f) v u).1 = true
    · simp [hb, ih]
    · simp [hb]

/-- the `@check` functions leave the value and the cursor as the rule body left them -/
theorem runChecks_ok {env : Env} {u : Nat} (fs : List (List String)) {v v' : Val} {s s' : St}
    (h : runChecks env u fs v s = some (.ok v' s')) : v' = v ∧ s' = s := by
  rw [runChecks_eq] at h
  split at h <;> cases h
  exact ⟨rfl, rfl⟩

/-- a `@char` rule with checks: they see the next character and run before the alternatives -/
theorem charRule_checks (env : Env) (rec : SRec) (r : CharRule) (s : St) (hne : r.directives.isEmpty = false) :
    charRule env rec r s =
      match decodeHead s.rest with
      | none => some (.err noErr)
      | some c => if charChecksOk env r.directives c then charParts rec r.choices s else some (.err noErr) := by
  simp only [charRule, hne, Bool.false_eq_true, if_false]
  rfl

/-- an `@extern` rule: its function receives the remaining input and the user context; `Ok` gives the value and the
    number of bytes consumed -/
theorem externRule_eq (env : Env) (u : Nat) (r : ExternRule) (s : St) :
    externRule env u r s =
      match (env.hooks.extern ("::".intercalate r.function) s.rest u).1 with
      | .ok (v, adv) => some (abs (s.advanceSafe adv v))
      | .error _ => some (.err noErr) := rfl

/-- a rule reference in a skipping context: the rule is called with the state the skipper returned -/
theorem stepExpr_field_skip (env : Env) (rec : SRec) (n : Nat) (ctx : Ctx) (nm : Option FieldName) (bx : Bool)
    (typ : String) (s : St) (hs : ctx.skipWs = true) :
    stepExpr env rec n ctx (.field nm bx typ) s =
      bindS (rec.rule "Whitespace" s) (fun _ s1 =>
        bindS (rec.rule typ s1) fun v s' =>
          match nm with
          | none => some (.ok [] s')
          | some nm =>
            match postprocessField ctx.ruleFields nm.key typ v with
            | .ok fv => some (.ok [(nm.key, fv)] s')
            | .error m => some (.panic ("codegen: " ++ m))) := by
  simp only [stepExpr, withSkipWs, hs, if_true]
  rfl

/-- of the environment the `@check` functions see the hooks only -/
theorem runChecks_hooks {envA envB : Env} (hh : envB.hooks = envA.hooks) (u : Nat) :
    runChecks envB u = runChecks envA u := by
  funext cs
  induction cs with
  | nil => rfl
  | cons f fs ih => funext v s; simp only [runChecks, hh, ih]

theorem charChecksOk_hooks {envA envB : Env} (hh : envB.hooks = envA.hooks) : charChecksOk envB = charChecksOk envA := by
  funext ds
  induction ds with
  | nil => rfl
  | cons f fs ih => funext c; simp only [charChecksOk, hh, ih]

end Spec

/-! ### the shape of a normal rule: its body, then the value built from the body's result, then the checks -/

/-- the generation context of the body of rule `r` with declared fields `fields` -/
def ruleCtx (env : Env) (r : Rule) (fields : List FieldDesc) : Ctx :=
  { skipWs := env.settings.skipWhitespace && !r.flags.noSkipWs, ruleFields := fields }

/-- the three shapes of value a normal rule builds (and the one combination the generator
    rejects) -/
inductive RuleShape where
  /-- `@string`: the matched text -/
  | string
  /-- the only field is `@:…`: the rule's value is that field's value -/
  | override
  /-- a struct with the declared fields -/
  | struct
  /-- `@:` mixed with named fields: rejected -/
  | mixed
deriving DecidableEq, Repr

def ruleShape (r : Rule) (fields : List FieldDesc) : RuleShape :=
  if r.flags.string then .string
  else if fields.length == 1 && (fields.head?.map (·.name)) == some "_override" then .override
  else if hasField fields "_override" then .mixed
  else .struct

/-- the value of a `@string` rule that matched from `s` to `s'` -/
def stringVal (r : Rule) (s s' : St) : Val :=
  if r.flags.position then Val.node r.name [("string", Val.str (s.sliceUntil s'))] (some (s.off, s'.off))
  else Val.str (s.sliceUntil s')

/-- the value of a struct rule that matched from `s` to `s'` with field values `fs` -/
def structVal (r : Rule) (fs : Parsed) (s s' : St) : Val :=
  Val.node r.name fs (if r.flags.position then some (s.off, s'.off) else none)

/-- the value a normal rule builds from the result `p` of its definition, matched from `s` to `s'`, or the message of
    the panic of the generated code -/
def ruleValue (r : Rule) (fields : List FieldDesc) (s : St) (p : Parsed) (s' : St) : Except String Val :=
  match ruleShape r fields with
  | .string => .ok (stringVal r s s')
  | .override =>
    match p.get "_override" with
    | some v => .ok v
    | none => .error "codegen: override value missing"
  | .struct =>
    match project fields p with
    | .ok fs => .ok (structVal r fs s s')
    | .error m => .error ("codegen: " ++ m)
  | .mixed => .error "uncompilable: Mixing simple and override fields is not allowed."

theorem ruleValue_clr (r : Rule) (fields : List FieldDesc) (s : St) (p : Parsed) (s' : St) :
    ruleValue r fields (Spec.clr s) p (Spec.clr s') = ruleValue r fields s p s' := rfl

/-- a value: the matched text, the `_override` entry, or the struct of the projected fields -/
theorem ruleValue_ok_inv {r : Rule} {fields : List FieldDesc} {s s' : St} {p : Parsed} {v : Val}
    (h : ruleValue r fields s p s' = .ok v) :
    v = stringVal r s s' ∨ p.get "_override" = some v ∨
    ∃ fs, project fields p = .ok fs ∧ v = structVal r fs s s' := by
  unfold ruleValue at h
  split at h
  · cases h; exact .inl rfl
  · split at h <;> cases h
    exact .inr (.inl ‹_›)
  · split at h <;> cases h
    exact .inr (.inr ⟨_, ‹_›, rfl⟩)
  · cases h

namespace Spec

theorem ruleBody_shape {env : Env} {u : Nat} {rec : SRec} {r : Rule} {fields s}
    (hf : getFields env.g env.nf r.definition = .ok fields) :
    ruleBody env u rec r s =
      match ruleShape r fields with
      | .string =>
        bindS (rec.expr (ruleCtx env r fields) r.definition s) fun _ s' =>
          runChecks env u r.checks (stringVal r s s') s'
      | .override =>
        bindS (rec.expr (ruleCtx env r fields) r.definition s) fun p s' =>
          match p.get "_override" with
          | some v => runChecks env u r.checks v s'
          | none => some (.panic "codegen: override value missing")
      | .mixed => some (.panic "uncompilable: Mixing simple and override fields is not allowed.")
      | .struct =>
        bindS (rec.expr (ruleCtx env r fields) r.definition s) fun p s' =>
          match project fields p with
          | .ok fs => runChecks env u r.checks (structVal r fs s s') s'
          | .error m => some (.panic ("codegen: " ++ m)) := by
  unfold ruleBody ruleShape
  simp only [hf]
  split
  · rfl
  · split
    · rfl
    · split <;> rfl

/-- the same in one shape: one branch for a traversal to walk instead of three -/
theorem ruleBody_eq {env : Env} {u : Nat} {rec : SRec} {r : Rule} {fields s}
    (hf : getFields env.g env.nf r.definition = .ok fields) :
    ruleBody env u rec r s =
      if ruleShape r fields = .mixed then
        some (.panic "uncompilable: Mixing simple and override fields is not allowed.")
      else
        bindS (rec.expr (ruleCtx env r fields) r.definition s) fun p s' =>
          match ruleValue r fields s p s' with
          | .ok v => runChecks env u r.checks v s'
          | .error m => some (.panic m) := by
  rw [ruleBody_shape hf]
  simp only [ruleValue]
  cases ruleShape r fields with
  | string | mixed => rfl
  | override =>
    simp only [reduceCtorEq, if_false]
    congr 1; funext p s'
    cases p.get "_override" <;> rfl
  | struct =>
    simp only [reduceCtorEq, if_false]
    congr 1; funext p s'
    cases project fields p <;> rfl

end Spec
end Peg
