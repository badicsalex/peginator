import PegVerif.Eval
import PegVerif.Proofs.Basics
/-
  One traversal of the model evaluator for every predicate on computations that is closed under what its nodes do.
  `C s f` says that the computation `f : Global → Out α`, started at the cursor `s`, is good; what `C` assumes of `s`
  and of the global object is part of `C`.  `EvalClosed C` lists the closure properties the expression level needs
  (results, matcher calls, the node shape `caseR`, lookahead, `recordError`); `EvalFx C` adds what the calls of user
  functions do.  From them: every list helper, `stepExpr`, `ruleBody`, `charParts`, `charRule`, `runChecks`,
  `externRule` and the dispatch `stepRule`; an instance closes with `eval_induction`.  What a normal rule does around its
  body (tracing, `memoBody`) is where the invariants differ, and stays with each of them.
-/
namespace Peg

/-- what a node of the evaluator does with its sub-computations, as closure properties of `C` -/
structure EvalClosed (C : ∀ {α : Type}, St → (Global → Out α) → Prop) : Prop where
  stuck : ∀ {α} (s : St), C (α := α) s fun _ => none
  ok : ∀ {α} (v : α) (s : St), C s fun g => some (.ok v s, g)
  err : ∀ {α} (e : PErr) (s : St), C (α := α) s fun g => some (.err e, g)
  panic : ∀ {α} (m : String) (s : St), C (α := α) s fun g => some (.panic m, g)
  matcher : ∀ {α} {m : St → Res α}, IsMatcher m → ∀ s, C s fun g => some (m s, g)
  /-- a success goes on from where it ended, a failure from where the node started -/
  caseR : ∀ {α β} {s : St} {f : Global → Out α} {ok : α → St → Global → Out β} {err : PErr → Global → Out β},
    C s f → (∀ v s1, C s1 (ok v s1)) → (∀ e, C s (err e)) → C s fun g => caseR (f g) ok err
  /-- a lookahead returns to where it started; `caseR` above would judge its continuation where the sub-run ended -/
  look : ∀ {α β} {s : St} {f : Global → Out α}, C s f → ∀ v : β,
    C s fun g => bindR (f g) fun _ _ g' => some (.ok v s, g')
  /-- `caseR` judges the `err` branch at `s`, and the evaluator goes on from `s.recordError e` -/
  recErr : ∀ {α} {s : St} {e : PErr} {f : Global → Out α}, C (s.recordError e) f → C s f

namespace EvalClosed
variable {C : ∀ {α : Type}, St → (Global → Out α) → Prop} (hC : EvalClosed C)

include hC

theorem bind {α β} {s : St} {f : Global → Out α} {k : α → St → Global → Out β} (hf : C s f)
    (hk : ∀ v s1, C s1 (k v s1)) : C s fun g => bindR (f g) k :=
  hC.caseR hf hk fun e => hC.err e _

section
variable {env : Env} {rec : Rec} (hexpr : ∀ ctx e s, C s (rec.expr ctx e s)) (hrule : ∀ name s, C s (rec.rule name s))
include hrule

theorem withSkipWs {α} {ctx : Ctx} {s : St} {k : St → Global → Out α} (hk : ∀ s, C s (k s)) :
    C s fun g => withSkipWs rec ctx s g k := by
  unfold Peg.withSkipWs
  split
  · exact hC.bind (hrule _ _) fun _ s => hk s
  · exact hk s

theorem charParts (name : String) : ∀ ps s, C s (charParts rec name ps s)
  | [], _ => hC.err _ _
  | p :: ps, s => by
    refine congr_pred (charParts_step rec name p ps s) <| hC.caseR ?_ (fun _ _ => hC.ok _ _)
      fun _ => charParts name ps s
    cases p with
    | chr item =>
      dsimp only
      split
      · exact hC.matcher ((isMatcher_parseCharacterLiteral _).map _) s
      · exact hC.panic _ _
    | range lo hi =>
      dsimp only
      split
      · exact hC.matcher ((isMatcher_parseCharacterRange _ _).map _) s
      · exact hC.panic _ _
    | ident id => exact hrule id s

include hexpr

omit hrule in
theorem evalSeq {ctx : Ctx} : ∀ ps seen acc s, C s (evalSeq env rec ctx ps seen acc s)
  | [], _, _, _ => hC.ok _ _
  | p :: ps, seen, acc, s =>
    congr_pred (fun g => by rw [Peg.evalSeq]) <| hC.bind (hexpr ctx p s) fun r s' => by
      dsimp only
      split
      · exact hC.panic _ _
      · exact evalSeq ps _ _ _

omit hrule in
theorem evalAlts {ctx : Ctx} {fields} : ∀ as s, C s (evalAlts env rec ctx fields as s)
  | [], _ => hC.err _ _
  | a :: as, s =>
    congr_pred (evalAlts_step env ctx fields rec a as s) <| hC.caseR (hexpr ctx a s)
      (fun _ _ => by
        split
        · exact hC.ok _ _
        · exact hC.panic _ _)
      fun _ => hC.recErr (evalAlts as _)

omit hexpr hrule in
theorem evalLoop {body : St → Global → Out Parsed} (hbody : ∀ s, C s (body s)) {fields} :
    ∀ k iters acc s, C s (evalLoop body fields k iters acc s)
  | 0, _, _, _ => hC.stuck _
  | k+1, iters, acc, s =>
    congr_pred (evalLoop_step fields body k iters acc s) <| hC.caseR (hbody s)
      (fun _ _ => by
        split
        · exact evalLoop hbody k _ _ _
        · exact hC.panic _ _)
      fun _ => hC.recErr (hC.ok _ _)


theorem stepExpr (n : Nat) (ctx : Ctx) (e : Expr) (s : St) : C s (stepExpr env rec n ctx e s) := by
  match hterm : terminalOf e with
  | some (.ok m) =>
    exact congr_pred (stepExpr_terminal hterm s) <| hC.withSkipWs hrule fun s =>
      hC.matcher (isMatcher_of_terminalOf hterm) s
  | some (.error msg) => exact congr_pred (stepExpr_terminal_error hterm s) (hC.panic _ _)
  | none =>
    cases e with
    | range | lit | eoi => simp [terminalOf] at hterm
    | choice alts =>
      match alts with
      | [] => exact hC.panic _ _
      | [a] => exact hexpr ctx a s
      | a :: b :: rest => exact hC.evalAlts hexpr _ _
    | seq parts =>
      match parts with
      | [] => exact hC.ok _ _
      | [a] => exact hexpr ctx a s
      | a :: b :: rest =>
        refine hC.bind (hC.evalSeq hexpr _ _ _ _) fun v s' => ?_
        dsimp only
        split
        · exact hC.ok _ _
        · exact hC.panic _ _
    | group b => exact hexpr ctx b s
    | opt b =>
      refine congr_pred (opt_step env ctx rec n b s) <| hC.caseR (hexpr ctx b s) (fun _ _ => hC.ok _ _) fun e =>
        hC.recErr (e := e) ?_
      split
      · exact hC.ok _ _
      · exact hC.panic _ _
    | closure b plus =>
      show C s fun g => Peg.stepExpr env rec n ctx (.closure b plus) s g
      simp only [Peg.stepExpr]
      split
      · exact hC.panic _ _
      · exact hC.bind (hC.evalLoop (hexpr ctx b) _ _ _ _) fun _ _ => ite_pred (hC.err _ _) (hC.ok _ _)
    | neg b =>
      exact congr_pred (neg_step env ctx rec n b s) <| hC.caseR (hexpr ctx b s) (fun _ _ => hC.err _ _) fun _ =>
        hC.ok _ _
    | pos b => exact hC.look (hexpr ctx b s) _
    | incl r =>
      show C s fun g => Peg.stepExpr env rec n ctx (.incl r) s g
      simp only [Peg.stepExpr]
      split
      · exact hC.panic _ _
      · exact hexpr ctx _ s
    | field name boxed typ =>
      refine hC.withSkipWs hrule fun s => hC.bind (hrule typ s) fun v s' => ?_
      cases name with
      | none => exact hC.ok _ _
      | some nm =>
        dsimp only
        split
        · exact hC.ok _ _
        · exact hC.panic _ _

omit hrule in
/-- the body of a normal rule, given the `@check`s -/
theorem ruleBody (hchk : ∀ fs v s, C s (runChecks env fs v s)) (r : Rule) (s : St) : C s (ruleBody env rec r s) := by
  show C s fun g => Peg.ruleBody env rec r s g
  cases hf : getFields env.g env.nf r.definition with
  | ok fields =>
    simp only [ruleBody_eq hf]
    refine ite_pred (hC.panic _ _) (hC.bind (hexpr _ _ _) fun p s' => ?_)
    split
    · exact hchk _ _ _
    · exact hC.panic _ _
  | err | fuel => simp only [Peg.ruleBody, hf]; exact hC.panic _ _

omit hexpr hrule in
/-- a rule call, given the three kinds of rule -/
theorem stepRule (n : Nat) (hnormal : ∀ r s, env.g.find r.name = some (.rule r) → C s (normalRule env rec n r s))
    (hchar : ∀ r s, C s (charRule env rec r s)) (hextern : ∀ r s, C s (externRule env r s))
    (name : String) (s : St) : C s (stepRule env rec n name s) := by
  show C s fun g => Peg.stepRule env rec n name s g
  simp only [Peg.stepRule]
  split
  · next r hf => exact hnormal r s (by rw [find_rule_name hf]; exact hf)
  · exact hchar _ s
  · exact hextern _ s
  · exact ite_pred (hC.matcher (isMatcher_parseChar.map _) s)
      (ite_pred (hC.matcher (isMatcher_parseWhitespace.map _) s) (hC.panic _ _))

end

end EvalClosed

/-- the calls of user functions: what they log -/
def Ev.isCall : Ev → Bool
  | .externCall .. | .checkCall .. | .charCheckCall .. => true
  | _ => false

/-- closure under what the calls of user functions do to the global object: read the user context, replace it,
    log the call; and under the step an `@extern` rule takes -/
structure EvalFx (C : ∀ {α : Type}, St → (Global → Out α) → Prop) : Prop extends EvalClosed C where
  readUctx : ∀ {α} {s : St} {k : Nat → Global → Out α}, (∀ u, C s (k u)) → C s fun g => k g.uctx g
  setUctx : ∀ {α} {s : St} {f : Global → Out α} (u : Nat), C s f → C s fun g => f { g with uctx := u }
  call : ∀ {α} {s : St} {f : Global → Out α} {e : Ev}, e.isCall = true → C s f → C s fun g => f (g.emit e)
  advanceSafe : ∀ {α} (s : St) (n : Nat) (v : α), C s fun g => some (s.advanceSafe n v, g)

namespace EvalFx
variable {C : ∀ {α : Type}, St → (Global → Out α) → Prop} (hC : EvalFx C) {env : Env}
include hC

theorem runChecks : ∀ fs v s, C s (runChecks env fs v s)
  | [], _, _ => hC.ok _ _
  | f :: fs, v, s =>
    -- a `@check` reads the user context `u0`; the rest runs on the object with the new context and the call logged
    hC.readUctx (k := fun u0 g => (fun g => if !(env.hooks.check ("::".intercalate f) v u0).1
        then some (.err (s.reportError (.checkFunctionFailed ("::".intercalate f))), g) else Peg.runChecks env fs v s g)
      (({ g with uctx := (env.hooks.check ("::".intercalate f) v u0).2 } : Global).emit
        (.checkCall ("::".intercalate f) v.render u0))) fun _ =>
      hC.setUctx _ (hC.call rfl (ite_pred (hC.err _ _) (runChecks fs v s)))

theorem externRule (r : ExternRule) (s : St) : C s (externRule env r s) :=
  hC.readUctx (k := fun u0 g => (fun g => match (env.hooks.extern ("::".intercalate r.function) s.rest u0).1 with
      | .ok (v, adv) => some (s.advanceSafe adv v, g)
      | .error msg => some (.err (s.reportError (.externRuleFailed msg)), g))
    (({ g with uctx := (env.hooks.extern ("::".intercalate r.function) s.rest u0).2 } : Global).emit
      (.externCall ("::".intercalate r.function) s.off u0))) fun u0 =>
    hC.setUctx _ (hC.call rfl (f := fun g => match (env.hooks.extern ("::".intercalate r.function) s.rest u0).1 with
      | .ok (v, adv) => some (s.advanceSafe adv v, g)
      | .error msg => some (.err (s.reportError (.externRuleFailed msg)), g)) (by
      split
      · exact hC.advanceSafe _ _ _
      · exact hC.err _ _))

/-- whatever is done with the verdict of the `@check`s of a `@char` rule and the global object they leave -/
theorem charChecks {α} (name : String) {s : St} {K : Option PErr → Global → Out α} (hK : ∀ o, C s (K o)) :
    ∀ fs c, C s fun g => K (charChecks env name fs c s g).1 (charChecks env name fs c s g).2
  | [], _ => hK _
  | f :: fs, c =>
    hC.call (e := .charCheckCall ("::".intercalate f) c) rfl
      (f := fun g => if !env.hooks.charCheck ("::".intercalate f) c
        then K (some (s.reportError (.expectedCharacterClass name))) g
        else K (Peg.charChecks env name fs c s g).1 (Peg.charChecks env name fs c s g).2)
      (ite_pred (hK _) (charChecks name hK fs c)) |> congr_pred fun g => by
        simp only [Peg.charChecks]; split <;> rfl

theorem charRule {rec : Rec} (hrule : ∀ name s, C s (rec.rule name s)) (r : CharRule) (s : St) :
    C s (charRule env rec r s) := by
  have hparts := hC.toEvalClosed.charParts hrule r.name r.choices s
  show C s fun g => Peg.charRule env rec r s g
  simp only [Peg.charRule]
  refine ite_pred hparts ?_
  split
  · exact hC.err _ _
  · next c _ =>
    refine congr_pred (fun g => ?_) (hC.charChecks (env := env) r.name (K := fun o g' => match o with
        | some e => some (.err e, g')
        | none => Peg.charParts rec r.name r.choices s g') (fun o => ?_) r.directives c)
    · rcases Peg.charChecks env r.name r.directives c s g with ⟨_ | e, g'⟩ <;> rfl
    · cases o
      · exact hparts
      · exact hC.err _ _

end EvalFx

end Peg
