import PegVerif.Proofs.Flags
import PegVerif.Proofs.WfCheck
import PegVerif.FrontEnd
import PegVerif.Compile
/-
  C12 "grammar text is read into the structure its syntax denotes" and
  C17 "the bootstrapped grammar parser is what the generator produces from grammar.ebnf".

  1. escapes denote the documented characters (`Literal.lean` against a hex *printer*);
  2. directives: `Rule.flags` is a function of the *set* of directives, `Rule.checks` keeps the
     check directives in source order and ignores everything else;
  3. what `allRefsDefined` means, and facts about the rules of the extracted meta-grammar that the front
     end names, established by kernel evaluation so that they are re-checked whenever
     `Extracted/MetaGrammar.lean` is regenerated (its Bool checks are decided in TerminationMeta.lean);
  4. concrete end-to-end runs of the model front end.
  Nothing here needs more than the model files; conformance of the front end to the PEG reading of
  grammar.ebnf, which rests on the refinement theorems, is FrontEndConf.lean.
-/
namespace Peg
open Spec

/-! ## 1. Escapes -/

/-- printer: 0..15 ↦ '0'..'9','a'..'f' -/
def hexDigitChar (n : Nat) : Char :=
  if n < 10 then Char.ofNat (48 + n) else Char.ofNat (87 + n)

/-- printer: 0..15 ↦ '0'..'9','A'..'F' -/
def hexDigitCharUpper (n : Nat) : Char :=
  if n < 10 then Char.ofNat (48 + n) else Char.ofNat (55 + n)

/-- exactly `width` hex digits of `n` (most significant first; `n` is taken modulo `16^width`),
    each printed with `p` -/
def hexDigitsBy (p : Nat → Char) : Nat → Nat → List Char
  | 0, _ => []
  | w+1, n => p (n / 16 ^ w % 16) :: hexDigitsBy p w n

/-- exactly `width` lowercase hex digits of `n`, most significant first -/
def hexDigits (width n : Nat) : List Char := hexDigitsBy hexDigitChar width n

/-- the same in uppercase -/
def hexDigitsUpper (width n : Nat) : List Char := hexDigitsBy hexDigitCharUpper width n

theorem hexDigits_length (p : Nat → Char) (w n : Nat) : (hexDigitsBy p w n).length = w := by
  induction w with
  | zero => rfl
  | succ w ih => simp [hexDigitsBy, ih]

/-- a digit printer that `char::to_digit(16)` inverts -/
def GoodPrinter (p : Nat → Char) : Prop := ∀ d, d < 16 → hexVal (p d) = some d

theorem goodPrinter_lower : GoodPrinter hexDigitChar := by unfold GoodPrinter; decide +kernel
theorem goodPrinter_upper : GoodPrinter hexDigitCharUpper := by unfold GoodPrinter; decide +kernel

/-- the decoder's fold inverts the printer (general accumulator) -/
theorem hexFold_hexDigitsBy {p : Nat → Char} (hp : GoodPrinter p) (w n acc : Nat) :
    hexFold (hexDigitsBy p w n) acc = some (acc * 16 ^ w + n % 16 ^ w) := by
  induction w generalizing acc with
  | zero => simp [hexDigitsBy, hexFold, Nat.mod_one]
  | succ w ih =>
    simp only [hexDigitsBy, hexFold, hp _ (Nat.mod_lt _ (by omega)), ih]
    rw [Nat.mod_pow_succ, Nat.pow_succ]
    congr 1
    rw [Nat.add_mul, Nat.mul_assoc, Nat.mul_comm 16, Nat.mul_comm (n / 16 ^ w % 16)]
    omega

theorem hexFold_hexDigitsBy_zero {p : Nat → Char} (hp : GoodPrinter p) {w n : Nat} (h : n < 16 ^ w) :
    hexFold (hexDigitsBy p w n) 0 = some n := by
  rw [hexFold_hexDigitsBy hp, Nat.zero_mul, Nat.zero_add, Nat.mod_eq_of_lt h]

/-- `hexFold (hexDigits w n) 0 = some n` when `n < 16^w` -/
theorem hexFold_hexDigits {w n : Nat} (h : n < 16 ^ w) : hexFold (hexDigits w n) 0 = some n :=
  hexFold_hexDigitsBy_zero goodPrinter_lower h

theorem hexFold_hexDigitsUpper {w n : Nat} (h : n < 16 ^ w) : hexFold (hexDigitsUpper w n) 0 = some n :=
  hexFold_hexDigitsBy_zero goodPrinter_upper h

/-- `char::from_u32(c as u32) == Some(c)` -/
theorem charFromU32_toNat (c : Char) : charFromU32 c.toNat = some c := by
  unfold charFromU32
  have h : c.toNat.isValidChar := c.valid
  simp [h, Char.ofNat_toNat]

theorem char_toNat_lt (c : Char) : c.toNat < 0x110000 := by
  have h : c.toNat.isValidChar := c.valid
  unfold Nat.isValidChar at h
  omega

/-- `\xXX` (any digit printer the decoder inverts: lowercase, uppercase) -/
theorem hexa_escape_by {p : Nat → Char} (hp : GoodPrinter p) (c : Char) (h : c.toNat < 256) :
    (StringItem.hexa (p (c.toNat / 16)) (p (c.toNat % 16))).toChar = .ok c := by
  have h1 : c.toNat / 16 < 16 := by omega
  have h2 : c.toNat % 16 < 16 := by omega
  simp only [StringItem.toChar, hp _ h1, hp _ h2]
  have : (c.toNat / 16 * 16 + c.toNat % 16) % 256 = c.toNat := by omega
  rw [this, Char.ofNat_toNat]

/-- `\u{X…}`, `\uXXXX`, `\U00XXXXXX`, general form: any width that can hold `c` (no upper bound on
    the width is needed in the model; the grammar allows 1–6 digits) -/
theorem utf8_escape_by {p : Nat → Char} (hp : GoodPrinter p) (c : Char) {w : Nat}
    (h : c.toNat < 16 ^ w) : (StringItem.utf8 (hexDigitsBy p w c.toNat)).toChar = .ok c := by
  simp only [StringItem.toChar, hexFold_hexDigitsBy_zero hp h, charFromU32_toNat]

/-- `\u{X…}`, `\uXXXX`, `\U00XXXXXX` with uppercase digits -/
theorem utf8_escape_upper (c : Char) {w : Nat} (h : c.toNat < 16 ^ w) :
    (StringItem.utf8 (hexDigitsUpper w c.toNat)).toChar = .ok c :=
  utf8_escape_by goodPrinter_upper c h

theorem simple_escape_table :
    SimpleEsc.newline.toChar = Char.ofNat 10 ∧ SimpleEsc.cr.toChar = Char.ofNat 13 ∧
    SimpleEsc.tab.toChar = Char.ofNat 9 ∧ SimpleEsc.backslash.toChar = Char.ofNat 92 ∧
    SimpleEsc.quote.toChar = Char.ofNat 39 ∧ SimpleEsc.dquote.toChar = Char.ofNat 34 := by
  decide

theorem simple_escape_cases (e : SimpleEsc) :
    e.toChar = (match e with
      | .newline => '\n' | .cr => '\r' | .tab => '\t' | .backslash => '\\' | .quote => '\'' | .dquote => '"') := by
  cases e <;> rfl

/-- plain characters -/
theorem plain_char (c : Char) : (StringItem.chr c).toChar = .ok c := rfl

/-- rejection: surrogates and values beyond U+10FFFF -/
theorem utf8_escape_reject (ds : List Char) (n : Nat) (h : hexFold ds 0 = some n)
    (hbad : (0xD800 ≤ n ∧ n ≤ 0xDFFF) ∨ 0x110000 ≤ n) :
    (StringItem.utf8 ds).toChar = .err "Invalid utf-8 codepoint" := by
  have hv : ¬ n.isValidChar := by unfold Nat.isValidChar; omega
  simp only [StringItem.toChar, h, charFromU32, if_neg hv]

/-- the rejection is exact: a digit string is rejected iff its value is not a scalar value -/
theorem utf8_escape_ok_iff (ds : List Char) (n : Nat) (h : hexFold ds 0 = some n) :
    (∃ c, (StringItem.utf8 ds).toChar = .ok c) ↔ n.isValidChar := by
  simp only [StringItem.toChar, h, charFromU32]
  by_cases hv : n.isValidChar
  · simp [hv]
  · simp [hv]

example : (StringItem.utf8 ['d', '8', '0', '0']).toChar = .err "Invalid utf-8 codepoint" :=
  utf8_escape_reject _ 0xD800 (by decide) (by decide)
example : (StringItem.utf8 ['d', 'f', 'f', 'f']).toChar = .err "Invalid utf-8 codepoint" :=
  utf8_escape_reject _ 0xDFFF (by decide) (by decide)
example : (StringItem.utf8 ['1', '1', '0', '0', '0', '0']).toChar = .err "Invalid utf-8 codepoint" :=
  utf8_escape_reject _ 0x110000 (by decide) (by decide)
/-- the neighbours are accepted -/
example : (StringItem.utf8 ['d', '7', 'f', 'f']).toChar = .ok (Char.ofNat 0xD7FF) := by rfl
example : (StringItem.utf8 ['e', '0', '0', '0']).toChar = .ok (Char.ofNat 0xE000) := by rfl
example : (StringItem.utf8 ['1', '0', 'F', 'f', 'F', 'F']).toChar = .ok (Char.ofNat 0x10FFFF) := by
  rfl
/-- hypotheses of the escape theorems are satisfiable -/
example : (StringItem.hexa '4' '1').toChar = .ok 'A' :=
  hexa_escape_by goodPrinter_lower 'A' (by decide)
example : hexDigits 4 0x20AC = ['2', '0', 'a', 'c'] := by decide
example : hexDigitsUpper 6 0x1F600 = ['0', '1', 'F', '6', '0', '0'] := by decide

/-! ## 2. Directives -/

theorem contains_eq_of_mem_iff {ds ds' : List Directive} (h : ∀ d, d ∈ ds ↔ d ∈ ds') (d : Directive) :
    ds.contains d = ds'.contains d := by
  rw [Bool.eq_iff_iff]
  simp only [List.contains_iff_mem]
  exact h d

/-- `Rule.flags` is a function of the *set* of directives -/
theorem flags_eq_of_mem_iff (r : Rule) {ds ds' : List Directive} (h : ∀ d, d ∈ ds ↔ d ∈ ds') :
    ({ r with directives := ds } : Rule).flags = ({ r with directives := ds' } : Rule).flags := by
  simp only [Rule.flags_eq, contains_eq_of_mem_iff h]

/-- directives in any order -/
theorem flags_perm (r : Rule) {ds ds' : List Directive} (h : ds.Perm ds') :
    ({ r with directives := ds } : Rule).flags = ({ r with directives := ds' } : Rule).flags :=
  flags_eq_of_mem_iff r (fun _ => h.mem_iff)

/-- a directive that is already present anywhere changes nothing -/
theorem flags_dup_mem (r : Rule) (d : Directive) (ds : List Directive) (hd : d ∈ ds) :
    ({ r with directives := d :: ds } : Rule).flags = ({ r with directives := ds } : Rule).flags :=
  flags_eq_of_mem_iff r (fun x => by
    simp only [List.mem_cons]
    constructor
    · rintro (rfl | h)
      · exact hd
      · exact h
    · exact Or.inr)

/-- `@check` directives do not influence the flags -/
theorem flags_check (r : Rule) (f : List String) (xs ys : List Directive) :
    ({ r with directives := xs ++ .check f :: ys } : Rule).flags =
      ({ r with directives := xs ++ ys } : Rule).flags := by
  simp [Rule.flags_eq]

def Directive.isCheck : Directive → Bool
  | .check _ => true
  | .string | .noSkipWs | .export | .position | .memoize | .leftrec => false

theorem checks_append (r : Rule) (xs ys : List Directive) :
    ({ r with directives := xs ++ ys } : Rule).checks =
      ({ r with directives := xs } : Rule).checks ++ ({ r with directives := ys } : Rule).checks := by
  simp only [Rule.checks, List.filterMap_append]

/-- source order: the check written between `xs` and `ys` sits between their checks -/
theorem checks_cons_check (r : Rule) (f : List String) (xs ys : List Directive) :
    ({ r with directives := xs ++ .check f :: ys } : Rule).checks =
      ({ r with directives := xs } : Rule).checks ++ f :: ({ r with directives := ys } : Rule).checks := by
  simp only [Rule.checks, List.filterMap_append, List.filterMap_cons]

/-- the number and order of checks is that of the source -/
theorem checks_map (r : Rule) :
    r.checks.map Directive.check = r.directives.filter Directive.isCheck := by
  unfold Rule.checks
  induction r.directives with
  | nil => rfl
  | cons d l ih => cases d <;> simp [List.filter_cons, Directive.isCheck, ih]

/-- `Rule.checks` only sees the sub-list of check directives -/
theorem checks_eq_of_filter (r : Rule) {ds ds' : List Directive}
    (h : ds.filter Directive.isCheck = ds'.filter Directive.isCheck) :
    ({ r with directives := ds } : Rule).checks = ({ r with directives := ds' } : Rule).checks :=
  (List.map_inj_right fun _ _ e => Directive.check.inj e).mp
    ((checks_map { r with directives := ds }).trans (h.trans (checks_map { r with directives := ds' }).symm))

example : ({ directives := [.memoize, .check ["a"], .export, .check ["b"]], name := "R",
             definition := .eoi } : Rule).checks = [["a"], ["b"]] := by decide
example : ({ directives := [.memoize, .export], name := "R", definition := .eoi } : Rule).flags =
    ({ directives := [.export, .memoize, .export], name := "R", definition := .eoi } : Rule).flags := by
  decide

/-! ## 3. Facts about the extracted meta-grammar (re-checked by evaluation on every run) -/

/-- what `refsOk` checks, as a relation: `e` calls rule `x` (`incl = false`) / includes rule `x`
    (`incl = true`) somewhere inside -/
inductive Expr.Refers : Expr → Bool → String → Prop where
  | field (nm bx typ) : Expr.Refers (.field nm bx typ) false typ
  | incl (r) : Expr.Refers (.incl r) true r
  | choice {xs e k x} : e ∈ xs → Expr.Refers e k x → Expr.Refers (.choice xs) k x
  | seq {xs e k x} : e ∈ xs → Expr.Refers e k x → Expr.Refers (.seq xs) k x
  | group {b k x} : Expr.Refers b k x → Expr.Refers (.group b) k x
  | opt {b k x} : Expr.Refers b k x → Expr.Refers (.opt b) k x
  | closure {b p k x} : Expr.Refers b k x → Expr.Refers (.closure b p) k x
  | neg {b k x} : Expr.Refers b k x → Expr.Refers (.neg b) k x
  | pos {b k x} : Expr.Refers b k x → Expr.Refers (.pos b) k x

theorem refsOk_sound (g : Grammar) {e : Expr} {k : Bool} {x : String} (hr : Expr.Refers e k x) :
    ∀ n, refsOk g n e = true →
      if k then (g.findRule x).isSome = true else nameDefined g x = true := by
  induction hr with
  | field | incl => intro n h; cases n <;> simp_all [refsOk]
  | choice hm _ ih | seq hm _ ih =>
    intro n h
    cases n with
    | zero => simp [refsOk] at h
    | succ n => simp only [refsOk, List.all_eq_true] at h; exact ih n (h _ hm)
  | group _ ih | opt _ ih | closure _ ih | neg _ ih | pos _ ih =>
    intro n h
    cases n with
    | zero => simp [refsOk] at h
    | succ n => exact ih n (by simpa [refsOk] using h)

/-- meaning of the Bool check -/
theorem allRefsDefined_sound {g : Grammar} (h : allRefsDefined g = true) :
    (∀ r, RuleEntry.rule r ∈ g.rules → ∀ x,
      (Expr.Refers r.definition false x → (g.find x).isSome = true ∨ x = "char") ∧
      (Expr.Refers r.definition true x → (g.findRule x).isSome = true)) ∧
    (∀ r, RuleEntry.charRule r ∈ g.rules → ∀ x, CharRulePart.ident x ∈ r.choices →
      (g.find x).isSome = true ∨ x = "char") := by
  unfold allRefsDefined allRefsDefinedN at h
  rw [List.all_eq_true] at h
  constructor
  · intro r hr x
    have h1 := h _ hr
    simp only [entryRefsOk] at h1
    constructor
    · intro hx
      have := refsOk_sound g hx 64 h1
      simpa [nameDefined] using this
    · intro hx
      have := refsOk_sound g hx 64 h1
      simpa using this
  · intro r hr x hx
    have h1 := h _ hr
    simp only [entryRefsOk, List.all_eq_true] at h1
    have := h1 _ hx
    simpa [nameDefined] using this

/-- names of the exported rules, in source order -/
def exportedRules (g : Grammar) : List String :=
  g.rules.filterMap fun e => match e with
    | .rule r => if r.flags.exported then some r.name else none
    | _ => none

/-- the meta-grammar exports exactly `Grammar` -/
theorem metaGrammar_exports : exportedRules Extracted.metaGrammar = ["Grammar"] := by decide +kernel

/-- the entry point the front end calls is a defined, exported, normal rule -/
theorem metaGrammar_entry :
    (match Extracted.metaGrammar.find "Grammar" with
     | some (.rule r) => r.flags.exported
     | _ => false) = true := by decide +kernel

/-- custom whitespace (with comments): `Whitespace` is a defined `@no_skip_ws` normal rule … -/
theorem metaGrammar_whitespace :
    (match Extracted.metaGrammar.find "Whitespace" with
     | some (.rule r) => r.flags.noSkipWs
     | _ => false) = true := by decide +kernel

/-- … in the shape used by the other theorems -/
theorem metaGrammar_whitespace' :
    ∃ r, Extracted.metaGrammar.find "Whitespace" = some (.rule r) ∧ r.flags.noSkipWs = true := by
  have h := metaGrammar_whitespace
  split at h
  · rename_i r heq; exact ⟨r, heq, h⟩
  · cases h

/-- the rule names called (through fields) inside an expression -/
def calledIn : Nat → Expr → List String
  | 0, _ => []
  | n+1, e =>
    match e with
    | .choice xs => xs.flatMap (calledIn n)
    | .seq xs => xs.flatMap (calledIn n)
    | .group b => calledIn n b
    | .opt b => calledIn n b
    | .closure b _ => calledIn n b
    | .neg b => calledIn n b
    | .pos b => calledIn n b
    | .field _ _ typ => [typ]
    | _ => []

/-- … whose body calls only the rule `Comment` (besides literals), and `Comment` is a
    `@no_skip_ws` normal rule too that calls only the builtin `char`: no recursion through
    whitespace skipping.  (Tied to the current shape of grammar.ebnf on purpose: it fails, and
    must be revisited, if the whitespace rules of grammar.ebnf change.) -/
theorem metaGrammar_comment :
    (match Extracted.metaGrammar.find "Whitespace", Extracted.metaGrammar.find "Comment" with
     | some (.rule w), some (.rule c) =>
       c.flags.noSkipWs && calledIn 64 w.definition == ["Comment"] && calledIn 64 c.definition == ["char"]
     | _, _ => false) = true := by decide +kernel

example : allRefsDefined ⟨[.rule ⟨[], "A", .choice [.seq [.field none false "B"]]⟩]⟩ = false := by
  decide +kernel
example : allRefsDefined ⟨[.rule ⟨[], "A", .choice [.seq [.field none false "char"]]⟩]⟩ = true := by
  decide +kernel

/-! ## 4. Concrete end-to-end runs of the model front end -/

/-- the bytes of `A='\x41';` -/
def textHexa : List UInt8 := [65, 61, 39, 92, 120, 52, 49, 39, 59]

/-- one rule named `A` whose definition is a literal with one hexa escape item `\x41` -/
def isRuleAHexa41 : FrontEnd.Outcome → Bool
  | .grammar ⟨[.rule ⟨[], name, .choice [.seq [.lit false [.hexa c1 c2]]]⟩]⟩ =>
    name == "A" && c1 == '4' && c2 == '1'
  | _ => false

/-- the bytes of `@export A=B;` preceded by a comment line `#c` -/
def textExport : List UInt8 := [35, 99, 10, 64, 101, 120, 112, 111, 114, 116, 32, 65, 61, 66, 59]

def isExportAB : FrontEnd.Outcome → Bool
  | .grammar ⟨[.rule ⟨[.export], name, .choice [.seq [.field none false typ]]⟩]⟩ =>
    name == "A" && typ == "B"
  | _ => false

/-- the bytes of `A=` (no terminating `;`) -/
def textBad : List UInt8 := [65, 61]

def isParseError : FrontEnd.Outcome → Bool
  | .parseError _ => true
  | _ => false

/-- The runs on `textHexa` and `textBad`, decided in one evaluation (a good part of the kernel's work on a run is
    reading the meta-grammar, which it then does once); the error of the second is reported at offset 2, the end of
    the text.  The run on `textExport` is read off the reference run (FrontEndConf.lean). -/
theorem frontend_examples :
    isRuleAHexa41 (FrontEnd.parse 54 textHexa) = true ∧
    (match FrontEnd.parse 64 textBad with | .parseError e => e.pos == 2 | _ => false) = true := by
  decide +kernel

/-- `A='\x41';` parses to one rule named A whose definition is a literal with a hexa escape item -/
theorem frontend_example_hexa : isRuleAHexa41 (FrontEnd.parse 54 textHexa) = true := frontend_examples.1

/-- … which denotes the character `A` (item 1) -/
example : (StringItem.hexa '4' '1').toChar = .ok 'A' := hexa_escape_by goodPrinter_lower 'A' (by decide)

/-- a rule without the terminating `;` is a parse error (not a panic, not a grammar) -/
theorem frontend_example_error : isParseError (FrontEnd.parse 64 textBad) = true := by
  have h := frontend_examples.2
  revert h
  cases FrontEnd.parse 64 textBad <;> simp [isParseError]

end Peg
