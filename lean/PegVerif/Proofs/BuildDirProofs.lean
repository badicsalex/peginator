import PegVerif.BuildDir
import PegVerif.Proofs.BuildProofs
/-
  Property C18 in directory mode (model: `PegVerif/BuildDir.lean`), what the theorems `C18_dir_*` of Props/C18.lean rest
  on: an entry is answered `.ok _` or `.err`, and `.err` leaves the file as it was (`runEntry_cases`); one step of the walk
  and of its summary (`runDir_cons_*`, `dirResult_cons_*`); the walk by its result (`runDir_cases`, the one induction over
  the listing: success, failure and `C18_dir_ok_iff` are read off it); a second run of an entry directly after a
  successful one changes nothing (`runEntry_again`).
-/
namespace Peg
open Build

variable {k : Consts} {compile : List UInt8 → Option (List UInt8)}

theorem runEntry_cases (k : Consts) (compile : List UInt8 → Option (List UInt8)) (f : FS) :
    (∃ f' w, runEntry k compile f = (f', .ok w)) ∨ runEntry k compile f = (f, .err) := by
  unfold runEntry
  cases hg : f.grammar with
  | none => exact .inl ⟨f, false, rfl⟩
  | some g =>
    rcases runOnce_cases k compile f with hr | ⟨_, _, _, hr⟩ | ⟨_, _, _, _, hr⟩
    · exact .inr hr
    · exact .inl ⟨_, _, hr⟩
    · exact .inl ⟨_, _, hr⟩

theorem runEntry_some {f : FS} {g : List UInt8} (hg : f.grammar = some g) :
    runEntry k compile f = Build.step k compile f .run := by
  simp [runEntry, hg, Build.step]

theorem runEntry_mk_some {g p : List UInt8} {d : Option (List UInt8)} :
    runEntry k compile ⟨some g, d, p⟩ = runOnce k compile ⟨some g, d, p⟩ := rfl

theorem runDir_cons_ok {f f' : FS} {w : Bool}
    (h : runEntry k compile f = (f', .ok w)) (rest : List FS) :
    runDir k compile (f :: rest) = (f', .ok w) :: runDir k compile rest := by
  rw [runDir, h]

theorem runDir_cons_err {f f' : FS}
    (h : runEntry k compile f = (f', .err)) (rest : List FS) :
    runDir k compile (f :: rest) = (f', .err) :: rest.map (fun x => (x, Out.none)) := by
  rw [runDir, h]

theorem runDir_length (k : Consts) (compile : List UInt8 → Option (List UInt8)) (fs : List FS) :
    (runDir k compile fs).length = fs.length := by
  induction fs with
  | nil => rfl
  | cons f rest ih =>
    unfold runDir
    split <;> simp [ih]

theorem dirResult_cons_ok (f : FS) (w : Bool) (r : List (FS × Out)) :
    dirResult ((f, .ok w) :: r) = match dirResult r with | .ok w' => .ok (w || w') | o => o := by
  unfold dirResult
  by_cases h : r.any (fun e => e.2 == Out.err) = true
  · simp [h]
  · cases w <;> simp [h]

theorem dirResult_cons_err (f : FS) (r : List (FS × Out)) : dirResult ((f, .err) :: r) = .err := by
  simp [dirResult]

theorem dirResult_ne_none (r : List (FS × Out)) : dirResult r ≠ .none := by
  unfold dirResult; split <;> simp

/-- the walk by its result: every entry's own run succeeds and the walk is these runs, or the first entry whose run
    fails splits the listing – the entries before it got their own runs, it and those after it are as before -/
theorem runDir_cases (k : Consts) (compile : List UInt8 → Option (List UInt8)) (fs : List FS) :
    ((∃ w, dirResult (runDir k compile fs) = .ok w) ∧ runDir k compile fs = fs.map (runEntry k compile) ∧
      ∀ f ∈ fs, ∃ w', (runEntry k compile f).2 = .ok w') ∨
    (dirResult (runDir k compile fs) = .err ∧
      ∃ pre f post, fs = pre ++ f :: post ∧ (∀ x ∈ pre, ∃ w, (runEntry k compile x).2 = .ok w) ∧
        (runEntry k compile f).2 = .err ∧
        runDir k compile fs = pre.map (runEntry k compile) ++ (f, .err) :: post.map (fun x => (x, Out.none))) := by
  induction fs with
  | nil => exact .inl ⟨⟨false, rfl⟩, rfl, by simp⟩
  | cons f rest ih =>
    rcases runEntry_cases k compile f with ⟨f', w1, h1⟩ | h1
    · have hf : ∃ w, (runEntry k compile f).2 = .ok w := ⟨w1, by rw [h1]⟩
      rw [runDir_cons_ok h1, dirResult_cons_ok, List.map_cons, h1]
      rcases ih with ⟨⟨w2, hw⟩, e1, e2⟩ | ⟨he, pre, g, post, e1, e2, e3, e4⟩
      · exact .inl ⟨⟨w1 || w2, by rw [hw]⟩, by rw [e1], List.forall_mem_cons.mpr ⟨hf, e2⟩⟩
      · refine .inr ⟨by rw [he], f :: pre, g, post, by rw [e1]; rfl, List.forall_mem_cons.mpr ⟨hf, e2⟩, e3, ?_⟩
        rw [e4, List.map_cons, h1]; rfl
    · rw [runDir_cons_err h1]
      exact .inr ⟨dirResult_cons_err .., [], f, rest, rfl, by simp, by rw [h1], rfl⟩

/-- a second run of one entry directly after a successful one changes nothing -/
theorem runEntry_again {f f' : FS} {w : Bool}
    (h : runEntry k compile f = (f', .ok w)) : runEntry k compile f' = (f', .ok false) := by
  cases hg : f.grammar with
  | none =>
    have h' : runEntry k compile f = (f, .ok false) := by rw [runEntry, hg]
    rw [h'] at h; cases h; exact h'
  | some g =>
    rw [runEntry_some hg] at h
    obtain ⟨_, hg', _⟩ := runF_ok_upToDate (fmt := id) (format := false) keepsHeader_false h
    rw [runEntry_some hg']
    exact C18_untouched k compile f f' w h

end Peg
