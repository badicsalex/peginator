import PegVerif.Eval
import PegVerif.Proofs.Arity
import PegVerif.Proofs.Basics
import PegVerif.Proofs.Outcome
/-
  Property C03: the field plumbing of the generated parsers never goes wrong.

  Every `Except.error` of the helpers `postprocessField`, `mergePart`, `project`, `convertArm`,
  `defaults`, `closureInit`, `extendAll` (a generator panic or ill-typed generated Rust) becomes a
  `Res.panic ("codegen: " ++ msg)` in `stepExpr` / `ruleBody`.  We prove that for every expression
  accepted by the field analysis, evaluated in a context whose rule fields cover its own fields
  (`SubFields`), no such panic is ever produced, and that every successful result has exactly the
  declared shape (`Shaped`): one entry per (filtered) rule field, `Option`-shaped for `optional`
  fields, `Vec`-shaped for `multiple` fields.
-/
namespace Peg

def ShapeOk : Arity → Val → Prop
  | .one, _ => True
  | .optional, v => v = .none ∨ ∃ x, v = .some x
  | .multiple, v => ∃ l, v = .list l

/-- `p` has exactly one entry per field of `fields`, in that order, each of the declared shape -/
def Shaped (fields : List FieldDesc) (p : Parsed) : Prop :=
  p.map (·.1) = fields.map (·.name) ∧ ∀ f ∈ fields, ∃ v, p.get f.name = some v ∧ ShapeOk f.arity v

/-- the same, entry by entry; gives `Shaped` when the names are duplicate-free (`ShapedL.shaped`) -/
inductive ShapedL : List FieldDesc → Parsed → Prop
  | nil : ShapedL [] []
  | cons {f : FieldDesc} {v : Val} {fs : List FieldDesc} {p : Parsed} :
      ShapeOk f.arity v → ShapedL fs p → ShapedL (f :: fs) ((f.name, v) :: p)

theorem Parsed.get_nil (x : String) : Parsed.get [] x = none := rfl

theorem Parsed.get_cons (k : String) (v : Val) (p : Parsed) (x : String) :
    Parsed.get ((k, v) :: p) x = if k = x then some v else Parsed.get p x := by
  unfold Parsed.get
  by_cases h : k = x <;> simp [h]

theorem Parsed.any_key (p : Parsed) (n : String) : p.any (·.1 == n) = (p.get n).isSome := by
  induction p with
  | nil => rfl
  | cons kv p ih => rw [List.any_cons, ih, Parsed.get_cons]; by_cases h : kv.1 = n <;> simp [h]

theorem Parsed.get_append (p q : Parsed) (m : String) :
    Parsed.get (p ++ q) m = (p.get m).or (q.get m) := by
  unfold Parsed.get
  rw [List.find?_append]
  cases p.find? (·.1 == m) <;> rfl

theorem Parsed.get_map_set (p : Parsed) (n : String) (v : Val) (m : String) :
    Parsed.get (p.map fun kv => if kv.1 == n then (n, v) else kv) m =
      if n = m then (p.get m).map fun _ => v else p.get m := by
  induction p with
  | nil => split <;> rfl
  | cons kv p ih =>
    obtain ⟨k, w⟩ := kv
    rw [List.map_cons, Parsed.get_cons k]
    by_cases hk : k = n
    · subst hk
      rw [beq_self_eq_true, if_pos rfl, Parsed.get_cons, ih]
      by_cases hm : k = m
      · simp only [if_pos hm, Option.map_some]
      · simp only [if_neg hm]
    · rw [if_neg (by simpa using hk), Parsed.get_cons, ih]
      by_cases hm : n = m
      · subst hm; simp only [if_neg hk, if_true]
      · simp only [if_neg hm]

theorem Parsed.get_set (p : Parsed) (n : String) (v : Val) (m : String) :
    (p.set n v).get m = if n = m then some v else p.get m := by
  unfold Parsed.set
  rw [Parsed.any_key]
  split
  · rename_i h
    rw [Parsed.get_map_set]
    split
    · subst_vars; obtain ⟨w, hw⟩ := Option.isSome_iff_exists.mp h; rw [hw]; rfl
    · rfl
  · rename_i h
    rw [Parsed.get_append, Parsed.get_cons, Parsed.get_nil]
    split
    · subst_vars; rw [Option.not_isSome_iff_eq_none.mp h]; rfl
    · exact Option.or_none

/-- overwriting a bound key keeps the order of the keys -/
theorem Parsed.keys_set {p : Parsed} {n : String} {w : Val} (h : p.get n = some w) (v : Val) :
    (p.set n v).map (·.1) = p.map (·.1) := by
  unfold Parsed.set
  rw [Parsed.any_key, h, Option.isSome_some, if_pos rfl, List.map_map]
  refine List.map_congr_left (fun kv _ => ?_)
  simp only [Function.comp]
  split
  · rename_i hk; exact (beq_iff_eq.mp hk).symm
  · rfl

/-! ### binding every field, entry by entry

  What the plumbing helpers build is described once, for an arbitrary requirement `P f v` on the value
  `v` of field `f`: the declared shape here (`ShapeOk f.arity v`), the shaping of the matches on the
  successful path in PathMatches.lean. -/

/-- `p` binds every field of `fs` to a value that `P` accepts for it -/
def Binds (P : FieldDesc → Val → Prop) (fs : List FieldDesc) (p : Parsed) : Prop :=
  ∀ f ∈ fs, ∃ v, p.get f.name = some v ∧ P f v

/-- `p` has exactly one entry per field of `fs`, in that order, each accepted by `P` -/
inductive Entries (P : FieldDesc → Val → Prop) : List FieldDesc → Parsed → Prop
  | nil : Entries P [] []
  | cons {f : FieldDesc} {v : Val} {fs : List FieldDesc} {p : Parsed} :
      P f v → Entries P fs p → Entries P (f :: fs) ((f.name, v) :: p)

section
variable {P : FieldDesc → Val → Prop}

theorem Entries.keys {fs : List FieldDesc} {p : Parsed} (h : Entries P fs p) :
    p.map (·.1) = fs.map (·.name) := by
  induction h with
  | nil => rfl
  | cons _ _ ih => simp only [List.map_cons, ih]

theorem Entries.binds {fs : List FieldDesc} {p : Parsed} (h : Entries P fs p)
    (hn : (fs.map (·.name)).Nodup) : Binds P fs p := by
  induction h with
  | nil => intro f hf; cases hf
  | @cons f0 v fs p hv _ ih =>
    simp only [List.map_cons, List.nodup_cons] at hn
    intro f hf
    rcases List.mem_cons.mp hf with rfl | hf
    · exact ⟨v, by rw [Parsed.get_cons, if_pos rfl], hv⟩
    · have hne : f0.name ≠ f.name := fun e => hn.1 (e ▸ List.mem_map.mpr ⟨f, hf, rfl⟩)
      obtain ⟨w, hw, hs⟩ := ih hn.2 f hf
      exact ⟨w, by rw [Parsed.get_cons, if_neg hne]; exact hw, hs⟩

theorem Entries.of_binds : ∀ {fs : List FieldDesc} {p : Parsed}, p.map (·.1) = fs.map (·.name) →
    (fs.map (·.name)).Nodup → Binds P fs p → Entries P fs p := by
  intro fs
  induction fs with
  | nil =>
    intro p hk _ _
    cases p with
    | nil => exact .nil
    | cons a p => simp at hk
  | cons f fs ih =>
    intro p hk hn hb
    simp only [List.map_cons, List.nodup_cons] at hn
    cases p with
    | nil => simp at hk
    | cons kv p =>
      obtain ⟨k, v⟩ := kv
      simp only [List.map_cons, List.cons.injEq] at hk
      obtain ⟨rfl, hk⟩ := hk
      obtain ⟨v', hg, hs⟩ := hb f List.mem_cons_self
      rw [Parsed.get_cons, if_pos rfl] at hg
      cases hg
      refine .cons hs (ih hk hn.2 fun g hg => ?_)
      have hne : f.name ≠ g.name := fun e => hn.1 (e ▸ List.mem_map.mpr ⟨g, hg, rfl⟩)
      obtain ⟨w, hw, hs⟩ := hb g (List.mem_cons_of_mem _ hg)
      rw [Parsed.get_cons, if_neg hne] at hw
      exact ⟨w, hw, hs⟩

end

theorem ShapedL.entries {fs : List FieldDesc} {p : Parsed} (h : ShapedL fs p) :
    Entries (fun f v => ShapeOk f.arity v) fs p := by
  induction h with
  | nil => exact .nil
  | cons hv _ ih => exact .cons hv ih

theorem Entries.shaped {fs : List FieldDesc} {p : Parsed} (h : Entries (fun f v => ShapeOk f.arity v) fs p)
    (hn : (fs.map (·.name)).Nodup) : Shaped fs p :=
  ⟨h.keys, h.binds hn⟩

theorem ShapedL.shaped {fs : List FieldDesc} {p : Parsed} (h : ShapedL fs p)
    (hn : (fs.map (·.name)).Nodup) : Shaped fs p :=
  h.entries.shaped hn

theorem mem_filterRuleFields {RF own : List FieldDesc} {f : FieldDesc} :
    f ∈ filterRuleFields RF own ↔ f ∈ RF ∧ hasField own f.name = true := by
  unfold filterRuleFields; exact List.mem_filter

theorem filterRuleFields_nodup {RF : List FieldDesc} (h : (RF.map (·.name)).Nodup) (own : List FieldDesc) :
    ((filterRuleFields RF own).map (·.name)).Nodup :=
  List.Nodup.sublist (List.Sublist.map _ List.filter_sublist) h

theorem filterRuleFields_congr (RF : List FieldDesc) {own own' : List FieldDesc}
    (h : ∀ x, hasField own x = hasField own' x) : filterRuleFields RF own = filterRuleFields RF own' := by
  unfold filterRuleFields
  exact List.filter_congr (fun f _ => h f.name)

theorem filterRuleFields_self (fs : List FieldDesc) : filterRuleFields fs fs = fs := by
  unfold filterRuleFields
  exact List.filter_eq_self.mpr (fun f hf => hasField_of_mem hf)

theorem hasField_filterRuleFields {RF own : List FieldDesc} {x : String} :
    hasField (filterRuleFields RF own) x = true ↔ hasField RF x = true ∧ hasField own x = true := by
  constructor
  · intro h
    obtain ⟨f, hf, rfl⟩ := exists_of_hasField h
    exact ⟨hasField_of_mem (mem_filterRuleFields.mp hf).1, (mem_filterRuleFields.mp hf).2⟩
  · rintro ⟨h1, h2⟩
    obtain ⟨f, hf, rfl⟩ := exists_of_hasField h1
    exact hasField_of_mem (mem_filterRuleFields.mpr ⟨hf, h2⟩)

/-- the rule-level descriptor dominates every own descriptor of the same name -/
theorem rule_field_covers {RF own : List FieldDesc} (hn : (RF.map (·.name)).Nodup)
    (hs : SubFields own RF) {f o : FieldDesc} (hf : f ∈ RF) (ho : o ∈ own) (e : o.name = f.name) :
    FLe o f := by
  obtain ⟨o', ho', l⟩ := hs o ho
  have : o' = f := eq_of_name_eq hn ho' hf (l.1.trans e)
  exact this ▸ l

theorem findField_of_mem {RF : List FieldDesc} (hn : (RF.map (·.name)).Nodup) {f : FieldDesc}
    (hf : f ∈ RF) : findField RF f.name = some f := by
  unfold findField
  induction RF with
  | nil => cases hf
  | cons a RF ih =>
    simp only [List.map_cons, List.nodup_cons] at hn
    simp only [List.find?_cons]
    rcases List.mem_cons.mp hf with rfl | hf
    · simp
    · have hne : a.name ≠ f.name := fun e => hn.1 (e ▸ List.mem_map.mpr ⟨f, hf, rfl⟩)
      have : (a.name == f.name) = false := by simpa using hne
      rw [this]; exact ih hn.2 hf

theorem postprocessField_good {RF : List FieldDesc} (hn : (RF.map (·.name)).Nodup) {f : FieldDesc}
    (hf : f ∈ RF) {typ : String} {tb} (ht : f.types.find? (·.1 == typ) = some tb) (v : Val) :
    ∃ fv, postprocessField RF f.name typ v = .ok fv ∧ ShapeOk f.arity fv := by
  unfold postprocessField
  simp only [findField_of_mem hn hf, ht]
  refine ⟨_, rfl, ?_⟩
  cases f.arity with
  | one => trivial
  | optional => exact Or.inr ⟨_, rfl⟩
  | multiple => exact ⟨_, rfl⟩

theorem defaultField_good {f : FieldDesc} (h : Arity.optional ≤ f.arity) :
    ∃ v, defaultField f = .ok v ∧ ShapeOk f.arity v := by
  unfold defaultField
  cases ha : f.arity with
  | one => rw [ha] at h; exact absurd h (by decide)
  | optional => exact ⟨_, rfl, Or.inl rfl⟩
  | multiple => exact ⟨_, rfl, [], rfl⟩

section
variable {P : FieldDesc → Val → Prop}

theorem defaults_entries : ∀ {fs : List FieldDesc}, (∀ f ∈ fs, ∃ v, defaultField f = .ok v ∧ P f v) →
    ∃ p, defaults fs = .ok p ∧ Entries P fs p := by
  intro fs
  induction fs with
  | nil => intro _; exact ⟨[], rfl, .nil⟩
  | cons f fs ih =>
    intro h
    obtain ⟨v, hv, hs⟩ := h f List.mem_cons_self
    obtain ⟨p, hp, hsp⟩ := ih (fun f hf => h f (List.mem_cons_of_mem _ hf))
    exact ⟨(f.name, v) :: p, by simp only [defaults, hv, hp], .cons hs hsp⟩

theorem closureInit_entries : ∀ {fs : List FieldDesc}, (∀ f ∈ fs, f.arity = .multiple ∧ P f (.list [])) →
    ∃ p, closureInit fs = .ok p ∧ Entries P fs p := by
  intro fs
  induction fs with
  | nil => intro _; exact ⟨[], rfl, .nil⟩
  | cons f fs ih =>
    intro h
    obtain ⟨hf, hs⟩ := h f List.mem_cons_self
    obtain ⟨p, hp, hsp⟩ := ih (fun f hf => h f (List.mem_cons_of_mem _ hf))
    refine ⟨(f.name, .list []) :: p, ?_, .cons hs hsp⟩
    simp only [closureInit, hf, hp, bne_self_eq_false, Bool.false_eq_true, if_false]

theorem project_entries {acc : Parsed} : ∀ {fs : List FieldDesc}, Binds P fs acc →
    ∃ p, project fs acc = .ok p ∧ Entries P fs p := by
  intro fs
  induction fs with
  | nil => intro _; exact ⟨[], rfl, .nil⟩
  | cons f fs ih =>
    intro h
    obtain ⟨v, hv, hs⟩ := h f List.mem_cons_self
    obtain ⟨p, hp, hsp⟩ := ih (fun f hf => h f (List.mem_cons_of_mem _ hf))
    exact ⟨(f.name, v) :: p, by simp only [project, hv, hp], .cons hs hsp⟩

theorem convertArm_go_entries {inner : List FieldDesc} {r : Parsed} : ∀ (fs : List FieldDesc),
    (∀ f ∈ fs, hasField inner f.name = false → ∃ v, defaultField f = .ok v ∧ P f v) →
    (∀ f ∈ fs, hasField inner f.name = true → ∃ v, r.get f.name = some v ∧ P f v) →
    ∃ p, convertArm.go inner r fs = .ok p ∧ Entries P fs p := by
  intro fs
  induction fs with
  | nil => intro _ _; exact ⟨[], rfl, .nil⟩
  | cons f fs ih =>
    intro habs hr
    obtain ⟨p, hp, hsp⟩ := ih (fun f hf => habs f (List.mem_cons_of_mem _ hf))
      (fun f hf => hr f (List.mem_cons_of_mem _ hf))
    by_cases hin : hasField inner f.name = true
    · obtain ⟨v, hv, hs⟩ := hr f List.mem_cons_self hin
      exact ⟨(f.name, v) :: p, by simp only [convertArm.go, hin, if_true, hv, hp], .cons hs hsp⟩
    · have hin' : hasField inner f.name = false := by simpa using hin
      obtain ⟨v, hv, hs⟩ := habs f List.mem_cons_self hin'
      exact ⟨(f.name, v) :: p,
        by simp only [convertArm.go, hin', Bool.false_eq_true, if_false, hv, hp], .cons hs hsp⟩

/-- `Choice::generate_result_converter` succeeds: every field of the arm is a field of the choice,
    fields absent from the arm have a default, the arm's result binds its fields -/
theorem convertArm_entries {fields inner : List FieldDesc} {r : Parsed}
    (hsub : ∀ o ∈ inner, ∃ f ∈ fields, f.name = o.name)
    (habs : ∀ f ∈ fields, hasField inner f.name = false → ∃ v, defaultField f = .ok v ∧ P f v)
    (hr : ∀ f ∈ fields, hasField inner f.name = true → ∃ v, r.get f.name = some v ∧ P f v) :
    ∃ p, convertArm fields inner r = .ok p ∧ Entries P fields p := by
  match fields with
  | [] => exact ⟨[], rfl, .nil⟩
  | [f] =>
    simp only [convertArm]
    cases inner with
    | nil =>
      obtain ⟨v, hv, hs⟩ := habs f List.mem_cons_self (by simp [hasField])
      exact ⟨[(f.name, v)], by simp only [List.isEmpty_nil, if_true, hv], .cons hs .nil⟩
    | cons o inner =>
      obtain ⟨f', hf', e⟩ := hsub o List.mem_cons_self
      rw [List.mem_singleton.mp hf'] at e
      have hin : hasField (o :: inner) f.name = true := e ▸ hasField_of_mem List.mem_cons_self
      obtain ⟨v, hv, hs⟩ := hr f List.mem_cons_self hin
      exact ⟨[(f.name, v)], by simp only [List.isEmpty_cons, Bool.false_eq_true, if_false, hv],
        .cons hs .nil⟩
  | f1 :: f2 :: rest =>
    simp only [convertArm]
    exact convertArm_go_entries _ habs hr

end

theorem extendVal_list (a b : List Val) : extendVal (.list a) (.list b) = .ok (.list (a ++ b)) := rfl

/-! ### what is merged, for an arbitrary requirement

  `mergePart` and `extendAll` keep any requirement `P f i v` on the value `v` of field `f`, indexed by what
  has been collected for `f` so far (`i`, composed by `op`), provided `extend` succeeds on two accepted values
  of a `multiple` field and composes the indices.  The index is trivial for the declared shape
  (`shapeOk_mergeInv`) and is the list of matches for the shaping in PathMatches.lean. -/

structure MergeInv {ι} (P : FieldDesc → ι → Val → Prop) (op : ι → ι → ι) : Prop where
  extend : ∀ {f i j a b}, f.arity = .multiple → P f i a → P f j b → ∃ v, extendVal a b = .ok v ∧ P f (op i j) v

theorem shapeOk_mergeInv : MergeInv (fun f (_ : Unit) v => ShapeOk f.arity v) fun _ _ => () where
  extend hm ha hb := by
    rw [hm] at ha hb ⊢
    obtain ⟨a, rfl⟩ := ha
    obtain ⟨b, rfl⟩ := hb
    exact ⟨_, extendVal_list a b, _, rfl⟩

/-- the accumulator of a sequence binds every seen rule field to a value that `P` accepts for what has
    been collected for it (`cur`) -/
def AccP {ι} (P : FieldDesc → ι → Val → Prop) (RF : List FieldDesc) (seen : List String) (acc : Parsed)
    (cur : String → ι) : Prop :=
  ∀ f ∈ RF, f.name ∈ seen → ∃ v, acc.get f.name = some v ∧ P f (cur f.name) v

section
variable {ι} {P : FieldDesc → ι → Val → Prop} {op : ι → ι → ι}

theorem AccP.congr {RF : List FieldDesc} {seen : List String} {acc : Parsed} {cur cur' : String → ι}
    (h : AccP P RF seen acc cur) (he : ∀ f ∈ RF, f.name ∈ seen → cur f.name = cur' f.name) :
    AccP P RF seen acc cur' := by
  intro f hf hs
  rw [← he f hf hs]; exact h f hf hs

/-- one part of a sequence: the `let`/`extend` statements succeed; a field is bound on first sight
    and extended afterwards -/
theorem mergePart_inv (hP : MergeInv P op) {RF : List FieldDesc} (hn : (RF.map (·.name)).Nodup) {r : Parsed}
    {new : String → ι} : ∀ {fs : List FieldDesc} {seen : List String} {acc : Parsed} {cur : String → ι},
    (fs.map (·.name)).Nodup →
    (∀ f ∈ fs, f ∈ RF ∧ ∃ v, r.get f.name = some v ∧ P f (new f.name) v) →
    (∀ f ∈ fs, f.name ∈ seen → f.arity = .multiple) →
    (∀ f ∈ fs, f.name ∉ seen → op (cur f.name) (new f.name) = new f.name) →
    AccP P RF seen acc cur →
    ∃ seen' acc', mergePart fs seen acc r = .ok (seen', acc') ∧
      AccP P RF seen' acc' (fun x => if x ∈ fs.map (·.name) then op (cur x) (new x) else cur x) ∧
      ∀ x, x ∈ seen' ↔ x ∈ seen ∨ x ∈ fs.map (·.name) := by
  intro fs
  induction fs with
  | nil =>
    intro seen acc cur _ _ _ _ hacc
    exact ⟨seen, acc, rfl, hacc.congr fun _ _ _ => by simp, fun x => by simp⟩
  | cons f fs ih =>
    intro seen acc cur hnd hr hm hcur hacc
    simp only [List.map_cons, List.nodup_cons] at hnd
    obtain ⟨hfRF, v, hv, hs⟩ := hr f List.mem_cons_self
    have hne : ∀ f' ∈ fs, f.name ≠ f'.name :=
      fun f' hf' e => hnd.1 (e ▸ List.mem_map.mpr ⟨f', hf', rfl⟩)
    -- the step for `f`: what is seen afterwards, and a value for what has been collected for `f`
    obtain ⟨seen1, x, hstep, hseen1, hx⟩ : ∃ seen1 x,
        mergePart (f :: fs) seen acc r = mergePart fs seen1 (acc.set f.name x) r ∧
        (∀ y, y ∈ seen1 ↔ y ∈ seen ∨ y = f.name) ∧ P f (op (cur f.name) (new f.name)) x := by
      by_cases hseen : f.name ∈ seen
      · obtain ⟨old, hold, hso⟩ := hacc f hfRF hseen
        have hmul := hm f List.mem_cons_self hseen
        obtain ⟨x, hx, hPx⟩ := hP.extend hmul hso hs
        refine ⟨seen, x, ?_, fun y => ⟨Or.inl, fun h => h.elim id (· ▸ hseen)⟩, hPx⟩
        have hc : seen.contains f.name = true := by simpa using hseen
        simp only [mergePart, hv, hc, Bool.not_true, Bool.false_eq_true, if_false, hmul,
          bne_self_eq_false, hold, hx]
      · refine ⟨f.name :: seen, v, ?_, fun y => by rw [List.mem_cons, or_comm],
          (hcur f List.mem_cons_self hseen).symm ▸ hs⟩
        have hc : seen.contains f.name = false := by simpa using hseen
        simp only [mergePart, hv, hc, Bool.not_false, if_true]
    have hiff : ∀ f' ∈ fs, (f'.name ∈ seen1 ↔ f'.name ∈ seen) := fun f' hf' => by
      rw [hseen1]; exact ⟨fun h => h.resolve_right (fun e => hne f' hf' e.symm), Or.inl⟩
    obtain ⟨seen', acc', h1, h2, h3⟩ := ih (seen := seen1) (acc := acc.set f.name x)
      (cur := fun y => if y = f.name then op (cur y) (new y) else cur y) hnd.2
      (fun f' hf' => hr f' (List.mem_cons_of_mem _ hf'))
      (fun f' hf' hs' => hm f' (List.mem_cons_of_mem _ hf') ((hiff f' hf').mp hs'))
      (fun f' hf' hs' => by
        rw [if_neg (fun e => hne f' hf' e.symm)]
        exact hcur f' (List.mem_cons_of_mem _ hf') (fun h => hs' ((hiff f' hf').mpr h)))
      (fun g hg hs' => by
        by_cases e : g.name = f.name
        · obtain rfl : g = f := eq_of_name_eq hn hg hfRF e
          exact ⟨x, by rw [Parsed.get_set, if_pos rfl], by dsimp only; rw [if_pos rfl]; exact hx⟩
        · dsimp only
          rw [Parsed.get_set, if_neg (fun e' => e e'.symm), if_neg e]
          exact hacc g hg (((hseen1 _).mp hs').resolve_right e))
    refine ⟨seen', acc', hstep.trans h1, h2.congr fun g _ _ => ?_, fun y => ?_⟩
    · simp only [List.map_cons, List.mem_cons]
      by_cases e : g.name = f.name
      · rw [if_neg (e ▸ hnd.1), if_pos e, if_pos (Or.inl e)]
      · simp only [e, false_or, if_false]
    · rw [h3, hseen1, List.map_cons, List.mem_cons, or_assoc]

/-- the closure's `extend` statements succeed on two results with the same entries, and append the `Vec`s entry by
    entry -/
theorem extendAll_inv (hP : MergeInv P op) {r acc : Parsed} {new cur : String → ι} {fs : List FieldDesc}
    (hn : (fs.map (·.name)).Nodup) (hmul : ∀ f ∈ fs, f.arity = .multiple)
    (hr : Entries (fun f v => P f (new f.name) v) fs r) (hacc : Entries (fun f v => P f (cur f.name) v) fs acc) :
    ∃ acc', extendAll fs acc r = .ok acc' ∧ Entries (fun f v => P f (op (cur f.name) (new f.name)) v) fs acc' := by
  -- the fields still to extend: the keys stay, their `Vec`s are appended, every other binding stays
  have : ∀ {fs' : List FieldDesc} {acc : Parsed}, (∀ f ∈ fs', f ∈ fs) → (fs'.map (·.name)).Nodup →
      Binds (fun f v => P f (cur f.name) v) fs' acc →
      ∃ acc', extendAll fs' acc r = .ok acc' ∧ acc'.map (·.1) = acc.map (·.1) ∧
        (∀ x, x ∉ fs'.map (·.name) → acc'.get x = acc.get x) ∧
        Binds (fun f v => P f (op (cur f.name) (new f.name)) v) fs' acc' := by
    intro fs'
    induction fs' with
    | nil => intro acc _ _ _; exact ⟨acc, rfl, rfl, fun _ _ => rfl, fun _ h => nomatch h⟩
    | cons f fs' ih =>
      intro acc hsub hnd hacc
      simp only [List.map_cons, List.nodup_cons] at hnd
      obtain ⟨va, hva, hsa⟩ := hacc f List.mem_cons_self
      obtain ⟨vb, hvb, hsb⟩ := hr.binds hn f (hsub f List.mem_cons_self)
      obtain ⟨x, hx, hPx⟩ := hP.extend (hmul f (hsub f List.mem_cons_self)) hsa hsb
      have hget : ∀ y, y ≠ f.name → (acc.set f.name x).get y = acc.get y :=
        fun y hy => by rw [Parsed.get_set, if_neg (fun e => hy e.symm)]
      have hne : ∀ f' ∈ fs', f'.name ≠ f.name :=
        fun f' hf' e => hnd.1 (e ▸ List.mem_map.mpr ⟨f', hf', rfl⟩)
      obtain ⟨acc', h1, h2, h3, h4⟩ := ih (acc := acc.set f.name x)
        (fun f' hf' => hsub f' (List.mem_cons_of_mem _ hf')) hnd.2
        (fun f' hf' => by rw [hget _ (hne f' hf')]; exact hacc f' (List.mem_cons_of_mem _ hf'))
      refine ⟨acc', by simp only [extendAll, hva, hvb, hx]; exact h1,
        by rw [h2, Parsed.keys_set hva], fun x hx => ?_, fun f' hf' => ?_⟩
      · simp only [List.map_cons, List.mem_cons, not_or] at hx
        rw [h3 x hx.2, hget x hx.1]
      · rcases List.mem_cons.mp hf' with rfl | hf'
        · exact ⟨_, by rw [h3 _ hnd.1, Parsed.get_set, if_pos rfl], hPx⟩
        · exact h4 f' hf'
  obtain ⟨acc', he, hk, -, hb⟩ := this (fun _ h => h) hn (hacc.binds hn)
  exact ⟨acc', he, .of_binds (hk.trans hacc.keys) hn hb⟩

end

/-- the accumulator of a sequence binds every seen rule field with a value of the declared shape -/
abbrev AccOk (RF : List FieldDesc) (seen : List String) (acc : Parsed) : Prop :=
  AccP (fun f (_ : Unit) v => ShapeOk f.arity v) RF seen acc fun _ => ()

/-- the result is a panic raised by the field plumbing -/
def IsCg {α} (r : Res α) : Prop := ∃ m, r = .panic ("codegen: " ++ m)

/-- no cached result is a plumbing panic (trivially true for the empty cache of `parseAdvanced`) -/
def CleanCache (g : Global) : Prop := ∀ kv ∈ g.cache, ¬ IsCg kv.2

/-- a good result: no plumbing panic, `Q` on success -/
def Cg {α} (Q : α → St → Prop) (r : Res α) : Prop := ¬ IsCg r ∧ ∀ v s, r = .ok v s → Q v s

/-- a good outcome: a good result and a clean cache (`OutAll` of Outcome.lean, so the wrappers of a rule body that
    are treated there once for every such invariant need no second treatment) -/
abbrev GoodOut {α} (Q : α → St → Prop) (x : Out α) : Prop := OutAll CleanCache (Cg Q) x

theorem not_isCg_ok {α} (v : α) (s : St) : ¬ IsCg (.ok v s) := fun ⟨_, h⟩ => by cases h
theorem not_isCg_err {α} (e : PErr) : ¬ IsCg (.err e : Res α) := fun ⟨_, h⟩ => by cases h

theorem isCg_panic_iff {α} {m : String} : IsCg (.panic m : Res α) ↔ ∃ m', m = "codegen: " ++ m' := by
  constructor
  · rintro ⟨m', h⟩; exact ⟨m', by injection h⟩
  · rintro ⟨m', rfl⟩; exact ⟨m', rfl⟩

theorem isCg_panic_cast {α β} {m : String} (h : ¬ IsCg (.panic m : Res α)) : ¬ IsCg (.panic m : Res β) :=
  fun h' => h (isCg_panic_iff.mpr (isCg_panic_iff.mp h'))

/-- A panic message that does not start with `c` is not a plumbing panic.  The message is given by
    its characters: a string literal unifies with `String.ofList` of them, whereas deciding anything
    about `toList` of a literal makes Lean decode the literal's byte array. -/
theorem not_isCg_of_head {α} {c : Char} {cs : List Char} (m : String) (h : c ≠ 'c') :
    ¬ IsCg (.panic (String.ofList (c :: cs) ++ m) : Res α) := by
  intro h'
  obtain ⟨m', e⟩ := isCg_panic_iff.mp h'
  have := congrArg String.toList e
  simp only [String.toList_append, String.toList_ofList, List.cons_append] at this
  exact h (List.cons.inj this).1

theorem not_isCg_lit {α} {c : Char} {cs : List Char} (h : c ≠ 'c') :
    ¬ IsCg (.panic (String.ofList (c :: cs)) : Res α) := by
  simpa using not_isCg_of_head (α := α) (cs := cs) "" h

theorem CleanCache.insert {g : Global} (h : CleanCache g) (k : String × Nat) {r : Res Val}
    (hr : ¬ IsCg r) : CleanCache (g.insert k r) := by
  intro kv hkv
  rcases List.mem_cons.mp hkv with rfl | hkv
  · exact hr
  · exact h kv hkv

theorem CleanCache.lookup {g : Global} (h : CleanCache g) {k : String × Nat} {r : Res Val}
    (hl : g.lookup k = some r) : ¬ IsCg r := by
  unfold Global.lookup at hl
  cases hf : g.cache.find? (fun kv => kv.1 == k) with
  | none => rw [hf] at hl; cases hl
  | some kv =>
    rw [hf] at hl
    simp only [Option.map_some, Option.some.injEq] at hl
    exact hl ▸ h kv (List.mem_of_find?_eq_some hf)

section
variable {α β : Type} {Q : α → St → Prop}

theorem Cg.ok {v : α} {s : St} (hq : Q v s) : Cg Q (.ok v s) :=
  ⟨not_isCg_ok _ _, fun _ _ h => by cases h; exact hq⟩

theorem Cg.err {e : PErr} : Cg Q (.err e) := ⟨not_isCg_err _, fun _ _ h => nomatch h⟩

theorem Cg.panic {m : String} (hm : ¬ IsCg (.panic m : Res α)) : Cg Q (.panic m) := ⟨hm, fun _ _ h => nomatch h⟩

/-- at rule level nothing is claimed of a success -/
theorem Cg.rule {r : Res α} (hr : ¬ IsCg r) : Cg (fun _ _ => True) r := ⟨hr, fun _ _ _ => trivial⟩

theorem CleanCache.cacheOnly : CacheOnly CleanCache := fun g g' hc h => by
  unfold CleanCache; rw [hc]; exact h

/-- the sub-run leaves a clean cache to either continuation, and its panic is no plumbing panic -/
theorem GoodOut.caseR {Q' : β → St → Prop} {x : Out α} {ok : α → St → Global → Out β} {err : PErr → Global → Out β}
    (hx : GoodOut Q x) (hok : ∀ v s g, CleanCache g → Q v s → GoodOut Q' (ok v s g))
    (herr : ∀ e g, CleanCache g → GoodOut Q' (err e g)) : GoodOut Q' (caseR x ok err) :=
  OutAll.caseR hx (fun v s g hc hr => hok v s g hc (hr.2 v s rfl)) (fun e g hc _ => herr e g hc)
    fun _ hr => .panic (isCg_panic_cast hr.1)

theorem GoodOut.bind {Q' : β → St → Prop} {x : Out α} {k : α → St → Global → Out β}
    (hx : GoodOut Q x) (hk : ∀ v s g, CleanCache g → Q v s → GoodOut Q' (k v s g)) : GoodOut Q' (bindR x k) :=
  hx.caseR hk fun _ _ hg => .res hg .err

end

theorem not_isCg_overrun {α} : ¬ IsCg (.panic "String length overrun in advance()" : Res α) :=
  not_isCg_lit (by decide)

theorem IsMatcher.not_isCg {α} {m : St → Res α} (h : IsMatcher m) (s : St) : ¬ IsCg (m s) := by
  rcases h.cases s with ⟨sp, he⟩ | ⟨n, v, _, he⟩ | he <;> rw [he]
  · exact not_isCg_err _
  · exact not_isCg_ok _ _
  · exact not_isCg_overrun

theorem not_isCg_advanceSafe {α} (s : St) (n : Nat) (v : α) : ¬ IsCg (s.advanceSafe n v) := by
  unfold St.advanceSafe; split
  · exact not_isCg_overrun
  · split
    · exact not_isCg_lit (by decide)
    · exact not_isCg_ok _ _

/-- a terminal expression binds no field -/
theorem getFields_of_terminalOf {g : Grammar} {nf : Nat} {e : Expr} {t} {own : List FieldDesc}
    (ht : terminalOf e = some t) (h : getFields g nf e = .ok own) : own = [] := by
  cases e <;> simp only [terminalOf, reduceCtorEq] at ht <;> exact getFields_inv h

theorem terminalOf_error_not_isCg {α} {e : Expr} {msg : String} (ht : terminalOf e = some (.error msg)) :
    ¬ IsCg (.panic msg : Res α) := by
  cases e <;> simp only [terminalOf, Option.some.injEq, reduceCtorEq] at ht
  all_goals split at ht <;> cases ht; exact not_isCg_lit (by decide)

/-- expressions: in a context covering the expression's own fields there is no plumbing panic and
    the result has the declared shape -/
def GoodE (env : Env) (ev : Ctx → Expr → St → Global → Out Parsed) : Prop :=
  ∀ ctx e own s g, (ctx.ruleFields.map (·.name)).Nodup →
    getFields env.g env.nf e = .ok own → SubFields own ctx.ruleFields → CleanCache g →
    GoodOut (fun p _ => Entries (fun f v => ShapeOk f.arity v) (filterRuleFields ctx.ruleFields own) p) (ev ctx e s g)

/-- rules: no plumbing panic -/
def GoodR (ev : String → St → Global → Out Val) : Prop :=
  ∀ name s g, CleanCache g → GoodOut (fun _ _ => True) (ev name s g)

structure GoodRec (env : Env) (rec : Rec) : Prop where
  expr : GoodE env rec.expr
  rule : GoodR rec.rule

theorem ownFields_eq {env : Env} {e : Expr} {own : List FieldDesc}
    (h : getFields env.g env.nf e = .ok own) : ownFields env e = own := by
  unfold ownFields; rw [h]

section
variable {env : Env} {rec : Rec}

theorem withSkipWs_good {α} (hrec : GoodRec env rec) {ctx : Ctx} {s : St} {g : Global}
    {k : St → Global → Out α} {Q : α → St → Prop} (hg : CleanCache g)
    (hk : ∀ s1 g1, CleanCache g1 → GoodOut Q (k s1 g1)) : GoodOut Q (withSkipWs rec ctx s g k) := by
  unfold withSkipWs
  split
  · exact (hrec.rule _ _ _ hg).bind fun _ s1 g1 hg1 _ => hk s1 g1 hg1
  · exact hk _ _ hg

/-- what a sequence asks of the parts still to run once the rule fields named `seen` are bound: each part is analysed
    and covered by the rule fields, and a field of it that has been seen is `multiple`; when no part is left, every
    field of `fields` is a rule field that has been seen -/
def SeqParts (env : Env) (RF fields : List FieldDesc) : List String → List Expr → Prop
  | seen, [] => ∀ f ∈ fields, f ∈ RF ∧ f.name ∈ seen
  | seen, p :: ps =>
    getFields env.g env.nf p = .ok (ownFields env p) ∧ SubFields (ownFields env p) RF ∧
    (∀ f ∈ filterRuleFields RF (ownFields env p), f.name ∈ seen → f.arity = .multiple) ∧
    ∀ seen', (∀ x, x ∈ seen' ↔ x ∈ seen ∨ x ∈ (filterRuleFields RF (ownFields env p)).map (·.name)) →
      SeqParts env RF fields seen' ps

theorem evalSeq_good (hrec : GoodRec env rec) {ctx : Ctx} (hn : (ctx.ruleFields.map (·.name)).Nodup)
    {fields : List FieldDesc} :
    ∀ ps seen acc s g, SeqParts env ctx.ruleFields fields seen ps → AccOk ctx.ruleFields seen acc → CleanCache g →
      GoodOut (fun sa _ => Binds (fun f v => ShapeOk f.arity v) fields sa.2) (evalSeq env rec ctx ps seen acc s g) := by
  intro ps
  induction ps with
  | nil => intro seen acc s g hps hacc hg; exact .res hg (.ok fun f hf => hacc f (hps f hf).1 (hps f hf).2)
  | cons p ps ih =>
    intro seen acc s g ⟨hget, hsub, hmult, hps⟩ hacc hg
    simp only [evalSeq]
    refine (hrec.expr _ _ _ _ _ hn hget hsub hg).bind ?_
    intro v s1 g1 hg1 hv
    obtain ⟨seen', acc', hmp, hacc', hseen'⟩ :=
      mergePart_inv shapeOk_mergeInv hn (r := v) (seen := seen) (acc := acc) (new := fun _ => ())
        (cur := fun _ => ()) (filterRuleFields_nodup hn _)
        (fun f hf => ⟨(mem_filterRuleFields.mp hf).1, hv.binds (filterRuleFields_nodup hn _) f hf⟩)
        hmult (fun _ _ _ => rfl) hacc
    simp only [hmp]
    exact ih seen' acc' s1 g1 (hps seen' hseen') hacc' hg1

/-- what a choice with the fields `fields` asks of an arm: it is analysed and covered by the rule fields, its fields
    are among `fields`, and a field it lacks is at least `optional` -/
def ArmOk (env : Env) (RF fields : List FieldDesc) (a : Expr) : Prop :=
  getFields env.g env.nf a = .ok (ownFields env a) ∧ SubFields (ownFields env a) RF ∧
  (∀ o ∈ ownFields env a, ∃ f ∈ fields, f.name = o.name) ∧
  ∀ f ∈ fields, f ∈ RF ∧ (hasField (ownFields env a) f.name = false → Arity.optional ≤ f.arity)

theorem evalAlts_good (hrec : GoodRec env rec) {ctx : Ctx} (hn : (ctx.ruleFields.map (·.name)).Nodup)
    {fields : List FieldDesc} :
    ∀ as s g, (∀ a ∈ as, ArmOk env ctx.ruleFields fields a) → CleanCache g →
      GoodOut (fun p _ => Entries (fun f v => ShapeOk f.arity v) fields p) (evalAlts env rec ctx fields as s g) := by
  intro as
  induction as with
  | nil => intro s g _ hg; exact .res hg .err
  | cons a as ih =>
    intro s g has hg
    obtain ⟨hget, hsub, hin, habs⟩ := has a List.mem_cons_self
    rw [evalAlts_step]
    refine (hrec.expr _ _ _ _ _ hn hget hsub hg).caseR ?_
      fun _ g0 hg0 => ih _ _ (fun a' ha' => has a' (List.mem_cons_of_mem _ ha')) hg0
    intro r0 s0 g0 hg0 hsh
    obtain ⟨p, hp, hsp⟩ := convertArm_entries (fields := fields) (inner := ownFields env a) (r := r0)
      hin (fun f hf hi => defaultField_good ((habs f hf).2 hi))
      (fun f hf hi => hsh.binds (filterRuleFields_nodup hn _) f (mem_filterRuleFields.mpr ⟨(habs f hf).1, hi⟩))
    simp only [hp]
    exact .res hg0 (.ok hsp)

theorem evalLoop_good {body : St → Global → Out Parsed} {fields : List FieldDesc}
    (hn : (fields.map (·.name)).Nodup) (hmul : ∀ f ∈ fields, f.arity = .multiple)
    (hbody : ∀ s g, CleanCache g → GoodOut (fun p _ => Entries (fun f v => ShapeOk f.arity v) fields p) (body s g)) :
    ∀ k iters acc s g, Entries (fun f v => ShapeOk f.arity v) fields acc → CleanCache g →
      GoodOut (fun ia _ => Entries (fun f v => ShapeOk f.arity v) fields ia.2) (evalLoop body fields k iters acc s g) := by
  intro k
  induction k with
  | zero => intro iters acc s g _ _; exact .none
  | succ k ih =>
    intro iters acc s g hacc hg
    rw [evalLoop_step]
    refine (hbody _ _ hg).caseR ?_ fun _ g0 hg0 => .res hg0 (.ok hacc)
    intro r0 s0 g0 hg0 hr0
    obtain ⟨acc', he, hacc'⟩ := extendAll_inv shapeOk_mergeInv (new := fun _ => ()) (cur := fun _ => ()) hn hmul hr0 hacc
    simp only [he]
    exact ih _ _ _ _ hacc' hg0

end

section
variable {env : Env} {RF own : List FieldDesc}

/-- a choice or sequence with a single member has that member's fields -/
theorem filterRuleFields_single {a : Expr}
    (hnames : ∀ x, hasField own x = true ↔ ∃ p ∈ [a], hasField (fieldsOf env.g env.nf p) x = true) :
    filterRuleFields RF (fieldsOf env.g env.nf a) = filterRuleFields RF own :=
  filterRuleFields_congr _ fun x => by rw [Bool.eq_iff_iff, hnames x]; simp

theorem filterRuleFields_map_arity (RF fs : List FieldDesc) (u : Arity → Arity) :
    filterRuleFields RF (fs.map fun f => { f with arity := u f.arity }) = filterRuleFields RF fs :=
  filterRuleFields_congr _ (hasField_map_arity fs u)

theorem choice_arms_ok (hn : (RF.map (·.name)).Nodup) {alts : List Expr}
    (hget : getFields env.g env.nf (.choice alts) = .ok own) (hsub : SubFields own RF) :
    ∀ a ∈ alts, ArmOk env RF (filterRuleFields RF own) a := by
  obtain ⟨harms, _, habs⟩ := getFields_choice hget
  intro a ha
  obtain ⟨h1, h2⟩ := harms a ha
  refine ⟨h1, h2.trans hsub, ?_, ?_⟩
  · intro o ho
    obtain ⟨o', ho', l1⟩ := h2 o ho
    obtain ⟨f, hf, l2⟩ := hsub o' ho'
    refine ⟨f, mem_filterRuleFields.mpr ⟨hf, ?_⟩, l2.1.trans l1.1⟩
    rw [l2.1]; exact hasField_of_mem ho'
  · intro f hf
    obtain ⟨hfRF, hfo⟩ := mem_filterRuleFields.mp hf
    obtain ⟨o, ho, e⟩ := exists_of_hasField hfo
    exact ⟨hfRF, fun hfa => Arity.le_trans (habs a ha f.name hfa o ho e) (rule_field_covers hn hsub hfRF ho e).2.1⟩

/-- the parts of an analysed sequence, from the start: a rule field occurring in two parts is `multiple`, every field of
    the sequence occurs in a part -/
theorem seq_parts_ok (hn : (RF.map (·.name)).Nodup) {parts : List Expr}
    (hget : getFields env.g env.nf (.seq parts) = .ok own) (hsub : SubFields own RF) :
    SeqParts env RF (filterRuleFields RF own) [] parts := by
  obtain ⟨hps, hnames, htwo⟩ := getFields_seq hget
  -- `seen` = the rule fields occurring in the parts `pre` that have run
  have : ∀ ps pre seen, parts = pre ++ ps →
      (∀ x, x ∈ seen ↔ hasField RF x = true ∧ ∃ q ∈ pre, hasField (ownFields env q) x = true) →
      SeqParts env RF (filterRuleFields RF own) seen ps := by
    intro ps
    induction ps with
    | nil =>
      intro pre seen hpre hseen f hf
      rw [List.append_nil] at hpre
      subst hpre
      obtain ⟨hfRF, hfo⟩ := mem_filterRuleFields.mp hf
      exact ⟨hfRF, (hseen _).mpr ⟨hasField_of_mem hfRF, (hnames f.name).mp hfo⟩⟩
    | cons p ps ih =>
      intro pre seen hpre hseen
      have hp : p ∈ parts := by rw [hpre]; simp
      refine ⟨(hps p hp).1, (hps p hp).2.trans hsub, fun f hf hs => ?_,
        fun seen' hseen' => ih (pre ++ [p]) seen' (by rw [hpre]; simp) fun x => ?_⟩
      · obtain ⟨hfRF, hfp⟩ := mem_filterRuleFields.mp hf
        obtain ⟨o, ho, e, hm⟩ := htwo pre p ps f.name hpre ((hseen _).mp hs).2 hfp
        exact Arity.eq_multiple_of_le (hm ▸ (rule_field_covers hn hsub hfRF ho e).2.1)
      · rw [hseen', hseen x, ← hasField_iff, hasField_filterRuleFields]
        constructor
        · rintro (⟨h1, q, hq, hqx⟩ | ⟨h1, h2⟩)
          · exact ⟨h1, q, List.mem_append_left _ hq, hqx⟩
          · exact ⟨h1, p, by simp, h2⟩
        · rintro ⟨h1, q, hq, hqx⟩
          rcases List.mem_append.mp hq with hq | hq
          · exact Or.inl ⟨h1, q, hq, hqx⟩
          · rw [List.mem_singleton.mp hq] at hqx; exact Or.inr ⟨h1, hqx⟩
  exact this parts [] [] rfl fun x => by simp

theorem getFields_seq_nil (hget : getFields env.g env.nf (.seq []) = .ok own) : own = [] := by
  cases own with
  | nil => rfl
  | cons o os =>
    obtain ⟨p, hp, _⟩ := ((getFields_seq hget).2.1 o.name).mp (hasField_of_mem List.mem_cons_self)
    cases hp

/-- optional (`u = toOptional`) and closure (`u = fun _ => .multiple`): the rule fields the body
    binds are at least `lo` -/
theorem map_arity_fields_ge (hn : (RF.map (·.name)).Nodup) {fs : List FieldDesc} {u : Arity → Arity}
    {lo : Arity} (hu : ∀ a, lo ≤ u a)
    (hsub : SubFields (fs.map fun f => { f with arity := u f.arity }) RF) :
    ∀ f ∈ filterRuleFields RF fs, lo ≤ f.arity := by
  intro f hf
  obtain ⟨hfRF, hfo⟩ := mem_filterRuleFields.mp hf
  obtain ⟨o, ho, e⟩ := exists_of_hasField hfo
  exact Arity.le_trans (hu o.arity)
    (rule_field_covers hn hsub hfRF (List.mem_map.mpr ⟨o, ho, rfl⟩) e).2.1

theorem field_in_rule {k typ : String} {boxed : Bool} (hsub : SubFields [⟨k, [(typ, boxed)], .one⟩] RF) :
    ∃ f ∈ RF, f.name = k ∧ ∃ tb, f.types.find? (·.1 == typ) = some tb := by
  obtain ⟨f, hf, hname, _, hty⟩ := hsub _ List.mem_cons_self
  obtain ⟨t', ht', e', _⟩ := hty (typ, boxed) List.mem_cons_self
  exact ⟨f, hf, hname, Option.isSome_iff_exists.1 (List.find?_isSome.2 ⟨t', ht', beq_iff_eq.2 e'⟩)⟩

end

section
variable {env : Env} {rec : Rec}

theorem stepExpr_good (hrec : GoodRec env rec) (n : Nat) : GoodE env (stepExpr env rec n) := by
  intro ctx e own s g hn hget hsub hg
  match hterm : terminalOf e with
  | some (.ok m) =>
    rw [getFields_of_terminalOf hterm hget, filterRuleFields_nil, stepExpr_terminal hterm]
    refine withSkipWs_good hrec hg fun s1 g1 hg1 => ?_
    refine .res hg1 ⟨(isMatcher_of_terminalOf hterm).not_isCg s1, fun p s' e => ?_⟩
    rw [terminal_val hterm e]; exact .nil
  | some (.error msg) =>
    rw [stepExpr_terminal_error hterm]
    exact .res hg (.panic (terminalOf_error_not_isCg hterm))
  | none =>
  cases e with
  | range | lit | eoi => simp [terminalOf] at hterm
  | choice alts =>
    match alts with
    | [] => exact .res hg (.panic (not_isCg_lit (by decide)))
    | [a] =>
      obtain ⟨harms, hnames, _⟩ := getFields_choice hget
      obtain ⟨h1, h2⟩ := harms a List.mem_cons_self
      rw [← filterRuleFields_single hnames]
      exact hrec.expr ctx a _ s g hn h1 (h2.trans hsub) hg
    | a :: b :: rest =>
      simp only [stepExpr]
      rw [ownFields_eq hget]
      exact evalAlts_good hrec hn _ s g (choice_arms_ok hn hget hsub) hg
  | seq parts =>
    match parts with
    | [] =>
      rw [getFields_seq_nil hget, filterRuleFields_nil]
      exact .res hg (.ok .nil)
    | [a] =>
      obtain ⟨hps, hnames, _⟩ := getFields_seq hget
      obtain ⟨h1, h2⟩ := hps a List.mem_cons_self
      rw [← filterRuleFields_single hnames]
      exact hrec.expr ctx a _ s g hn h1 (h2.trans hsub) hg
    | a :: b :: rest =>
      simp only [stepExpr]
      rw [ownFields_eq hget]
      refine (evalSeq_good hrec hn _ [] [] s g (seq_parts_ok hn hget hsub) (fun _ _ hx => by cases hx) hg).bind ?_
      intro v s1 g1 hg1 hv
      obtain ⟨p, hp, hsp⟩ := project_entries hv
      simp only [hp]
      exact .res hg1 (.ok hsp)
  | group b =>
    exact hrec.expr ctx b own s g hn (getFields_inv hget) hsub hg
  | opt b =>
    obtain ⟨fs, hb, rfl⟩ := getFields_inv hget
    rw [filterRuleFields_map_arity, opt_step]
    refine (hrec.expr ctx b fs s g hn hb ((subFields_opt fs).trans hsub) hg).caseR
      (fun _ _ g0 hg0 hr0 => .res hg0 (.ok hr0)) ?_
    intro e0 g0 hg0
    rw [ownFields_eq hb]
    obtain ⟨p, hp, hsp⟩ := defaults_entries (fs := filterRuleFields ctx.ruleFields fs) fun f hf =>
      defaultField_good (map_arity_fields_ge hn optional_le_toOptional hsub f hf)
    simp only [hp]
    exact .res hg0 (.ok hsp)
  | closure b atLeastOne =>
    obtain ⟨fs, hb, rfl⟩ := getFields_inv hget
    rw [filterRuleFields_map_arity _ fs fun _ => .multiple]
    have hmul : ∀ f ∈ filterRuleFields ctx.ruleFields fs, f.arity = .multiple := fun f hf =>
      Arity.eq_multiple_of_le (map_arity_fields_ge hn (fun _ => Arity.le_refl _) hsub f hf)
    simp only [stepExpr]
    rw [ownFields_eq hb]
    obtain ⟨init, hinit, hsi⟩ := closureInit_entries fun f hf =>
      ⟨hmul f hf, show ShapeOk f.arity _ from hmul f hf ▸ ⟨[], rfl⟩⟩
    simp only [hinit]
    refine (evalLoop_good (filterRuleFields_nodup hn fs) hmul (fun s g hg =>
          hrec.expr ctx b fs s g hn hb ((subFields_closure fs).trans hsub) hg)
        n 0 init s g hsi hg).bind ?_
    intro v s1 g1 hg1 hv
    obtain ⟨iters, acc⟩ := v
    simp only at hv ⊢
    split
    · exact .res hg1 .err
    · exact .res hg1 (.ok hv)
  | neg b =>
    obtain ⟨hb, rfl⟩ := getFields_inv hget
    rw [filterRuleFields_nil, neg_step]
    exact (hrec.expr ctx b [] s g hn hb (SubFields.nil _) hg).caseR
      (fun _ _ g0 hg0 _ => .res hg0 .err) fun _ g0 hg0 => .res hg0 (.ok .nil)
  | pos b =>
    obtain ⟨hb, rfl⟩ := getFields_inv hget
    rw [filterRuleFields_nil]
    exact (hrec.expr ctx b [] _ _ hn hb (SubFields.nil _) hg).bind
      fun _ _ g1 hg1 _ => .res hg1 (.ok .nil)
  | incl rn =>
    obtain ⟨rule, hr, hdef⟩ := getFields_inv hget
    simp only [stepExpr, hr]
    exact hrec.expr ctx rule.definition own s g hn hdef hsub hg
  | field name boxed typ =>
    refine withSkipWs_good hrec hg fun s1 g1 hg1 => (hrec.rule _ _ _ hg1).bind ?_
    intro v s2 g2 hg2 _
    cases name with
    | none =>
      rw [getFields_inv hget, filterRuleFields_nil]
      exact .res hg2 (.ok .nil)
    | some nm =>
      have hown : own = _ := getFields_inv hget
      subst hown
      obtain ⟨f, hf, hname, tb, ht⟩ := field_in_rule hsub
      rw [filterRuleFields_singleton hn hf (o := ⟨nm.key, [(typ, boxed)], .one⟩) hname.symm]
      simp only
      rw [← hname]
      obtain ⟨fv, hfv, hs⟩ := postprocessField_good hn hf ht v
      simp only [hfv]
      exact .res hg2 (.ok (.cons hs .nil))

theorem runChecks_good (fs v s g) (hg : CleanCache g) : GoodOut (fun _ _ => True) (runChecks env fs v s g) :=
  runChecks_all CleanCache.cacheOnly (fun _ => .err) (.ok trivial) fs g hg

/-- the test for an override rule (one field, `_override`) finds a field of that name -/
theorem override_mem {fields : List FieldDesc}
    (hc : (fields.length == 1 && (fields.head?.map (·.name)) == some "_override") = true) :
    ∃ f ∈ fields, f.name = "_override" := by
  cases fields with
  | nil => simp at hc
  | cons f fs =>
    simp only [List.head?_cons, Option.map_some, Bool.and_eq_true, beq_iff_eq, Option.some.injEq] at hc
    exact ⟨f, List.mem_cons_self, hc.2⟩

/-- … so a result that binds the rule's fields binds `_override` -/
theorem override_bound {P : FieldDesc → Val → Prop} {fields : List FieldDesc} {p : Parsed}
    (hc : (fields.length == 1 && (fields.head?.map (·.name)) == some "_override") = true)
    (hp : Binds P fields p) : ∃ v, p.get "_override" = some v := by
  obtain ⟨f, hf, e⟩ := override_mem hc
  obtain ⟨v, hv, _⟩ := hp f hf
  exact ⟨v, e ▸ hv⟩

/-- the three rule bodies: the expression is evaluated against its own fields, so no plumbing
    panic can occur – including "override value missing" and the final `project`.
    (The branches are taken apart by `by_cases` and `if_pos`/`if_neg`: `split` on a term of this size
    is several times dearer.) -/
theorem ruleBody_good (hrec : GoodRec env rec) {r0 : Rule} {s g} (hg : CleanCache g) :
    GoodOut (fun _ _ => True) (ruleBody env rec r0 s g) := by
  unfold ruleBody
  cases hf : getFields env.g env.nf r0.definition with
  | ok fields =>
    simp only
    have hn := getFields_nodup hf
    have hexpr : ∀ {skip}, GoodOut (fun p _ => Entries (fun f v => ShapeOk f.arity v) fields p)
        (rec.expr ⟨skip, fields⟩ r0.definition s g) := by
      intro skip
      have := hrec.expr ⟨skip, fields⟩ r0.definition fields s g hn hf (SubFields.refl _) hg
      rwa [filterRuleFields_self] at this
    by_cases h1 : r0.flags.string = true
    · rw [if_pos h1]
      exact hexpr.bind fun _ _ _ hg1 _ => runChecks_good _ _ _ _ hg1
    · rw [if_neg h1]
      by_cases h2 : (fields.length == 1 && (fields.head?.map (·.name)) == some "_override") = true
      · rw [if_pos h2]
        refine hexpr.bind ?_
        intro p s1 g1 hg1 hp
        obtain ⟨v, hv⟩ := override_bound h2 (hp.binds hn)
        simp only [hv]
        exact runChecks_good _ _ _ _ hg1
      · rw [if_neg h2]
        by_cases h3 : hasField fields "_override" = true
        · rw [if_pos h3]
          exact .res hg (.panic (not_isCg_lit (by decide)))
        · rw [if_neg h3]
          refine hexpr.bind ?_
          intro p s1 g1 hg1 hp
          obtain ⟨fs, hfs, _⟩ := project_entries (hp.binds hn)
          simp only [hfs]
          exact runChecks_good _ _ _ _ hg1
  | _ => exact .res hg (.panic (not_isCg_lit (by decide)))

theorem normalRule_good (hrec : GoodRec env rec) (n : Nat) {r0 : Rule} {s g} (hg : CleanCache g) :
    GoodOut (fun _ _ => True) (normalRule env rec n r0 s g) :=
  normalRule_all CleanCache.cacheOnly (fun _ _ hg hr => hg.insert _ hr.1) (fun _ _ hg hl => .rule (hg.lookup hl))
    .err (fun _ hg => ruleBody_good hrec hg) n g hg

theorem charRule_good (hrec : GoodRec env rec) {r0 : CharRule} {s g} (hg : CleanCache g) :
    GoodOut (fun _ _ => True) (charRule env rec r0 s g) :=
  charRule_all (R := Cg fun _ _ => True) .err
    (fun c => .rule (((isMatcher_parseCharacterLiteral c).map _).not_isCg s))
    (fun lo hi => .rule (((isMatcher_parseCharacterRange lo hi).map _).not_isCg s))
    (.panic (not_isCg_lit (by decide))) (.panic (not_isCg_lit (by decide)))
    (fun id g hg => hrec.rule id s g hg) CleanCache.cacheOnly g hg

theorem externRule_good {r0 : ExternRule} {s g} (hg : CleanCache g) :
    GoodOut (fun _ _ => True) (externRule env r0 s g) :=
  externRule_all CleanCache.cacheOnly (fun _ => .err)
    (fun _ _ _ _ _ => .rule (not_isCg_advanceSafe _ _ _)) g hg

theorem stepRule_good (hrec : GoodRec env rec) (n : Nat) : GoodR (stepRule env rec n) := by
  intro name s g hg
  unfold stepRule
  split
  · exact normalRule_good hrec n hg
  · exact charRule_good hrec hg
  · exact externRule_good hg
  · split
    · exact .res hg (.rule ((isMatcher_parseChar.map _).not_isCg _))
    · split
      · exact .res hg (.rule ((isMatcher_parseWhitespace.map _).not_isCg _))
      · exact .res hg (.panic (not_isCg_of_head name (by decide)))

end

theorem eval_goodRec (env : Env) : ∀ n, GoodRec env (eval env n) := by
  intro n
  induction n with
  | zero => exact ⟨fun _ _ _ _ _ _ _ _ _ => .none, fun _ _ _ _ => .none⟩
  | succ n ih => exact ⟨stepExpr_good ih n, stepRule_good ih n⟩

/-- **C03, expression level.**  In a context whose rule fields are duplicate-free and cover the own
    fields of `e` (as computed by the generator's `get_fields`), evaluating `e` never hits a panic
    or ill-typed statement of the field plumbing, and a successful result has exactly one entry
    per filtered rule field, of the declared shape.
    (`CleanCache g`: the memoization cache we start from holds no plumbing panic – true for the
    empty cache of `parseAdvanced`, and preserved.) -/
theorem plumbing_expr (env : Env) (n : Nat) {ctx : Ctx} {e : Expr} {own : List FieldDesc}
    {s : St} {g : Global} {r : Res Parsed} {g' : Global}
    (hn : (ctx.ruleFields.map (·.name)).Nodup)
    (hget : getFields env.g env.nf e = .ok own)
    (hsub : SubFields own ctx.ruleFields)
    (hg : CleanCache g)
    (h : (eval env n).expr ctx e s g = some (r, g')) :
    (∀ m, r ≠ .panic ("codegen: " ++ m)) ∧
    (∀ p s', r = .ok p s' → Shaped (filterRuleFields ctx.ruleFields own) p) ∧
    CleanCache g' := by
  obtain ⟨h2, h1, h3⟩ := (eval_goodRec env n).expr ctx e own s g hn hget hsub hg r g' h
  exact ⟨fun m e => h1 ⟨m, e⟩, fun p s' e => (h3 p s' e).shaped (filterRuleFields_nodup hn own), h2⟩

/-- **C03, rule body.**  The body of a rule (whose `get_fields` succeeds – otherwise the result is
    the `uncompilable: get_fields failed` panic) never produces a `codegen:` panic, in particular
    neither `override value missing` nor a failing final `project`. -/
theorem plumbing_ruleBody (env : Env) (n : Nat) {r0 : Rule} {fields : List FieldDesc}
    {s : St} {g : Global} {r : Res Val} {g' : Global}
    (_hget : getFields env.g env.nf r0.definition = .ok fields) (hg : CleanCache g)
    (h : ruleBody env (eval env n) r0 s g = some (r, g')) :
    (∀ m, r ≠ .panic ("codegen: " ++ m)) ∧ CleanCache g' := by
  obtain ⟨h2, h1, _⟩ := ruleBody_good (eval_goodRec env n) hg r g' h
  exact ⟨fun m e => h1 ⟨m, e⟩, h2⟩

/-- **C03, rule level**: no call of a generated `parse_<name>` produces a `codegen:` panic -/
theorem plumbing_rule (env : Env) (n : Nat) {name : String} {s : St} {g : Global} {r : Res Val} {g' : Global}
    (hg : CleanCache g) (h : (eval env n).rule name s g = some (r, g')) :
    ∀ m, r ≠ .panic ("codegen: " ++ m) :=
  fun m e => ((eval_goodRec env n).rule name s g hg r g' h).2.1 ⟨m, e⟩

theorem cleanCache_init (u : Nat) : CleanCache (Global.init u) := fun _ h => by cases h

/-- **C03, whole parse**: `parse_advanced` never produces a `codegen:` panic, for every grammar,
    every set of hooks, every input and every amount of fuel -/
theorem parseAdvanced_no_codegen_panic (env : Env) (fuel : Nat) (rule : String) (inp : List UInt8)
    (uctx : Nat) {r : Res Val} {g' : Global} (h : parseAdvanced env fuel rule inp uctx = some (r, g')) :
    ∀ m, r ≠ .panic ("codegen: " ++ m) :=
  plumbing_rule env fuel (cleanCache_init uctx) h

/-! ### concrete instances: the theorem applies, and its hypotheses cannot be dropped -/

namespace PlumbingExamples

/-- `X = $;  @memoize M = $;  R = a:X [a:X] (b:X | c:X);` -/
def exG : Grammar := ⟨[
  .rule { directives := [], name := "X", definition := .eoi },
  .rule { directives := [.memoize], name := "M", definition := .eoi },
  .rule { directives := [], name := "R", definition := (Expr.seq
      [Expr.field (some (.ident "a")) false "X", Expr.opt (Expr.field (some (.ident "a")) false "X"),
       Expr.choice [Expr.field (some (.ident "b")) false "X", Expr.field (some (.ident "c")) false "X"]]) }]⟩
def exEnv : Env := { g := exG, settings := { skipWhitespace := false }, hooks := default, nf := 5 }

/-- the analysis of `R`: `a` in two parts is `multiple`, `b`/`c` absent from an arm are `optional` -/
example : getFields exG 5 (.incl "R") = .ok
    [⟨"a", [("X", false)], .multiple⟩, ⟨"b", [("X", false)], .optional⟩, ⟨"c", [("X", false)], .optional⟩] := by
  rfl

/-- a successful parse of `R` on the empty input: `Vec`, `Some`, `None` as declared -/
example : ((eval exEnv 6).rule "R" (St.new []) (Global.init 0)).map (·.1) = some (.ok
    (.node "R" [("a", .list [.node "X" [] none, .node "X" [] none]),
                ("b", .some (.node "X" [] none)), ("c", .none)] none) (St.new [])) := by
  rfl

/-- the hypothesis `SubFields own ctx.ruleFields` of `plumbing_expr` cannot be dropped: a field
    evaluated in a context that does not declare it is the `expect("Field not found")` panic -/
example : ((eval exEnv 3).expr ⟨false, []⟩ (.field (some (.ident "a")) false "X") (St.new []) (Global.init 0)).map (·.1)
    = some (.panic ("codegen: " ++ "Field not found in rule_fields")) := by
  rfl

/-- the hypothesis `CleanCache g` cannot be dropped: a poisoned cache entry is returned verbatim
    by a `@memoize` rule -/
example : ((eval exEnv 1).rule "M" (St.new [])
      { cache := [(("M", 0), .panic ("codegen: " ++ "poison"))], log := [], uctx := 0 }).map (·.1)
    = some (.panic ("codegen: " ++ "poison")) := by
  rfl

end PlumbingExamples

end Peg
