import PegVerif.Proofs.Basics
/-
  Fuel monotonicity of the implementation model `eval`: an answer (result *and* final global
  state), once produced, is the answer for every larger fuel.  Same structure as `SpecMono.lean`.
-/
namespace Peg

def LeE (a b : Ctx → Expr → St → Global → Out Parsed) : Prop :=
  ∀ ctx e s g r, a ctx e s g = some r → b ctx e s g = some r
def LeR (a b : String → St → Global → Out Val) : Prop :=
  ∀ n s g r, a n s g = some r → b n s g = some r

structure RLe (a b : Rec) : Prop where
  expr : LeE a.expr b.expr
  rule : LeR a.rule b.rule

theorem caseR_le {α β} {x x' : Out α} {ok ok' : α → St → Global → Out β} {err err' : PErr → Global → Out β}
    {r : Res β × Global} (hx : ∀ a, x = some a → x' = some a)
    (hok : ∀ v s g r, ok v s g = some r → ok' v s g = some r)
    (herr : ∀ e g r, err e g = some r → err' e g = some r)
    (h : caseR x ok err = some r) : caseR x' ok' err' = some r := by
  match x, h with
  | some (a, g), h =>
    rw [hx _ rfl]
    cases a with
    | ok v s => exact hok v s g r h
    | err e => exact herr e g r h
    | panic m => exact h

theorem bindR_le {α β} {x x' : Out α} {k k' : α → St → Global → Out β} {r : Res β × Global}
    (hx : ∀ a, x = some a → x' = some a)
    (hk : ∀ v s g r, k v s g = some r → k' v s g = some r)
    (h : bindR x k = some r) : bindR x' k' = some r :=
  caseR_le hx hk (fun _ _ _ h => h) h

theorem withSkipWs_le {α} {rec rec' : Rec} (hle : RLe rec rec') {ctx s g}
    {k k' : St → Global → Out α} {r}
    (hk : ∀ s g r, k s g = some r → k' s g = some r)
    (h : withSkipWs rec ctx s g k = some r) : withSkipWs rec' ctx s g k' = some r := by
  unfold withSkipWs at h ⊢
  split
  · rw [if_pos ‹_›] at h
    exact bindR_le (hle.rule _ _ _) (fun _ => hk) h
  · rw [if_neg ‹_›] at h
    exact hk _ _ _ h

theorem evalSeq_le {env} {rec rec' : Rec} (hle : RLe rec rec') {ctx} :
    ∀ ps seen acc s g r, evalSeq env rec ctx ps seen acc s g = some r →
      evalSeq env rec' ctx ps seen acc s g = some r := by
  intro ps
  induction ps with
  | nil => exact fun _ _ _ _ _ h => h
  | cons p ps ih =>
    intro seen acc s g r h
    refine bindR_le (hle.expr _ _ _ _) (fun v s' g' r' h' => ?_) h
    dsimp only at h' ⊢
    split at h'
    · exact h'
    · exact ih _ _ _ _ _ h'

theorem evalAlts_le {env} {rec rec' : Rec} (hle : RLe rec rec') {ctx fields} :
    ∀ as s g r, evalAlts env rec ctx fields as s g = some r →
      evalAlts env rec' ctx fields as s g = some r := by
  intro as
  induction as with
  | nil => exact fun _ _ _ h => h
  | cons a as ih =>
    intro s g r h
    rw [evalAlts_step] at h ⊢
    exact caseR_le (hle.expr _ _ _ _) (fun _ _ _ _ h => h) (fun _ _ => ih _ _) h

theorem evalLoop_le {body body' : St → Global → Out Parsed} {fields}
    (hb : ∀ s g r, body s g = some r → body' s g = some r) :
    ∀ k k' iters acc s g r, k ≤ k' → evalLoop body fields k iters acc s g = some r →
      evalLoop body' fields k' iters acc s g = some r := by
  intro k
  induction k with
  | zero => exact fun _ _ _ _ _ _ _ h => nomatch h
  | succ k ih =>
    intro k' iters acc s g r hk h
    obtain ⟨k'', rfl⟩ : ∃ k'', k' = k'' + 1 := ⟨k' - 1, by omega⟩
    rw [evalLoop_step] at h ⊢
    refine caseR_le (hb s g) (fun v s' g' r' h' => ?_) (fun _ _ _ h => h) h
    split at h'
    · exact ih _ _ _ _ _ _ (by omega) h'
    · exact h'

theorem stepExpr_le {env} {rec rec' : Rec} (hle : RLe rec rec') {n m : Nat} (hnm : n ≤ m) :
    LeE (stepExpr env rec n) (stepExpr env rec' m) := by
  intro ctx e s g r h
  match hterm : terminalOf e with
  | some (.ok mt) =>
    rw [stepExpr_terminal hterm] at h ⊢
    exact withSkipWs_le hle (fun _ _ _ h => h) h
  | some (.error msg) =>
    rw [stepExpr_terminal_error hterm] at h ⊢
    exact h
  | none =>
    cases e with
    | range | lit | eoi => simp [terminalOf] at hterm
    | choice alts =>
      match alts with
      | [] => exact h
      | [a] => exact hle.expr _ _ _ _ _ h
      | a :: b :: rest => exact evalAlts_le hle _ _ _ _ h
    | seq parts =>
      match parts with
      | [] => exact h
      | [a] => exact hle.expr _ _ _ _ _ h
      | a :: b :: rest => exact bindR_le (evalSeq_le hle _ _ _ _ _) (fun _ _ _ _ h => h) h
    | group b => exact hle.expr _ _ _ _ _ h
    | opt b =>
      rw [opt_step] at h ⊢
      exact caseR_le (hle.expr _ _ _ _) (fun _ _ _ _ h => h) (fun _ _ _ h => h) h
    | closure b plus =>
      simp only [stepExpr] at h ⊢
      split at h
      · exact h
      · exact bindR_le (fun _ => evalLoop_le (hle.expr _ _) _ _ _ _ _ _ _ hnm) (fun _ _ _ _ h => h) h
    | neg b =>
      rw [neg_step] at h ⊢
      exact caseR_le (hle.expr _ _ _ _) (fun _ _ _ _ h => h) (fun _ _ _ h => h) h
    | pos b => exact bindR_le (hle.expr _ _ _ _) (fun _ _ _ _ h => h) h
    | incl r0 =>
      simp only [stepExpr] at h ⊢
      split at h
      · exact h
      · exact hle.expr _ _ _ _ _ h
    | field name boxed typ =>
      exact withSkipWs_le hle (fun _ _ _ h => bindR_le (hle.rule _ _ _) (fun _ _ _ _ h => h) h) h

theorem charParts_le {rec rec' : Rec} (hle : RLe rec rec') {name} :
    ∀ ps s g r, charParts rec name ps s g = some r → charParts rec' name ps s g = some r := by
  intro ps
  induction ps with
  | nil => exact fun _ _ _ h => h
  | cons p ps ih =>
    intro s g r h
    rw [charParts_step] at h ⊢
    refine caseR_le ?_ (fun _ _ _ _ h => h) (fun _ _ => ih _ _) h
    cases p with
    | ident id => exact hle.rule _ _ _
    | _ => exact fun _ h => h

theorem ruleBody_le {env} {rec rec' : Rec} (hle : RLe rec rec') {r0 : Rule} {s g r}
    (h : ruleBody env rec r0 s g = some r) : ruleBody env rec' r0 s g = some r := by
  cases hf : getFields env.g env.nf r0.definition with
  | ok fields =>
    rw [ruleBody_eq hf] at h ⊢
    split at h
    · rwa [if_pos ‹_›]
    · rw [if_neg ‹_›]
      exact bindR_le (hle.expr _ _ s g) (fun _ _ _ _ h => h) h
  | err | fuel => simpa only [ruleBody, hf] using h

theorem growLoop_le {body body' : St → Global → Out Val} {key s}
    (hb : ∀ s g r, body s g = some r → body' s g = some r) :
    ∀ k k' best g r, k ≤ k' → growLoop body key s k best g = some r →
      growLoop body' key s k' best g = some r := by
  intro k
  induction k with
  | zero => exact fun _ _ _ _ _ h => nomatch h
  | succ k ih =>
    intro k' best g r hk h
    obtain ⟨k'', rfl⟩ : ∃ k'', k' = k'' + 1 := ⟨k' - 1, by omega⟩
    rw [growLoop_step] at h ⊢
    refine caseR_le (hb s _) (fun v ns g' r' h' => ?_) (fun _ _ _ h => h) h
    cases hc : improves best ns <;> simp only [hc, if_true, Bool.false_eq_true, if_false] at h' ⊢
    · exact h'
    · exact ih _ _ _ _ (by omega) h'

theorem memoBody_le {flags name} {body body' : St → Global → Out Val}
    (hb : ∀ s g r, body s g = some r → body' s g = some r) {n m : Nat} (hnm : n ≤ m) {s g r}
    (h : memoBody flags name body n s g = some r) : memoBody flags name body' m s g = some r := by
  rw [memoBody_step] at h ⊢
  split
  · rw [if_pos ‹_›] at h
    split at h
    · exact h
    · exact growLoop_le hb _ _ _ _ _ hnm h
  · rw [if_neg ‹_›] at h
    split
    · rw [if_pos ‹_›] at h
      split at h
      · exact h
      · exact caseR_le (hb s _) (fun _ _ _ _ h => h) (fun _ _ _ h => h) h
    · rw [if_neg ‹_›] at h
      exact hb _ _ _ h

theorem normalRule_le {env} {rec rec' : Rec} (hle : RLe rec rec') {n m : Nat} (hnm : n ≤ m)
    {r0 : Rule} {s g r} (h : normalRule env rec n r0 s g = some r) :
    normalRule env rec' m r0 s g = some r := by
  unfold normalRule at h ⊢
  dsimp only at h ⊢
  split at h
  · cases h
  · rw [memoBody_le (fun _ _ _ hb => ruleBody_le hle hb) hnm ‹_›]
    exact h

theorem stepRule_le {env} {rec rec' : Rec} (hle : RLe rec rec') {n m : Nat} (hnm : n ≤ m) :
    LeR (stepRule env rec n) (stepRule env rec' m) := by
  intro name s g r h
  unfold stepRule at h ⊢
  split at h
  · exact normalRule_le hle hnm h
  · unfold charRule at h ⊢
    split at h
    · rw [if_pos ‹_›]
      exact charParts_le hle _ _ _ _ h
    · rw [if_neg ‹_›]
      split at h
      · exact h
      · split at h
        · exact h
        · exact charParts_le hle _ _ _ _ h
  · exact h
  · exact h

theorem step_le {env} {rec rec' : Rec} (hle : RLe rec rec') {n m : Nat} (hnm : n ≤ m) :
    RLe (step env rec n) (step env rec' m) :=
  ⟨stepExpr_le hle hnm, stepRule_le hle hnm⟩

theorem eval_le_succ (env : Env) : ∀ n, RLe (eval env n) (eval env (n + 1)) := by
  intro n
  induction n with
  | zero => exact ⟨fun _ _ _ _ _ h => (nomatch h), fun _ _ _ _ h => (nomatch h)⟩
  | succ n ih => exact step_le ih (Nat.le_succ n)

theorem eval_mono (env : Env) {n m : Nat} (h : n ≤ m) : RLe (eval env n) (eval env m) :=
  ⟨fun ctx e s g _ => fuel_mono (f := fun n => (eval env n).expr ctx e s g) (fun n => (eval_le_succ env n).expr ctx e s g) h,
   fun name s g _ => fuel_mono (f := fun n => (eval env n).rule name s g) (fun n => (eval_le_succ env n).rule name s g) h⟩

/-- the implementation's answer (result and final global state) is unique across fuels -/
theorem eval_rule_det (env : Env) {n m : Nat} {name s g r r'}
    (h : (eval env n).rule name s g = some r) (h' : (eval env m).rule name s g = some r') : r = r' :=
  fuel_det (f := fun n => (eval env n).rule name s g) (fun n => (eval_le_succ env n).rule name s g) h h'

end Peg
