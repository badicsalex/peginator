import PegVerif.Fields
/-
  The arity lattice `one ≤ optional ≤ multiple` and structural facts about the generator's field
  analysis `getFields`, in this order:
  * `combineChoice` is the join (`max`) of the lattice, `toOptional a = combineChoice a .optional`;
  * type lists: `combineTypes` unites the keys and ors the boxed flags; inclusion of type lists (`TSub`) in those terms;
  * "local descriptor ≤ enclosing descriptor" (`FLe`, `SubFields`), field names;
  * `Merged all news out`: `out` arises from the fields `all` by merging in the descriptors `news` (reflexive, transitive);
    a property of single descriptors that merging keeps is a `FieldInv`;
  * the loops of `Sequence::get_fields` and `Choice::get_fields` as folds of one step each: a step merges one descriptor,
    by raising the entry of its name (`Merged.update`) or by appending it (`Merged.append`), so either merge merges the
    new part / arm, and either fold over the parts / arms merges all their descriptors (`foldl_seqMerge_ok`,
    `choiceFields_ok`);
  * a field occurring in two different parts of a sequence is `multiple`; a field of a choice that is
    absent from an arm is at least `optional`;
  * one step of `getFields` (`FieldsStep`: `getFields_succ_inv` with the sub-calls at one unit of fuel less,
    `getFields_inv` with the sub-calls at the fuel of the whole), fuel monotonicity;
  * what every result of `getFields` has (`getFields_induction`: `P` of the fresh fields, kept along `Merged`;
    `getFields_forall`): duplicate-free field names, non-empty type lists;
  * the summaries per construct, `getFields_seq` and `getFields_choice`.
-/
namespace Peg

/-! ### the arity order -/

def Arity.rank : Arity → Nat
  | .one => 0
  | .optional => 1
  | .multiple => 2

def Arity.le (a b : Arity) : Prop := a.rank ≤ b.rank

instance : LE Arity := ⟨Arity.le⟩

instance (a b : Arity) : Decidable (a ≤ b) := inferInstanceAs (Decidable (a.rank ≤ b.rank))

theorem Arity.le_def {a b : Arity} : a ≤ b ↔ a.rank ≤ b.rank := Iff.rfl

theorem Arity.rank_inj {a b : Arity} (h : a.rank = b.rank) : a = b := by
  cases a <;> cases b <;> first | rfl | cases h

theorem Arity.le_refl (a : Arity) : a ≤ a := Nat.le_refl _
theorem Arity.le_trans {a b c : Arity} (h1 : a ≤ b) (h2 : b ≤ c) : a ≤ c := Nat.le_trans h1 h2
theorem Arity.le_antisymm {a b : Arity} (h1 : a ≤ b) (h2 : b ≤ a) : a = b :=
  Arity.rank_inj (Nat.le_antisymm h1 h2)
theorem Arity.le_total (a b : Arity) : a ≤ b ∨ b ≤ a := Nat.le_total _ _
theorem Arity.one_le (a : Arity) : Arity.one ≤ a := Nat.zero_le _
theorem Arity.le_multiple (a : Arity) : a ≤ Arity.multiple := by cases a <;> decide
theorem Arity.eq_multiple_of_le {a : Arity} (h : Arity.multiple ≤ a) : a = .multiple := by
  cases a <;> first | rfl | exact absurd h (by decide)
theorem Arity.ne_one_of_optional_le {a : Arity} (h : Arity.optional ≤ a) : a ≠ .one := by
  cases a <;> first | exact absurd h (by decide) | exact fun h => nomatch h
theorem Arity.optional_le_of_ne_one {a : Arity} (h : a ≠ .one) : Arity.optional ≤ a := by
  cases a <;> first | exact absurd rfl h | decide

/-- `combine_arities_for_choice` of the generator is the join of the lattice -/
theorem rank_combineChoice (a b : Arity) : (combineChoice a b).rank = max a.rank b.rank := by
  cases a <;> cases b <;> rfl

theorem combineChoice_comm (a b : Arity) : combineChoice a b = combineChoice b a := by
  cases a <;> cases b <;> rfl

theorem combineChoice_assoc (a b c : Arity) :
    combineChoice (combineChoice a b) c = combineChoice a (combineChoice b c) := by
  cases a <;> cases b <;> cases c <;> rfl

theorem combineChoice_idem (a : Arity) : combineChoice a a = a := by cases a <;> rfl

theorem le_combineChoice_left (a b : Arity) : a ≤ combineChoice a b := by
  cases a <;> cases b <;> decide

theorem le_combineChoice_right (a b : Arity) : b ≤ combineChoice a b := by
  cases a <;> cases b <;> decide

theorem combineChoice_le {a b c : Arity} (h1 : a ≤ c) (h2 : b ≤ c) : combineChoice a b ≤ c := by
  rw [Arity.le_def, rank_combineChoice]; exact Nat.max_le.mpr ⟨h1, h2⟩

theorem combineChoice_mono {a a' b b' : Arity} (h1 : a ≤ a') (h2 : b ≤ b') :
    combineChoice a b ≤ combineChoice a' b' :=
  combineChoice_le (Arity.le_trans h1 (le_combineChoice_left _ _))
    (Arity.le_trans h2 (le_combineChoice_right _ _))

/-- `set_arity_to_optional` is the join with `optional` -/
theorem toOptional_eq (a : Arity) : toOptional a = combineChoice a .optional := by cases a <;> rfl

theorem rank_toOptional (a : Arity) : (toOptional a).rank = max a.rank 1 := by cases a <;> rfl

theorem le_toOptional (a : Arity) : a ≤ toOptional a := by cases a <;> decide

theorem optional_le_toOptional (a : Arity) : Arity.optional ≤ toOptional a := by cases a <;> decide

theorem toOptional_mono {a b : Arity} (h : a ≤ b) : toOptional a ≤ toOptional b := by
  rw [toOptional_eq, toOptional_eq]; exact combineChoice_mono h (Arity.le_refl _)

theorem toOptional_idem (a : Arity) : toOptional (toOptional a) = toOptional a := by cases a <;> rfl

/-! ### type sets -/

/-- every type of `a` occurs in `b`, and `boxed` is only ever switched on -/
def TSub (a b : List (String × Bool)) : Prop :=
  ∀ t ∈ a, ∃ t' ∈ b, t'.1 = t.1 ∧ (t.2 = true → t'.2 = true)

theorem TSub.refl (a : List (String × Bool)) : TSub a a := fun t ht => ⟨t, ht, rfl, id⟩

theorem TSub.trans {a b c : List (String × Bool)} (h1 : TSub a b) (h2 : TSub b c) : TSub a c := by
  intro t ht
  obtain ⟨t1, ht1, e1, b1⟩ := h1 t ht
  obtain ⟨t2, ht2, e2, b2⟩ := h2 t1 ht1
  exact ⟨t2, ht2, e2.trans e1, fun h => b2 (b1 h)⟩

def keys (l : List (String × Bool)) : List String := l.map (·.1)

/-- is some occurrence of key `x` marked boxed -/
def boxedFlag (l : List (String × Bool)) (x : String) : Bool := l.any (fun kv => kv.1 == x && kv.2)

theorem keys_insertType (l : List (String × Bool)) (kv : String × Bool) (x : String) :
    x ∈ keys (insertType l kv) ↔ x ∈ keys l ∨ x = kv.1 := by
  obtain ⟨k', b'⟩ := kv
  induction l with
  | nil => simp [insertType, keys]
  | cons hd rest ih =>
    obtain ⟨k, b⟩ := hd
    simp only [insertType]
    split
    · rename_i hk
      have hk : k = k' := by simpa using hk
      simp only [keys, List.map_cons, List.mem_cons, hk]
      exact ⟨Or.inl, fun h => h.elim id Or.inl⟩
    · split
      · simp only [keys, List.map_cons, List.mem_cons]; exact or_comm
      · have ih' : x ∈ keys (insertType rest (k', b')) ↔ x ∈ keys rest ∨ x = k' := ih
        simp only [keys, List.map_cons, List.mem_cons, or_assoc] at ih' ⊢
        rw [ih']

/-- the boxed flag of a key after an insertion: `boxed ||= v.boxed` -/
theorem boxedFlag_insertType (l : List (String × Bool)) (kv : String × Bool) (x : String) :
    boxedFlag (insertType l kv) x = (boxedFlag l x || (kv.1 == x && kv.2)) := by
  obtain ⟨k', b'⟩ := kv
  induction l with
  | nil => simp [insertType, boxedFlag]
  | cons hd rest ih =>
    obtain ⟨k, b⟩ := hd
    simp only [insertType]
    split
    · rename_i hk
      have hk : k = k' := by simpa using hk
      subst hk
      simp only [boxedFlag, List.any_cons]
      cases (k == x) <;> cases b <;> cases b' <;> simp
    · split
      · simp only [boxedFlag, List.any_cons]
        cases (k' == x && b') <;> simp
      · have ih' : boxedFlag (insertType rest (k', b')) x = (boxedFlag rest x || (k' == x && b')) := ih
        simp only [boxedFlag, List.any_cons] at ih' ⊢
        rw [ih', Bool.or_assoc]

/-- key set of the result = union of the key sets -/
theorem keys_combineTypes (l r : List (String × Bool)) (x : String) :
    x ∈ keys (combineTypes l r) ↔ x ∈ keys l ∨ x ∈ keys r := by
  unfold combineTypes
  induction r generalizing l with
  | nil => simp [keys]
  | cons kv r ih =>
    rw [List.foldl_cons, ih, keys_insertType]
    simp only [keys, List.map_cons, List.mem_cons, or_assoc]

/-- boxed flag of the result = or of the flags (boxed = some occurrence is marked boxed) -/
theorem boxedFlag_combineTypes (l r : List (String × Bool)) (x : String) :
    boxedFlag (combineTypes l r) x = (boxedFlag l x || boxedFlag r x) := by
  unfold combineTypes
  induction r generalizing l with
  | nil => simp [boxedFlag]
  | cons kv r ih =>
    rw [List.foldl_cons, ih, boxedFlag_insertType]
    simp only [boxedFlag, List.any_cons, Bool.or_assoc]

theorem boxedFlag_iff {l : List (String × Bool)} {x : String} :
    boxedFlag l x = true ↔ ∃ t ∈ l, t.1 = x ∧ t.2 = true := by
  simp only [boxedFlag, List.any_eq_true, Bool.and_eq_true, beq_iff_eq]

theorem TSub_iff {a b : List (String × Bool)} :
    TSub a b ↔ (∀ x ∈ keys a, x ∈ keys b) ∧ ∀ x, boxedFlag a x = true → boxedFlag b x = true := by
  constructor
  · intro h
    refine ⟨fun x hx => ?_, fun x hx => ?_⟩
    · obtain ⟨t, ht, rfl⟩ := List.mem_map.mp hx
      obtain ⟨t', ht', e, _⟩ := h t ht
      exact List.mem_map.mpr ⟨t', ht', e⟩
    · obtain ⟨t, ht, rfl, hb⟩ := boxedFlag_iff.mp hx
      obtain ⟨t', ht', e, hb'⟩ := h t ht
      exact boxedFlag_iff.mpr ⟨t', ht', e, hb' hb⟩
  · rintro ⟨hk, hb⟩ t ht
    by_cases h2 : t.2 = true
    · obtain ⟨t', ht', e, hb'⟩ := boxedFlag_iff.mp (hb t.1 (boxedFlag_iff.mpr ⟨t, ht, rfl, h2⟩))
      exact ⟨t', ht', e, fun _ => hb'⟩
    · obtain ⟨t', ht', e⟩ := List.mem_map.mp (hk t.1 (List.mem_map.mpr ⟨t, ht, rfl⟩))
      exact ⟨t', ht', e, fun h => absurd h h2⟩

theorem TSub_combineTypes_left (l r : List (String × Bool)) : TSub l (combineTypes l r) :=
  TSub_iff.mpr ⟨fun x hx => (keys_combineTypes l r x).mpr (.inl hx),
    fun x hx => by rw [boxedFlag_combineTypes, hx]; rfl⟩

theorem TSub_combineTypes_right (l r : List (String × Bool)) : TSub r (combineTypes l r) :=
  TSub_iff.mpr ⟨fun x hx => (keys_combineTypes l r x).mpr (.inr hx),
    fun x hx => by rw [boxedFlag_combineTypes, hx, Bool.or_true]⟩

theorem combineTypes_ne_nil {l r : List (String × Bool)} (h : l ≠ []) : combineTypes l r ≠ [] := by
  obtain ⟨t, ht⟩ := List.exists_mem_of_ne_nil l h
  intro e
  have := (keys_combineTypes l r t.1).mpr (.inl (List.mem_map.mpr ⟨t, ht, rfl⟩))
  rw [e] at this; cases this


/-! ### `SubFields`: local descriptor ≤ enclosing descriptor -/

/-- descriptor `o` (of the enclosing construct) covers descriptor `f` (of a sub-construct) -/
def FLe (f o : FieldDesc) : Prop := o.name = f.name ∧ f.arity ≤ o.arity ∧ TSub f.types o.types

theorem FLe.refl (f : FieldDesc) : FLe f f := ⟨rfl, Arity.le_refl _, TSub.refl _⟩
theorem FLe.trans {a b c : FieldDesc} (h1 : FLe a b) (h2 : FLe b c) : FLe a c :=
  ⟨h2.1.trans h1.1, Arity.le_trans h1.2.1 h2.2.1, h1.2.2.trans h2.2.2⟩

/-- every field of `inner` occurs in `outer` with at least that arity and at least those types -/
def SubFields (inner outer : List FieldDesc) : Prop :=
  ∀ f ∈ inner, ∃ o ∈ outer, o.name = f.name ∧ f.arity ≤ o.arity ∧
    (∀ t ∈ f.types, ∃ t' ∈ o.types, t'.1 = t.1 ∧ (t.2 = true → t'.2 = true))

theorem subFields_iff {inner outer : List FieldDesc} :
    SubFields inner outer ↔ ∀ f ∈ inner, ∃ o ∈ outer, FLe f o := Iff.rfl

theorem SubFields.refl (fs : List FieldDesc) : SubFields fs fs := fun f hf => ⟨f, hf, FLe.refl f⟩

theorem SubFields.trans {a b c : List FieldDesc} (h1 : SubFields a b) (h2 : SubFields b c) :
    SubFields a c := by
  intro f hf
  obtain ⟨o1, ho1, l1⟩ := h1 f hf
  obtain ⟨o2, ho2, l2⟩ := h2 o1 ho1
  exact ⟨o2, ho2, FLe.trans l1 l2⟩

theorem SubFields.nil (fs : List FieldDesc) : SubFields [] fs := fun _ h => by cases h

theorem SubFields.append_left {a b : List FieldDesc} (c : List FieldDesc) (h : SubFields a b) :
    SubFields a (b ++ c) := fun f hf => by
  obtain ⟨o, ho, l⟩ := h f hf
  exact ⟨o, List.mem_append_left _ ho, l⟩

/-! ### field names -/

theorem hasField_iff {fs : List FieldDesc} {x : String} : hasField fs x = true ↔ x ∈ fs.map (·.name) := by
  simp only [hasField, List.any_eq_true, List.mem_map, beq_iff_eq]

theorem hasField_append {a b : List FieldDesc} {x : String} :
    hasField (a ++ b) x = true ↔ hasField a x = true ∨ hasField b x = true := by
  simp only [hasField, List.any_append, Bool.or_eq_true]

theorem hasField_false_iff {fs : List FieldDesc} {x : String} :
    hasField fs x = false ↔ x ∉ fs.map (·.name) := by
  rw [← hasField_iff]; simp

theorem hasField_of_mem {fs : List FieldDesc} {f : FieldDesc} (h : f ∈ fs) : hasField fs f.name = true :=
  hasField_iff.mpr (List.mem_map.mpr ⟨f, h, rfl⟩)

theorem exists_of_hasField {fs : List FieldDesc} {x : String} (h : hasField fs x = true) :
    ∃ f ∈ fs, f.name = x := by
  obtain ⟨f, hf, e⟩ := List.mem_map.mp (hasField_iff.mp h)
  exact ⟨f, hf, e⟩

theorem SubFields.hasField {a b : List FieldDesc} (h : SubFields a b) {x : String}
    (hx : hasField a x = true) : hasField b x = true := by
  obtain ⟨f, hf, rfl⟩ := exists_of_hasField hx
  obtain ⟨o, ho, e, _⟩ := h f hf
  exact e ▸ hasField_of_mem ho

/-- in a list with duplicate-free names a descriptor is determined by its name -/
theorem eq_of_name_eq {fs : List FieldDesc} (hn : (fs.map (·.name)).Nodup) {a b : FieldDesc}
    (ha : a ∈ fs) (hb : b ∈ fs) (h : a.name = b.name) : a = b := by
  induction fs with
  | nil => cases ha
  | cons f fs ih =>
    simp only [List.map_cons, List.nodup_cons, List.mem_map, not_exists, not_and] at hn
    rcases List.mem_cons.mp ha with ha' | ha' <;> rcases List.mem_cons.mp hb with hb' | hb'
    · rw [ha', hb']
    · subst ha'; exact absurd h.symm (hn.1 b hb')
    · subst hb'; exact absurd h (hn.1 a ha')
    · exact ih hn.2 ha' hb'

theorem filterRuleFields_nil (RF : List FieldDesc) : filterRuleFields RF [] = [] := by
  unfold filterRuleFields
  exact List.filter_eq_nil_iff.mpr (fun f _ => by simp [hasField])

theorem filterRuleFields_singleton {RF : List FieldDesc} (hn : (RF.map (·.name)).Nodup) {f : FieldDesc}
    (hf : f ∈ RF) {o : FieldDesc} (e : o.name = f.name) : filterRuleFields RF [o] = [f] := by
  unfold filterRuleFields
  have hh : ∀ rf : FieldDesc, hasField [o] rf.name = (f.name == rf.name) := by
    intro rf; simp [hasField, e]
  simp only [hh]
  induction RF with
  | nil => cases hf
  | cons a RF ih =>
    simp only [List.map_cons, List.nodup_cons] at hn
    rcases List.mem_cons.mp hf with rfl | hf
    · rw [List.filter_cons, if_pos (by simp)]
      congr 1
      refine List.filter_eq_nil_iff.mpr (fun b hb hc => hn.1 ?_)
      rw [beq_iff_eq.mp hc]; exact List.mem_map.mpr ⟨b, hb, rfl⟩
    · have hne : ¬ (f.name == a.name) = true := by
        intro hc; exact hn.1 (beq_iff_eq.mp hc ▸ List.mem_map.mpr ⟨f, hf, rfl⟩)
      rw [List.filter_cons, if_neg hne]
      exact ih hn.2 hf

/-! ### `Merged`, and one merge step (sequence and choice) -/

theorem map_name_update (all : List FieldDesc) (upd : FieldDesc → FieldDesc)
    (h : ∀ o, (upd o).name = o.name) : (all.map upd).map (·.name) = all.map (·.name) := by
  rw [List.map_map]; exact List.map_congr_left (fun o _ => h o)

/-- A property of single descriptors that the merges keep: it survives raising the arity and taking in
    further types. -/
structure FieldInv (Q : FieldDesc → Prop) : Prop where
  arity : ∀ f a, f.arity ≤ a → Q f → Q { f with arity := a }
  combine : ∀ o ts a, o.arity ≤ a → Q o → Q { o with arity := a, types := combineTypes o.types ts }

theorem fieldInv_types_ne_nil : FieldInv (fun f => f.types ≠ []) :=
  ⟨fun _ _ _ h => h, fun _ _ _ _ h => combineTypes_ne_nil h⟩

/-- `out` arises from the fields `all` by merging in the descriptors `news`: the names stay duplicate-free and are those
    of `all` and of `news`, both are covered, and what the merges keep (`FieldInv`) holds of `out` if it holds of both. -/
structure Merged (all news out : List FieldDesc) : Prop where
  nodup : (all.map (·.name)).Nodup → (out.map (·.name)).Nodup
  mem : ∀ x, hasField out x = true ↔ hasField all x = true ∨ hasField news x = true
  sub : SubFields all out
  new : SubFields news out
  inv : ∀ {Q}, FieldInv Q → (∀ f ∈ all, Q f) → (∀ f ∈ news, Q f) → ∀ f ∈ out, Q f

theorem Merged.refl (all : List FieldDesc) : Merged all [] all :=
  ⟨id, fun x => by simp [hasField], SubFields.refl _, SubFields.nil _, fun _ h _ => h⟩

theorem Merged.trans {a n₁ b n₂ c : List FieldDesc} (h₁ : Merged a n₁ b) (h₂ : Merged b n₂ c) :
    Merged a (n₁ ++ n₂) c where
  nodup hn := h₂.nodup (h₁.nodup hn)
  mem x := by rw [h₂.mem, h₁.mem, hasField_append, or_assoc]
  sub := h₁.sub.trans h₂.sub
  new f hf := (List.mem_append.mp hf).elim (h₁.new.trans h₂.sub f) (h₂.new f)
  inv hQ ha hn := h₂.inv hQ (h₁.inv hQ ha fun f hf => hn f (List.mem_append_left _ hf))
    fun f hf => hn f (List.mem_append_right _ hf)

/-- raising arities merges nothing in -/
theorem Merged.raise (all : List FieldDesc) (u : FieldDesc → Arity) (hu : ∀ f, f.arity ≤ u f) :
    Merged all [] (all.map fun f => { f with arity := u f }) := by
  have names := map_name_update all (fun f => { f with arity := u f }) (fun _ => rfl)
  refine ⟨fun hn => names ▸ hn, fun x => by rw [hasField_iff, names, ← hasField_iff]; simp [hasField],
    fun f hf => ⟨_, List.mem_map.mpr ⟨f, hf, rfl⟩, rfl, hu f, TSub.refl _⟩, SubFields.nil _, ?_⟩
  intro Q hQ h _ f hf
  obtain ⟨o, ho, rfl⟩ := List.mem_map.mp hf
  exact hQ.arity o _ (hu o) (h o ho)

/-- a descriptor whose name is present is merged in by raising the entry of that name and taking in its types -/
theorem Merged.update {all : List FieldDesc} {nf : FieldDesc} (h : hasField all nf.name = true) (a : FieldDesc → Arity)
    (ha : ∀ o, o.arity ≤ a o) (hn : ∀ o, nf.arity ≤ a o) :
    Merged all [nf] (all.map fun o => if o.name == nf.name then
      { o with arity := a o, types := combineTypes o.types nf.types } else o) := by
  have names := map_name_update all (fun o => if o.name == nf.name then
      { o with arity := a o, types := combineTypes o.types nf.types } else o) (fun o => by split <;> rfl)
  refine ⟨fun hd => names ▸ hd, fun x => ?_, fun f hf => ⟨_, List.mem_map.mpr ⟨f, hf, rfl⟩, ?_⟩, fun f hf => ?_, ?_⟩
  · rw [hasField_iff, names, ← hasField_iff]
    refine ⟨Or.inl, fun hx => hx.elim id fun hx => ?_⟩
    obtain ⟨f, hf, rfl⟩ := exists_of_hasField hx
    rw [List.mem_singleton.mp hf]; exact h
  · split
    · exact ⟨rfl, ha f, TSub_combineTypes_left _ _⟩
    · exact FLe.refl f
  · obtain ⟨o, ho, e⟩ := exists_of_hasField h
    rw [List.mem_singleton.mp hf]
    refine ⟨_, List.mem_map.mpr ⟨o, ho, rfl⟩, ?_⟩
    rw [if_pos (by simp [e])]
    exact ⟨e, hn o, TSub_combineTypes_right _ _⟩
  · intro Q hQ hall _ f hf
    obtain ⟨o, ho, rfl⟩ := List.mem_map.mp hf
    split
    · exact hQ.combine o nf.types _ (ha o) (hall o ho)
    · exact hall o ho

/-- a descriptor whose name is new is merged in by appending it, possibly with a higher arity -/
theorem Merged.append {all : List FieldDesc} {nf : FieldDesc} (h : ¬ hasField all nf.name = true) {a : Arity}
    (ha : nf.arity ≤ a) : Merged all [nf] (all ++ [{ nf with arity := a }]) where
  nodup hd := by
    rw [List.map_append]
    exact List.nodup_append.mpr ⟨hd, by simp, fun x hx y hy => by
      rcases List.mem_singleton.mp hy with rfl; exact fun e => h (hasField_iff.mpr ((show x = nf.name from e) ▸ hx))⟩
  mem x := by rw [hasField_append]; simp [hasField]
  sub := (SubFields.refl all).append_left _
  new f hf := ⟨_, List.mem_append_right _ (List.mem_singleton.mpr rfl), by rw [List.mem_singleton.mp hf], by
    rw [List.mem_singleton.mp hf]; exact ⟨ha, TSub.refl _⟩⟩
  inv hQ hall hnew f hf := by
    rcases List.mem_append.mp hf with hf | hf
    · exact hall f hf
    · rw [List.mem_singleton.mp hf]; exact hQ.arity nf _ ha (hnew nf (List.mem_singleton.mpr rfl))

/-- a fold of steps that each merge one descriptor merges the list -/
theorem Merged.foldl {stp : List FieldDesc → FieldDesc → List FieldDesc} (h : ∀ all nf, Merged all [nf] (stp all nf)) :
    ∀ (new all : List FieldDesc), Merged all new (new.foldl stp all)
  | [], all => Merged.refl all
  | nf :: new, all => (h all nf).trans (Merged.foldl h new (stp all nf))

/-- one iteration of the loop of `Sequence::get_fields` -/
def seqStep (all : List FieldDesc) (nf : FieldDesc) : List FieldDesc :=
  if hasField all nf.name then
    all.map fun o => if o.name == nf.name then
      { o with arity := .multiple, types := combineTypes o.types nf.types } else o
  else all ++ [nf]

theorem seqMerge_eq (all new : List FieldDesc) : seqMerge all new = new.foldl seqStep all := rfl

theorem seqStep_ok (all : List FieldDesc) (nf : FieldDesc) : Merged all [nf] (seqStep all nf) := by
  unfold seqStep; split <;> rename_i h
  · exact Merged.update h (fun _ => .multiple) (fun _ => Arity.le_multiple _) (fun _ => Arity.le_multiple _)
  · exact Merged.append h (Arity.le_refl _)

/-- the arity downgrade at the start of a non-first arm of `Choice::get_fields` -/
def chPre (first : Bool) (all new : List FieldDesc) : List FieldDesc :=
  if first then all else
    all.map fun f => if f.arity == .one && !hasField new f.name then { f with arity := .optional } else f

/-- one iteration of the loop of `Choice::get_fields` -/
def chStep (first : Bool) (all : List FieldDesc) (nf : FieldDesc) : List FieldDesc :=
  if hasField all nf.name then
    all.map fun o => if o.name == nf.name then
      { o with arity := combineChoice o.arity nf.arity, types := combineTypes o.types nf.types } else o
  else if first || nf.arity != .one then all ++ [nf]
  else all ++ [{ nf with arity := .optional }]

theorem choiceMerge_eq (first : Bool) (all new : List FieldDesc) :
    choiceMerge first all new = new.foldl (chStep first) (chPre first all new) := rfl

theorem chStep_ok (first : Bool) (all : List FieldDesc) (nf : FieldDesc) : Merged all [nf] (chStep first all nf) := by
  unfold chStep; split <;> rename_i h
  · exact Merged.update h (fun o => combineChoice o.arity nf.arity) (fun _ => le_combineChoice_left _ _)
      (fun _ => le_combineChoice_right _ _)
  · split
    · exact Merged.append h (Arity.le_refl _)
    · rename_i hc
      have h1 : nf.arity = .one := by
        cases hna : nf.arity <;> simp [hna] at hc ⊢
      exact Merged.append h (h1 ▸ Arity.one_le _)

theorem chPre_ok (first : Bool) (all new : List FieldDesc) : Merged all [] (chPre first all new) := by
  unfold chPre; split
  · exact Merged.refl all
  · have e : (fun f : FieldDesc => if f.arity == .one && !hasField new f.name then { f with arity := .optional } else f) =
        fun f => { f with arity := if (f.arity == .one && !hasField new f.name) then Arity.optional else f.arity } :=
      funext fun f => by split <;> rfl
    rw [e]
    refine Merged.raise all _ fun f => ?_
    split
    · rename_i hc
      simp only [Bool.and_eq_true, beq_iff_eq] at hc
      rw [hc.1]; exact Arity.one_le _
    · exact Arity.le_refl _

/-! ### merging the fields of one more part / arm, and of all parts / arms -/

theorem seqMerge_ok (all new : List FieldDesc) : Merged all new (seqMerge all new) := Merged.foldl seqStep_ok new all

theorem choiceMerge_ok (first : Bool) (all new : List FieldDesc) : Merged all new (choiceMerge first all new) := by
  rw [choiceMerge_eq]; exact (chPre_ok first all new).trans (Merged.foldl (chStep_ok first) new _)

theorem foldl_seqMerge_ok : ∀ (fss : List (List FieldDesc)) all, Merged all fss.flatten (fss.foldl seqMerge all)
  | [], all => Merged.refl all
  | new :: rest, all => (seqMerge_ok all new).trans (foldl_seqMerge_ok rest _)

theorem choiceFields_ok :
    ∀ (fss : List (List FieldDesc)) first all, Merged all fss.flatten (choiceFields first all fss)
  | [], _, all => Merged.refl all
  | new :: rest, first, all => (choiceMerge_ok first all new).trans (choiceFields_ok rest false _)

theorem Merged.forall_flatten {fss : List (List FieldDesc)} {out} (h : Merged [] fss.flatten out) {Q} (hQ : FieldInv Q)
    (hfs : ∀ fs ∈ fss, ∀ f ∈ fs, Q f) : ∀ f ∈ out, Q f :=
  h.inv hQ (fun _ h => nomatch h) fun f hf => by
    obtain ⟨fs, hfs', hf⟩ := List.mem_flatten.mp hf; exact hfs fs hfs' f hf

theorem Merged.hasField_flatten {fss : List (List FieldDesc)} {out} (h : Merged [] fss.flatten out) (x : String) :
    hasField out x = true ↔ ∃ fs ∈ fss, hasField fs x = true := by
  rw [h.mem]
  simp only [hasField, List.any_nil, Bool.false_eq_true, false_or, List.any_flatten, List.any_eq_true]

theorem exists_mem_map {α β} {f : α → β} {l : List α} {p : β → Prop} :
    (∃ b ∈ l.map f, p b) ↔ ∃ a ∈ l, p (f a) :=
  ⟨fun ⟨_, hm, hx⟩ => by obtain ⟨a, ha, rfl⟩ := List.mem_map.mp hm; exact ⟨a, ha, hx⟩,
    fun ⟨a, ha, hx⟩ => ⟨_, List.mem_map.mpr ⟨a, ha, rfl⟩, hx⟩⟩

/-- the merged fields of the members `l` of a sequence or choice cover each member's fields, and a name is among
    them iff a member has it -/
theorem Merged.members {α} {fo : α → List FieldDesc} {l : List α} {out} (h : Merged [] (l.map fo).flatten out) :
    (∀ p ∈ l, SubFields (fo p) out) ∧ ∀ x, hasField out x = true ↔ ∃ p ∈ l, hasField (fo p) x = true :=
  ⟨fun p hp f hf => h.new f (List.mem_flatten.mpr ⟨_, List.mem_map.mpr ⟨p, hp, rfl⟩, hf⟩),
    fun x => by rw [h.hasField_flatten, exists_mem_map]⟩

/-! ### a field occurring in two different parts of a sequence is `multiple` -/

/-- some entry named `x` is `multiple` -/
def HasMult (x : String) (fs : List FieldDesc) : Prop := ∃ o ∈ fs, o.name = x ∧ o.arity = .multiple

/-- arities only grow along `SubFields` -/
theorem HasMult.mono {x : String} {a b : List FieldDesc} (h : HasMult x a) (hs : SubFields a b) : HasMult x b := by
  obtain ⟨o, ho, e, hm⟩ := h
  obtain ⟨o', ho', e', hle, _⟩ := hs o ho
  exact ⟨o', ho', e'.trans e, Arity.eq_multiple_of_le (hm ▸ hle)⟩

/-- merging a part that contains `x` into fields that already contain `x` makes it `multiple`: the step for the
    part's entry named `x` does, the later steps only raise arities -/
theorem seqMerge_mult {x : String} (new : List FieldDesc) :
    ∀ all, hasField all x = true → hasField new x = true → HasMult x (new.foldl seqStep all) := by
  induction new with
  | nil => intro all _ h; simp [hasField] at h
  | cons nf new ih =>
    intro all ha hn
    simp only [List.foldl_cons]
    by_cases hx : nf.name = x
    · obtain ⟨o, ho, e⟩ := exists_of_hasField ha
      refine HasMult.mono ⟨{ o with arity := .multiple, types := combineTypes o.types nf.types }, ?_, e, rfl⟩
        (Merged.foldl seqStep_ok new _).sub
      unfold seqStep
      rw [if_pos (hx ▸ ha)]
      exact List.mem_map.mpr ⟨o, ho, by rw [if_pos (by simp [e, hx])]⟩
    · refine ih _ ((seqStep_ok all nf).sub.hasField ha) ?_
      obtain ⟨f, hf, e⟩ := exists_of_hasField hn
      rcases List.mem_cons.mp hf with rfl | hf
      · exact absurd e hx
      · exact e ▸ hasField_of_mem hf

theorem seqFields_two_parts {x : String} {pre post : List (List FieldDesc)} {a : List FieldDesc}
    (hpre : ∃ q ∈ pre, hasField q x = true) (ha : hasField a x = true) :
    HasMult x ((pre ++ a :: post).foldl seqMerge []) := by
  rw [List.foldl_append, List.foldl_cons]
  exact (seqMerge_mult a _ (((foldl_seqMerge_ok pre []).hasField_flatten x).mpr hpre) ha).mono
    (foldl_seqMerge_ok post _).sub

/-! ### a field of a choice that is absent from an arm is at least `optional` -/

/-- all entries named `x` are at least `optional` -/
def AllOpt (x : String) (fs : List FieldDesc) : Prop :=
  ∀ o ∈ fs, o.name = x → Arity.optional ≤ o.arity

theorem fieldInv_allOpt (x : String) : FieldInv (fun o => o.name = x → Arity.optional ≤ o.arity) :=
  ⟨fun _ _ hle h e => Arity.le_trans (h e) hle, fun _ _ _ hle h e => Arity.le_trans (h e) hle⟩

theorem chPre_absent {x : String} (all : List FieldDesc) {new : List FieldDesc}
    (hn : hasField new x = false) : AllOpt x (chPre false all new) := by
  unfold chPre
  simp only [Bool.false_eq_true, if_false]
  intro o ho hx
  obtain ⟨o', ho', rfl⟩ := List.mem_map.mp ho
  split
  · exact Arity.le_refl _
  · rename_i hc
    rw [if_neg hc] at hx
    rw [hx, hn] at hc
    apply Arity.optional_le_of_ne_one
    intro h1; simp [h1] at hc

theorem chStep_allOpt_false {x : String} {all : List FieldDesc} (h : AllOpt x all) (nf : FieldDesc) :
    AllOpt x (chStep false all nf) := by
  intro o ho hx
  unfold chStep at ho
  split at ho
  · obtain ⟨o', ho', rfl⟩ := List.mem_map.mp ho
    split
    · rename_i hc
      rw [if_pos hc] at hx
      exact Arity.le_trans (h o' ho' hx) (le_combineChoice_left _ _)
    · rename_i hc; rw [if_neg hc] at hx; exact h o' ho' hx
  · split at ho
    · rename_i hc
      rcases List.mem_append.mp ho with ho | ho
      · exact h o ho hx
      · rw [List.mem_singleton.mp ho]
        apply Arity.optional_le_of_ne_one
        intro h1; simp [h1] at hc
    · rcases List.mem_append.mp ho with ho | ho
      · exact h o ho hx
      · rw [List.mem_singleton.mp ho]; exact Arity.le_refl _

theorem choiceMerge_allOpt {x : String} (new : List FieldDesc) {all : List FieldDesc} (h : AllOpt x all) :
    AllOpt x (choiceMerge false all new) := by
  rw [choiceMerge_eq]
  have : ∀ l all, AllOpt x all → AllOpt x (List.foldl (chStep false) all l) := by
    intro l
    induction l with
    | nil => intro all h; exact h
    | cons nf l ih => intro all h; exact ih _ (chStep_allOpt_false h nf)
  exact this new _ ((chPre_ok false all new).inv (fieldInv_allOpt x) h fun _ h => nomatch h)

theorem choiceMerge_absent {x : String} {new : List FieldDesc} (all : List FieldDesc)
    (hn : hasField new x = false) : AllOpt x (choiceMerge false all new) := by
  rw [choiceMerge_eq]
  refine (Merged.foldl (chStep_ok false) new _).inv (fieldInv_allOpt x) (chPre_absent all hn) (fun f hf e => ?_)
  rw [← e, hasField_of_mem hf] at hn; cases hn

theorem choiceFields_allOpt {x : String} (fss : List (List FieldDesc)) :
    ∀ {all}, AllOpt x all → AllOpt x (choiceFields false all fss) := by
  induction fss with
  | nil => intro all h; exact h
  | cons new rest ih => intro all h; exact ih (choiceMerge_allOpt new h)

theorem choiceFields_absent {x : String} (fss : List (List FieldDesc)) :
    ∀ first all, (first = true → all = []) → ∀ fs ∈ fss, hasField fs x = false →
      AllOpt x (choiceFields first all fss) := by
  induction fss with
  | nil => intro _ _ _ fs h; cases h
  | cons new rest ih =>
    intro first all hfa fs hfs hx
    simp only [choiceFields]
    rcases List.mem_cons.mp hfs with rfl | hfs
    · apply choiceFields_allOpt
      cases first with
      | false => exact choiceMerge_absent all hx
      | true =>
        rw [hfa rfl]
        intro o ho hox
        have h1 := hasField_of_mem ho
        rw [(choiceMerge_ok true [] fs).mem, hox, hx] at h1
        simp [hasField] at h1
    · exact ih false _ (fun h => by cases h) fs hfs hx

/-! ### `getFields`: one step, fuel monotonicity, success of the sub-calls -/

/-- the fields of `e` (`[]` when the analysis fails) -/
def fieldsOf (g : Grammar) (n : Nat) (e : Expr) : List FieldDesc :=
  match getFields g n e with
  | .ok fs => fs
  | _ => []

theorem fieldsOf_eq {g : Grammar} {n : Nat} {e : Expr} {fs : List FieldDesc}
    (h : getFields g n e = .ok fs) : fieldsOf g n e = fs := by
  unfold fieldsOf; rw [h]

theorem mapMCR_cons_ok {α β} {f : α → CR β} {a : α} {l : List α} {bs : List β}
    (h : mapMCR f (a :: l) = .ok bs) : ∃ b bs', f a = .ok b ∧ mapMCR f l = .ok bs' ∧ bs = b :: bs' := by
  simp only [mapMCR] at h
  cases hb : f a <;> rw [hb] at h <;> try cases h
  cases hbs : mapMCR f l <;> rw [hbs] at h <;> cases h
  exact ⟨_, _, rfl, rfl, rfl⟩

theorem mapMCR_ok {α β} {f : α → CR β} {h : α → β} : ∀ {l : List α}, (∀ a ∈ l, f a = .ok (h a)) → mapMCR f l = .ok (l.map h)
  | [], _ => rfl
  | a :: l, hf => by
    simp only [mapMCR, hf a List.mem_cons_self, mapMCR_ok fun x hx => hf x (List.mem_cons_of_mem _ hx), List.map_cons]

theorem mapMCR_ext {α β} {f f' : α → CR β} : ∀ {l : List α}, (∀ a ∈ l, f a = f' a) → mapMCR f l = mapMCR f' l
  | [], _ => rfl
  | a :: as, h => by
    simp only [mapMCR, h a List.mem_cons_self, mapMCR_ext fun x hx => h x (List.mem_cons_of_mem _ hx)]

theorem mapMCR_map {α β γ} (f : α → CR β) (h : γ → α) : ∀ l : List γ, mapMCR f (l.map h) = mapMCR (fun x => f (h x)) l
  | [] => rfl
  | a :: as => by simp only [List.map, mapMCR, mapMCR_map f h as]

/-- with a step that never runs out of fuel, one failing element makes the whole list fail -/
theorem mapMCR_err_of_mem {α β} {f : α → CR β} (hf : ∀ a, f a ≠ .fuel) {l : List α} {a : α} {m : String}
    (ha : a ∈ l) (h : f a = .err m) : ∃ m', mapMCR f l = .err m' := by
  induction l with
  | nil => cases ha
  | cons x xs ih =>
    simp only [mapMCR]
    cases hx : f x with
    | err m1 => exact ⟨m1, rfl⟩
    | fuel => exact absurd hx (hf x)
    | ok c =>
      rcases List.mem_cons.1 ha with rfl | hmem
      · rw [h] at hx; cases hx
      · obtain ⟨m', hm'⟩ := ih hmem
        exact ⟨m', by simp only [hm']⟩

/-- a successful `mapMCR`, member by member, for any reading `h` of the successful results -/
theorem mapMCR_inv {α β} {f : α → CR β} {h : α → β} (hh : ∀ a b, f a = .ok b → h a = b) :
    ∀ {l : List α} {bs : List β}, mapMCR f l = .ok bs → (∀ a ∈ l, f a = .ok (h a)) ∧ bs = l.map h
  | [], _, hl => by cases hl; exact ⟨fun _ h => (nomatch h), rfl⟩
  | a :: l, _, hl => by
    obtain ⟨b, bs', hb, hbs, rfl⟩ := mapMCR_cons_ok hl
    obtain ⟨h1, rfl⟩ := mapMCR_inv hh hbs
    obtain rfl := hh a b hb
    exact ⟨List.forall_mem_cons.2 ⟨hb, h1⟩, rfl⟩

/-- What the sub-calls on the parts of `e`, all with fuel `m`, returned and how `fs` is made of it, construct by
    construct. -/
@[reducible] def FieldsStep (g : Grammar) (m : Nat) (e : Expr) (fs : List FieldDesc) : Prop :=
  match e with
  | .choice alts => (∀ p ∈ alts, getFields g m p = .ok (fieldsOf g m p)) ∧
      fs = choiceFields true [] (alts.map (fieldsOf g m))
  | .seq parts => (∀ p ∈ parts, getFields g m p = .ok (fieldsOf g m p)) ∧
      fs = (parts.map (fieldsOf g m)).foldl seqMerge []
  | .group b => getFields g m b = .ok fs
  | .opt b => ∃ fs', getFields g m b = .ok fs' ∧ fs = fs'.map fun f => { f with arity := toOptional f.arity }
  | .closure b _ => ∃ fs', getFields g m b = .ok fs' ∧ fs = fs'.map fun f => { f with arity := .multiple }
  | .neg b => getFields g m b = .ok [] ∧ fs = []
  | .pos b => getFields g m b = .ok [] ∧ fs = []
  | .incl r => ∃ rule, g.findRule r = some rule ∧ getFields g m rule.definition = .ok fs
  | .field (some nm) boxed typ => fs = [{ name := nm.key, types := [(typ, boxed)], arity := .one }]
  | _ => fs = []

/-- One step of a successful analysis: the sub-calls have one unit of fuel less.  Everything below that follows
    `getFields` through the syntax goes through this. -/
theorem getFields_succ_inv {g : Grammar} {n : Nat} {e : Expr} {fs : List FieldDesc}
    (h : getFields g (n+1) e = .ok fs) : FieldsStep g n e fs := by
  cases e with
  | choice alts =>
    simp only [getFields] at h
    cases hm : mapMCR (getFields g n) alts <;> rw [hm] at h <;> cases h
    exact (mapMCR_inv (fun _ _ => fieldsOf_eq) hm).imp_right (congrArg _)
  | seq parts =>
    simp only [getFields] at h
    cases hm : mapMCR (getFields g n) parts <;> rw [hm] at h <;> cases h
    exact (mapMCR_inv (fun _ _ => fieldsOf_eq) hm).imp_right (congrArg _)
  | group b => simpa only [getFields] using h
  | opt b =>
    simp only [getFields] at h
    cases hb : getFields g n b <;> rw [hb] at h <;> cases h
    exact ⟨_, hb, rfl⟩
  | closure b a =>
    simp only [getFields] at h
    cases hb : getFields g n b <;> rw [hb] at h <;> cases h
    exact ⟨_, hb, rfl⟩
  | neg b =>
    simp only [getFields] at h
    cases hb : getFields g n b with
    | ok fs' => cases fs' <;> rw [hb] at h <;> cases h; exact ⟨hb, rfl⟩
    | err m => rw [hb] at h; cases h
    | fuel => rw [hb] at h; cases h
  | pos b =>
    simp only [getFields] at h
    cases hb : getFields g n b with
    | ok fs' => cases fs' <;> rw [hb] at h <;> cases h; exact ⟨hb, rfl⟩
    | err m => rw [hb] at h; cases h
    | fuel => rw [hb] at h; cases h
  | incl r =>
    simp only [getFields] at h
    cases hr : g.findRule r <;> rw [hr] at h
    · cases h
    · exact ⟨_, hr, h⟩
  | field name boxed typ => cases name <;> cases h <;> rfl
  | range lo hi => cases h; rfl
  | lit i b => cases h; rfl
  | eoi => cases h; rfl

theorem getFields_mono {g : Grammar} : ∀ {n m : Nat} {e : Expr} {fs : List FieldDesc},
    getFields g n e = .ok fs → n ≤ m → getFields g m e = .ok fs := by
  intro n
  induction n with
  | zero => intro m e fs h; cases h
  | succ n ih =>
    intro m e fs h hm
    obtain ⟨m, rfl⟩ : ∃ m', m = m' + 1 := ⟨m - 1, by omega⟩
    have hnm : n ≤ m := by omega
    have hi := getFields_succ_inv h
    cases e with
    | choice alts =>
      obtain ⟨h1, rfl⟩ := hi
      simp only [getFields, mapMCR_ok fun a ha => ih (h1 a ha) hnm]
    | seq parts =>
      obtain ⟨h1, rfl⟩ := hi
      simp only [getFields, mapMCR_ok fun a ha => ih (h1 a ha) hnm]
    | group b => simp only [getFields]; exact ih hi hnm
    | opt b => obtain ⟨fs', h1, rfl⟩ := hi; simp only [getFields, ih h1 hnm]
    | closure b a => obtain ⟨fs', h1, rfl⟩ := hi; simp only [getFields, ih h1 hnm]
    | neg b => obtain ⟨h1, rfl⟩ := hi; simp only [getFields, ih h1 hnm]
    | pos b => obtain ⟨h1, rfl⟩ := hi; simp only [getFields, ih h1 hnm]
    | incl r => obtain ⟨rule, hr, h1⟩ := hi; simp only [getFields, hr]; exact ih h1 hnm
    | field name boxed typ => cases name <;> exact h
    | range lo hi => exact h
    | lit i b => exact h
    | eoi => exact h

/-- A property of field lists that holds of the empty list and of a single fresh field and is kept
    by raising the arities and by merging (`Merged`) the fields of the parts holds of every result of `getFields`. -/
theorem getFields_induction {g : Grammar} {P : List FieldDesc → Prop} (nil : P [])
    (field : ∀ nm boxed typ, P [{ name := nm, types := [(typ, boxed)], arity := .one }])
    (raise : ∀ fs out, Merged fs [] out → P fs → P out)
    (merge : ∀ (fss : List (List FieldDesc)) out, Merged [] fss.flatten out → (∀ fs ∈ fss, P fs) → P out) :
    ∀ {n : Nat} {e : Expr} {fs : List FieldDesc}, getFields g n e = .ok fs → P fs := by
  intro n
  induction n with
  | zero => intro e fs h; cases h
  | succ n ih =>
    intro e fs h
    have hi := getFields_succ_inv h
    cases e with
    | choice alts =>
      obtain ⟨h1, rfl⟩ := hi
      exact merge _ _ (choiceFields_ok _ true []) (List.forall_mem_map.mpr fun a ha => ih (h1 a ha))
    | seq parts =>
      obtain ⟨h1, rfl⟩ := hi
      exact merge _ _ (foldl_seqMerge_ok _ []) (List.forall_mem_map.mpr fun a ha => ih (h1 a ha))
    | group b => exact ih hi
    | opt b => obtain ⟨fs', h1, rfl⟩ := hi; exact raise _ _ (Merged.raise fs' _ fun _ => le_toOptional _) (ih h1)
    | closure b a => obtain ⟨fs', h1, rfl⟩ := hi; exact raise _ _ (Merged.raise fs' _ fun _ => Arity.le_multiple _) (ih h1)
    | neg b => exact hi.2 ▸ nil
    | pos b => exact hi.2 ▸ nil
    | incl r => obtain ⟨rule, _, h1⟩ := hi; exact ih h1
    | field name boxed typ =>
      cases name with
      | none => exact hi ▸ nil
      | some nm => exact hi ▸ field nm.key boxed typ
    | range lo hi' => exact hi ▸ nil
    | lit i b => exact hi ▸ nil
    | eoi => exact hi ▸ nil

/-- the sub-calls succeed at the fuel of the whole: the run succeeds with one unit more, and that run's sub-calls
    have the fuel of this one -/
theorem getFields_inv {g : Grammar} {nf : Nat} {e : Expr} {own : List FieldDesc}
    (h : getFields g nf e = .ok own) : FieldsStep g nf e own :=
  getFields_succ_inv (getFields_mono h (Nat.le_succ nf))

/-! ### structural facts about the result of `getFields` -/

theorem getFields_nodup {g : Grammar} {n : Nat} {e : Expr} {fs : List FieldDesc}
    (h : getFields g n e = .ok fs) : (fs.map (·.name)).Nodup :=
  getFields_induction (P := fun fs => (fs.map (·.name)).Nodup) List.nodup_nil (fun _ _ _ => by simp)
    (fun _ _ hm => hm.nodup)
    (fun _ _ hm _ => hm.nodup List.nodup_nil) h

/-- a property of single descriptors that the merges keep and a fresh field has holds of every
    descriptor `getFields` returns -/
theorem getFields_forall {g : Grammar} {Q : FieldDesc → Prop} (hQ : FieldInv Q)
    (field : ∀ nm boxed typ, Q { name := nm, types := [(typ, boxed)], arity := .one })
    {n : Nat} {e : Expr} {fs : List FieldDesc} (h : getFields g n e = .ok fs) : ∀ f ∈ fs, Q f :=
  getFields_induction (P := fun fs => ∀ f ∈ fs, Q f) (fun _ h => nomatch h)
    (fun nm boxed typ _ hf => List.mem_singleton.mp hf ▸ field nm boxed typ)
    (fun _ _ hm h => hm.inv hQ h fun _ h => nomatch h)
    (fun _ _ hm hfs => hm.forall_flatten hQ hfs) h

theorem getFields_types_ne_nil {g : Grammar} {n : Nat} {e : Expr} {fs : List FieldDesc}
    (h : getFields g n e = .ok fs) : ∀ f ∈ fs, f.types ≠ [] :=
  getFields_forall fieldInv_types_ne_nil (fun _ _ _ => List.cons_ne_nil _ _) h

/-! ### `SubFields` for the unary constructs -/

theorem subFields_map_arity (fs : List FieldDesc) (u : Arity → Arity) (hu : ∀ a, a ≤ u a) :
    SubFields fs (fs.map fun f => { f with arity := u f.arity }) :=
  (Merged.raise fs _ fun _ => hu _).sub

theorem subFields_opt (fs : List FieldDesc) :
    SubFields fs (fs.map fun f => { f with arity := toOptional f.arity }) :=
  subFields_map_arity fs toOptional le_toOptional

theorem subFields_closure (fs : List FieldDesc) :
    SubFields fs (fs.map fun f => { f with arity := .multiple }) :=
  subFields_map_arity fs (fun _ => .multiple) Arity.le_multiple

theorem opt_fields_optional (fs : List FieldDesc) :
    ∀ o ∈ fs.map (fun f => { f with arity := toOptional f.arity }), Arity.optional ≤ o.arity := by
  intro o ho
  obtain ⟨f, _, rfl⟩ := List.mem_map.mp ho
  exact optional_le_toOptional _

theorem closure_fields_multiple (fs : List FieldDesc) :
    ∀ o ∈ fs.map (fun f => { f with arity := Arity.multiple }), o.arity = .multiple := by
  intro o ho
  obtain ⟨f, _, rfl⟩ := List.mem_map.mp ho
  rfl

theorem hasField_map_arity (fs : List FieldDesc) (u : Arity → Arity) (x : String) :
    hasField (fs.map fun f => { f with arity := u f.arity }) x = hasField fs x := by
  rw [Bool.eq_iff_iff, hasField_iff, hasField_iff,
    map_name_update fs (fun f => { f with arity := u f.arity }) (fun _ => rfl)]

/-! ### per-construct summary in terms of `getFields` -/

/-- sequence: every part's analysis succeeds and is covered by the sequence's fields; a field is in
    the sequence iff it is in a part; a field in two different parts is `multiple` -/
theorem getFields_seq {g : Grammar} {nf : Nat} {parts : List Expr} {own : List FieldDesc}
    (h : getFields g nf (.seq parts) = .ok own) :
    (∀ p ∈ parts, getFields g nf p = .ok (fieldsOf g nf p) ∧ SubFields (fieldsOf g nf p) own) ∧
    (∀ x, hasField own x = true ↔ ∃ p ∈ parts, hasField (fieldsOf g nf p) x = true) ∧
    (∀ pre p post x, parts = pre ++ p :: post → (∃ q ∈ pre, hasField (fieldsOf g nf q) x = true) →
      hasField (fieldsOf g nf p) x = true → HasMult x own) := by
  obtain ⟨h1, rfl⟩ := getFields_inv h
  obtain ⟨hs, hx⟩ := (foldl_seqMerge_ok (parts.map (fieldsOf g nf)) []).members
  refine ⟨fun p hp => ⟨h1 p hp, hs p hp⟩, hx, ?_⟩
  rintro pre p post x rfl hq hpx
  rw [List.map_append, List.map_cons]
  exact seqFields_two_parts (exists_mem_map.mpr hq) hpx

/-- choice: every arm's analysis succeeds and is covered by the choice's fields; a field is in the
    choice iff it is in an arm; a field absent from an arm is at least `optional` -/
theorem getFields_choice {g : Grammar} {nf : Nat} {alts : List Expr} {own : List FieldDesc}
    (h : getFields g nf (.choice alts) = .ok own) :
    (∀ a ∈ alts, getFields g nf a = .ok (fieldsOf g nf a) ∧ SubFields (fieldsOf g nf a) own) ∧
    (∀ x, hasField own x = true ↔ ∃ a ∈ alts, hasField (fieldsOf g nf a) x = true) ∧
    (∀ a ∈ alts, ∀ x, hasField (fieldsOf g nf a) x = false → AllOpt x own) := by
  obtain ⟨h1, rfl⟩ := getFields_inv h
  obtain ⟨hs, hx⟩ := (choiceFields_ok (alts.map (fieldsOf g nf)) true []).members
  exact ⟨fun p hp => ⟨h1 p hp, hs p hp⟩, hx,
    fun a ha x hx => choiceFields_absent _ true [] (fun _ => rfl) _ (List.mem_map.mpr ⟨a, ha, rfl⟩) hx⟩

end Peg
