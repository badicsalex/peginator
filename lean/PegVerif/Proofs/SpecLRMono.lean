import PegVerif.SpecLR
import PegVerif.Proofs.SpecMono
import PegVerif.Proofs.Refine
/-
  Sanity facts about the reference semantics with left recursion (`SpecLR.eval`, SpecLR.lean):

  * under every seed environment `SpecLR.eval` is a family of evaluators whose expression level is
    `Spec.stepExpr` (`SpecLR.exprChain`); fuel monotonicity (`SpecLR.eval_mono`): an answer at fuel `n` is
    the answer at every larger fuel – hence the answer is unique (`SpecLR.eval_rule_det`, `SpecLR.parse_det`);
  * conservativity (`SpecLR.eval_eq_spec`, `SpecLR.parse_eq_spec`): for a grammar without `@leftrec`
    rules, `SpecLR.eval` *is* `Spec.eval` (same fuel, any seed environment).
-/
namespace Peg
namespace SpecLR
open Spec

/-- pointwise (in the seed environment) information order -/
def LeLR (a b : SRecLR) : Prop := ∀ σ, Spec.Le (a σ) (b σ)

/-- one iteration of the reference loop in the node shape `caseS`, as `Peg.growLoop_step` (Basics.lean) has the model's -/
theorem growLoop_step (body : Res Val → SOut Val) (k : Nat) (best : Res Val) :
    growLoop body (k + 1) best =
      caseS (body best)
        (fun v ns => if improves best ns then growLoop body k (.ok v ns) else some best)
        (match best with
          | .ok _ _ => some best
          | _ => some (.err noErr)) := by
  conv => lhs; unfold growLoop
  cases body best with
  | none => rfl
  | some rb => cases rb <;> cases best <;> rfl

/-- the two loops compare a result with the seed in the same way -/
theorem improves_abs (best : Res Val) (ns : St) : improves (abs best) (clr ns) = improves best ns := by
  cases best <;> rfl

theorem growLoop_le {body body' : Res Val → SOut Val}
    (hb : ∀ seed r, body seed = some r → body' seed = some r) :
    ∀ k k' best r, k ≤ k' → growLoop body k best = some r → growLoop body' k' best = some r := by
  intro k
  induction k with
  | zero => intro k' best r _ h; simp [growLoop] at h
  | succ k ih =>
    intro k' best r hk h
    obtain ⟨k'', rfl⟩ : ∃ k'', k' = k'' + 1 := ⟨k' - 1, by omega⟩
    rw [growLoop_step] at h ⊢
    cases hx : body best with
    | none => rw [hx] at h; cases h
    | some rb =>
      rw [hx] at h
      rw [hb _ _ hx]
      cases rb with
      | ok v ns =>
        simp only [caseS] at h ⊢
        split at h
        · rw [if_pos ‹_›]; exact ih _ _ _ (by omega) h
        · rw [if_neg ‹_›]; exact h
      | _ => exact h

theorem lrRule_some {env : Env} {name : String} {r : Rule} (h : lrRule env name = some r) :
    env.g.find name = some (.rule r) := by
  unfold lrRule at h
  split at h
  · rename_i r0 hf
    split at h
    · cases h; exact hf
    · cases h
  · cases h

/-- an inclusion of the plain rule steps, under every seed environment, lifts to the rule steps of `SpecLR` when
    the two grammars mark the same names `@leftrec`: the body the loop grows is the plain step at that name -/
theorem stepRule_of_plain {envA envB : Env} {u : Nat} {recA recB : SRecLR} {n m : Nat} (hnm : n ≤ m)
    (hl : ∀ name, (lrRule envA name).map (·.name) = (lrRule envB name).map (·.name))
    (hp : ∀ σ, Spec.LeR (Spec.stepRule envA u (recA σ)) (Spec.stepRule envB u (recB σ))) (σ : Seeds) :
    Spec.LeR (stepRule envA u recA n σ) (stepRule envB u recB m σ) := by
  intro name s r h
  have hl := hl name
  unfold stepRule at h ⊢
  cases ha : lrRule envA name with
  | none =>
    rw [ha] at hl h
    rw [Option.map_eq_none_iff.mp hl.symm]
    exact hp σ _ _ _ h
  | some a =>
    rw [ha] at hl h
    obtain ⟨b, hb, hn⟩ := Option.map_eq_some_iff.mp hl.symm
    simp only [hb, hn] at h ⊢
    split at h
    · exact h
    · refine growLoop_le (fun seed r hx => ?_) _ _ _ _ hnm h
      have := hp (((a.name, s.off), seed) :: σ) name s r
      simp only [Spec.stepRule, lrRule_some ha, lrRule_some hb] at this
      exact this hx

theorem step_le {env u} {rec rec' : SRecLR} (hle : LeLR rec rec') {n m : Nat} (hnm : n ≤ m) :
    LeLR (step env u rec n) (step env u rec' m) :=
  fun σ => ⟨Spec.stepExpr_le (hle σ) hnm,
    stepRule_of_plain hnm (fun _ => rfl) (fun σ => Spec.stepRule_le (hle σ)) σ⟩

theorem eval_le_succ (env : Env) (u : Nat) : ∀ n, LeLR (eval env u n) (eval env u (n + 1)) := by
  intro n
  induction n with
  | zero => exact fun σ => ⟨fun _ _ _ _ h => by simp [eval] at h, fun _ _ _ h => by simp [eval] at h⟩
  | succ n ih => exact step_le ih (Nat.le_succ n)

theorem exprChain (env : Env) (u : Nat) : Spec.ExprChain env (eval env u) :=
  ⟨fun _ _ _ _ => rfl, fun _ _ _ => rfl, fun _ _ _ _ _ => rfl, fun n σ => eval_le_succ env u n σ⟩

theorem eval_mono (env : Env) (u : Nat) {n m : Nat} (h : n ≤ m) : LeLR (eval env u n) (eval env u m) :=
  (exprChain env u).mono h

/-- the answer is unique: two fuels that both answer give the same answer -/
theorem eval_rule_det (env : Env) (u : Nat) {n m : Nat} {σ name s r r'}
    (h : (eval env u n σ).rule name s = some r) (h' : (eval env u m σ).rule name s = some r') : r = r' :=
  fuel_det (f := fun n => (eval env u n σ).rule name s) (fun n => (eval_le_succ env u n σ).rule name s) h h'

theorem eval_expr_det (env : Env) (u : Nat) {n m : Nat} {σ ctx e s r r'}
    (h : (eval env u n σ).expr ctx e s = some r) (h' : (eval env u m σ).expr ctx e s = some r') : r = r' :=
  fuel_det (f := fun n => (eval env u n σ).expr ctx e s) (fun n => (eval_le_succ env u n σ).expr ctx e s) h h'

theorem parse_mono (env : Env) (u : Nat) {n m : Nat} (hnm : n ≤ m) {rule inp r}
    (h : parse env u n rule inp = some r) : parse env u m rule inp = some r :=
  (eval_mono env u hnm []).rule _ _ _ h

theorem parse_det (env : Env) (u : Nat) {n m : Nat} {rule inp r r'}
    (h : parse env u n rule inp = some r) (h' : parse env u m rule inp = some r') : r = r' :=
  eval_rule_det env u h h'

/-! ### conservativity -/

theorem lrRule_none_of_noLeftrec {env : Env} (hnl : NoLeftrec env.g) (name : String) :
    lrRule env name = none := by
  unfold lrRule
  split
  · rename_i r hf
    have hmem : RuleEntry.rule r ∈ env.g.rules := List.mem_of_find?_eq_some hf
    simp [hnl r hmem]
  · rfl

theorem eval_eq_spec {env : Env} (hnl : NoLeftrec env.g) (u : Nat) :
    ∀ n σ, eval env u n σ = Spec.eval env u n := by
  intro n
  induction n with
  | zero => intro σ; rfl
  | succ n ih =>
    intro σ
    show step env u (eval env u n) n σ = Spec.step env u (Spec.eval env u n) n
    unfold step Spec.step
    congr 1
    · rw [ih]
    · funext name s
      unfold stepRule
      rw [lrRule_none_of_noLeftrec hnl, ih]

theorem parse_eq_spec {env : Env} (hnl : NoLeftrec env.g) (u fuel : Nat) (rule : String) (inp : List UInt8) :
    parse env u fuel rule inp = Spec.parse env u fuel rule inp := by
  unfold parse Spec.parse
  rw [eval_eq_spec hnl]

end SpecLR
end Peg
