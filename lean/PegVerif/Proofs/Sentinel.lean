import PegVerif.Eval
import PegVerif.Proofs.Basics
import PegVerif.Proofs.Attempts
import PegVerif.Proofs.LeftRec
import PegVerif.Proofs.LRProg
import PegVerif.Proofs.Lengths
import PegVerif.Proofs.Matchers
/-
  C10, last clause – "the reported detail is never the internal left-recursion sentinel when
  left-recursive rules list their recursive alternatives first" – for grammars WITH `@leftrec`
  (and `@memoize`) rules.  (`Attempts.lean` proves it for grammars without either.)

  The decidable syntactic condition `RecFirst`, and its checks as propositions with the lemmas that unfold
  them (Part 1); the semantic invariant (Part 2) and its
  preservation by every construct of the evaluator, the grow loop and `@memoize` included (Part 3);
  `C10_no_sentinel` and its companions, and `RecFirst.of_shape`: the shape "recursive alternatives, then
  base alternatives" passes the check (Part 4); examples (Part 5): four grammars that satisfy the
  hypotheses, with failing inputs, and grammars showing that each side condition is necessary – base
  alternative first, no base alternative, recursion behind a lookahead, mutual recursion ending in the
  other rule, and a `@memoize` rule inside the recursion (the sentinel IS reported in all of them).

  How the argument goes.  The sentinel failure `⟨p, leftRecursionSentinel⟩` exists only as the seed
  planted in the cache under `(R, p)` before the first body evaluation of the grow loop of `R` at `p`
  (`Act g (R, p)`), and in copies of it.  Invariants (under the side condition):
  * seeds lie at or before the cursor (`ActLe`); evaluation never adds sentinel entries to the cache
    (`SentSub`); when a grow loop ends its seed has been replaced by a non-sentinel answer;
  * a failure that is the sentinel lies exactly at the offset the construct started from, and a seed
    is planted there (`ErrOK`) – so after consuming input no failure is the sentinel;
  * a stored `farthest_error` that is the sentinel lies at or before the cursor (`GoodSt`), hence
    every later real failure (recorded at the cursor or beyond) replaces it (`record_error` uses `≤`);
  * the only failure of a choice that can be the sentinel is that of its *last* alternative (an
    earlier sentinel at the start offset is replaced by any later failure).
  The side condition makes the last alternative of a `@leftrec` body a *base* alternative: it cannot
  hit a planted seed (level discipline `Pre`), so the body never fails with the sentinel, so no
  sentinel is ever cached as a final answer.  No purity assumption on the hooks is needed.
-/
namespace Peg

/-! ## Part 1: the syntactic condition -/

namespace SN

/-- `prog` for a reference to `name`, given `prog` with the fuel left as `pe`: the body of a normal rule that is
    neither `@leftrec` nor `@memoize`, every rule named by a `@char` rule, the builtin `char` -/
def progRule (g : Grammar) (pe : Expr → Bool) (name : String) : Bool :=
  match g.find name with
  | some (.rule r) => !r.flags.leftRecursive && !r.flags.memoize && pe r.definition
  | some (.charRule cr) => cr.choices.all fun p => match p with
      | .ident n => pe (.field none false n)
      | _ => true
  | some (.externRule _) => false
  | none => name == "char"

/-- "every successful match consumes at least one byte" – conservative (`false` when the fuel runs
    out, for references to `@leftrec` / `@memoize` / `@extern` rules, lookaheads, `?`, `*`, `$`).
    It is the function `LRC.prog` of SpecLR.lean (`prog_eq_lrc` below). -/
def prog (g : Grammar) : Nat → Expr → Bool
  | 0, _ => false
  | d+1, e =>
    match e with
    | .choice alts => alts.all (prog g d)
    | .seq parts => parts.any (prog g d)
    | .group b => prog g d b
    | .closure b plus => plus && prog g d b
    | .range _ _ => true
    | .lit ins body =>
      (match compileLit ins body with
       | .ok m => !m.nullable
       | _ => true)
    | .incl r =>
      (match g.findRule r with
       | some rule => prog g d rule.definition
       | none => true)
    | .field _ _ typ => progRule g (prog g d) typ
    | _ => false

/-- the check of a rule reference.  `m` bounds the levels of the `@leftrec` rules whose seed may be
    planted at the current offset (all of them have level `< m`); `b` ("strict"): a failure of this
    reference may become the failure of the enclosing `@leftrec` body. -/
def chkRule (g : Grammar) (st : Settings) (lvl : String → Nat) (m : Nat) (b : Bool)
    (ce : Bool → Bool → Expr → Bool) (name : String) : Bool :=
  match g.find name with
  | some (.rule r) =>
    if r.flags.leftRecursive then
      (if b then decide (m ≤ lvl r.name) else decide (m ≤ lvl r.name + 1))
    else if r.flags.memoize then
      decide (m ≤ lvl r.name) && ce (st.skipWhitespace && !r.flags.noSkipWs) true r.definition
    else ce (st.skipWhitespace && !r.flags.noSkipWs) b r.definition
  | some (.charRule cr) => cr.choices.all fun p => match p with
      | .ident n => ce false false (.field none false n)
      | _ => true
  | _ => true

/-- alternatives: only the failure of the last one can become the failure of the choice -/
def chkAlts (ce : Bool → Expr → Bool) (b : Bool) : List Expr → Bool
  | [] => true
  | [a] => ce b a
  | a :: a' :: as => ce false a && chkAlts ce b (a' :: as)

/-- sequence parts: everything after a part that certainly consumes input is unconstrained -/
def chkSeq (ce : Bool → Expr → Bool) (pr : Expr → Bool) (b : Bool) : List Expr → Bool
  | [] => true
  | p :: ps => ce b p && (pr p || chkSeq ce pr b ps)

/-- `chk g st lvl d m w b e`: fuel `d` (AST depth + rule unfoldings), level bound `m`, `w`: the
    enclosing rule skips whitespace, `b`: strict. -/
def chk (g : Grammar) (st : Settings) (lvl : String → Nat) : Nat → Nat → Bool → Bool → Expr → Bool
  | 0, _, _, _, _ => false
  | d+1, m, w, b, e =>
    match e with
    | .choice alts => chkAlts (chk g st lvl d m w) b alts
    | .seq parts => chkSeq (chk g st lvl d m w) (prog g d) b parts
    | .group x => chk g st lvl d m w b x
    | .opt x => chk g st lvl d m w false x
    | .closure x plus => chk g st lvl d m w (b && plus) x
    | .neg x => chk g st lvl d m w false x
    | .pos x => chk g st lvl d m w b x
    | .range _ _ => !w || chkRule g st lvl m b (chk g st lvl d m) "Whitespace"
    | .lit _ _ => !w || chkRule g st lvl m b (chk g st lvl d m) "Whitespace"
    | .eoi => !w || chkRule g st lvl m b (chk g st lvl d m) "Whitespace"
    | .incl r =>
      (match g.findRule r with
       | some rule => chk g st lvl d m w b rule.definition
       | none => true)
    | .field _ _ typ =>
      (!w || chkRule g st lvl m b (chk g st lvl d m) "Whitespace")
        && chkRule g st lvl m b (chk g st lvl d m) typ

end SN

/-- **the side condition** (decidable).  The body of every `@leftrec` rule `R` passes the check
    `chk` in strict mode at bound `lvl R + 1`, where `lvl` assigns precedence levels to rule names and
    `fuel` bounds AST depth + rule unfoldings of the analysis.

    `chk … m w b e` walks the positions of `e` that can be reached *before input is consumed*
    (through rule references and includes; everything after a sequence part that certainly consumes
    input – `prog` – is unconstrained).  *Strict* positions (`b = true`) are those whose failure can
    become the failure of the body: the last alternative of a choice, the parts of a sequence, the body
    of `+`, of a positive lookahead, of a group, of an include, of a referenced ordinary rule.  The
    other alternatives of a choice and the bodies of `?`, `*`, `!` are non-strict.  The requirements:
    * a reference to a `@leftrec` rule `R'`: `m ≤ lvl R'` in a strict position (for the body of `R`:
      `lvl R < lvl R'`), `m ≤ lvl R' + 1` in a non-strict one (`lvl R ≤ lvl R'`);
    * a reference to a `@memoize` rule `M`: `m ≤ lvl M`, and the body of `M` passes the strict check;
    * `@char` rules: their identifier parts are checked non-strictly; `@extern` rules, builtins and
      terminals pass (after the `Whitespace` rule, if the enclosing rule skips whitespace and the
      grammar defines one, passed the check).

    For `lvl = fun _ => 0` and a body `R = a₁ | … | aₙ` this says: the last alternative `aₙ` reaches
    no `@leftrec` rule (and no `@memoize` rule) in a strict position before consuming input – it is a
    *base* alternative, "the recursive alternatives come first"; the other alternatives may start
    with any `@leftrec` reference (`RecFirst.of_shape`).  A non-constant `lvl` admits precedence towers
    `E = E '+' T | T;  T = T '*' F | F` (`lvl E < lvl T`). -/
def RecFirst (g : Grammar) (st : Settings) (lvl : String → Nat) (fuel : Nat) : Bool :=
  g.rules.all fun e => match e with
    | .rule r => !r.flags.leftRecursive ||
        SN.chk g st lvl fuel (lvl r.name + 1) (st.skipWhitespace && !r.flags.noSkipWs) true r.definition
    | _ => true

namespace SN

/-! ### the syntactic conditions as propositions (bound `0` needs no check) -/

def ChkE (env : Env) (lvl : String → Nat) (m : Nat) (w b : Bool) (e : Expr) : Prop :=
  m = 0 ∨ ∃ d, chk env.g env.settings lvl d m w b e = true

def ChkR (env : Env) (lvl : String → Nat) (m : Nat) (b : Bool) (name : String) : Prop :=
  m = 0 ∨ ∃ d, chkRule env.g env.settings lvl m b (chk env.g env.settings lvl d m) name = true

def ChkSeq (env : Env) (lvl : String → Nat) (m : Nat) (w b : Bool) (ps : List Expr) : Prop :=
  m = 0 ∨ ∃ d, chkSeq (chk env.g env.settings lvl d m w) (prog env.g d) b ps = true

def ChkAlts (env : Env) (lvl : String → Nat) (m : Nat) (w b : Bool) (as : List Expr) : Prop :=
  m = 0 ∨ ∃ d, chkAlts (chk env.g env.settings lvl d m w) b as = true

def ProgE (env : Env) (e : Expr) : Prop := ∃ d, prog env.g d e = true

/-- `prog` is the analysis `LRC.prog` of SpecLR.lean: its inversion lemmas (LRProg.lean) serve here too -/
theorem prog_eq_lrc (g : Grammar) : ∀ d e, prog g d e = LRC.prog g d e := by
  intro d
  induction d with
  | zero => intro e; rfl
  | succ d ih =>
    have hf : prog g d = LRC.prog g d := funext ih
    intro e
    cases e <;> simp only [prog, LRC.prog, hf]
    case lit ins body =>
      cases compileLit ins body with
      | ok mm => cases mm <;> rfl
      | _ => rfl
    all_goals rfl

section
variable {env : Env} {lvl : String → Nat} {m : Nat} {w b : Bool}

/-- a check that passed did so with some fuel `d + 1`, unless the bound is `0` -/
theorem ChkE.elim {e} {P : Prop} (h : ChkE env lvl m w b e) (h0 : m = 0 → P)
    (hd : ∀ d, chk env.g env.settings lvl (d + 1) m w b e = true → P) : P := by
  rcases h with h | ⟨d, hd'⟩
  · exact h0 h
  · cases d with
    | zero => simp [chk] at hd'
    | succ d => exact hd d hd'

/-- where one more unit of fuel unfolds `chk` to `c` (by `rfl` for every construct without a side
    condition), a check that passed gives `c` -/
theorem ChkE.step {e} {c : Nat → Bool} (h : ChkE env lvl m w b e)
    (hc : ∀ d, chk env.g env.settings lvl (d + 1) m w b e = c d) : m = 0 ∨ ∃ d, c d = true :=
  h.elim Or.inl fun d hd => Or.inr ⟨d, hc d ▸ hd⟩

theorem ChkE.choice {as} (h : ChkE env lvl m w b (.choice as)) : ChkAlts env lvl m w b as :=
  h.step fun _ => rfl

theorem ChkAlts.cons {a as} (h : ChkAlts env lvl m w b (a :: as)) :
    ChkE env lvl m w (b && as.isEmpty) a ∧ ChkAlts env lvl m w b as := by
  rcases h with h | ⟨d, hd⟩
  · exact ⟨Or.inl h, Or.inl h⟩
  · cases as with
    | nil =>
      simp only [chkAlts] at hd
      exact ⟨Or.inr ⟨d, by simpa using hd⟩, Or.inr ⟨d, rfl⟩⟩
    | cons a' as =>
      simp only [chkAlts, Bool.and_eq_true] at hd
      exact ⟨Or.inr ⟨d, by simpa using hd.1⟩, Or.inr ⟨d, hd.2⟩⟩

theorem ChkSeq.cons {p ps} (h : ChkSeq env lvl m w b (p :: ps)) :
    ChkE env lvl m w b p ∧ (LRC.ProgE env p ∨ ChkSeq env lvl m w b ps) := by
  rcases h with h | ⟨d, hd⟩
  · exact ⟨Or.inl h, Or.inr (Or.inl h)⟩
  · simp only [chkSeq, Bool.and_eq_true, Bool.or_eq_true] at hd
    refine ⟨Or.inr ⟨d, hd.1⟩, ?_⟩
    rcases hd.2 with h2 | h2
    · exact Or.inl ⟨d, prog_eq_lrc .. ▸ h2⟩
    · exact Or.inr (Or.inr ⟨d, h2⟩)

theorem ChkE.closure {x plus} (h : ChkE env lvl m w b (.closure x plus)) :
    ChkE env lvl m w (b && plus) x :=
  h.step fun _ => rfl

theorem ChkE.terminal {e x} (hterm : terminalOf e = some x) (h : ChkE env lvl m w b e) (hw : w = true) :
    ChkR env lvl m b "Whitespace" :=
  h.elim Or.inl fun d hd => by
    cases e <;> simp only [terminalOf, reduceCtorEq] at hterm <;>
      exact Or.inr ⟨d, by simpa only [chk, hw, Bool.not_true, Bool.false_or] using hd⟩

theorem ChkE.incl {r rule} (h : ChkE env lvl m w b (.incl r)) (hf : env.g.findRule r = some rule) :
    ChkE env lvl m w b rule.definition :=
  h.elim Or.inl fun d hd => Or.inr ⟨d, by simpa only [chk, hf] using hd⟩

theorem ChkE.field {nm bx typ} (h : ChkE env lvl m w b (.field nm bx typ)) :
    (w = true → ChkR env lvl m b "Whitespace") ∧ ChkR env lvl m b typ :=
  h.elim (fun h => ⟨fun _ => Or.inl h, Or.inl h⟩) fun d hd => by
    simp only [chk, Bool.and_eq_true] at hd
    exact ⟨fun hw => Or.inr ⟨d, by simpa only [hw, Bool.not_true, Bool.false_or] using hd.1⟩, Or.inr ⟨d, hd.2⟩⟩

theorem ChkR.rule {name b r} (h : ChkR env lvl m b name) (hf : env.g.find name = some (.rule r)) :
    (r.flags.leftRecursive = true → m ≤ lvl r.name + 1 ∧ (b = true → m ≤ lvl r.name)) ∧
    (r.flags.leftRecursive = false → r.flags.memoize = true → m ≤ lvl r.name ∧
      ChkE env lvl m (env.settings.skipWhitespace && !r.flags.noSkipWs) true r.definition) ∧
    (r.flags.leftRecursive = false → r.flags.memoize = false →
      ChkE env lvl m (env.settings.skipWhitespace && !r.flags.noSkipWs) b r.definition) := by
  rcases h with h | ⟨d, hd⟩
  · exact ⟨fun _ => ⟨by omega, fun _ => by omega⟩, fun _ _ => ⟨by omega, Or.inl h⟩, fun _ _ => Or.inl h⟩
  · simp only [chkRule, hf] at hd
    refine ⟨fun hl => ?_, fun hl hm => ?_, fun hl hm => ?_⟩
    · simp only [hl, if_true] at hd
      cases b <;> simp only [if_true, Bool.false_eq_true, if_false, decide_eq_true_eq] at hd
      · exact ⟨hd, nofun⟩
      · exact ⟨by omega, fun _ => hd⟩
    · simp only [hl, hm, Bool.false_eq_true, if_false, if_true, Bool.and_eq_true, decide_eq_true_eq] at hd
      exact ⟨hd.1, Or.inr ⟨d, hd.2⟩⟩
    · simp only [hl, hm, Bool.false_eq_true, if_false] at hd
      exact Or.inr ⟨d, hd⟩

theorem ChkR.charRule {name b cr} (h : ChkR env lvl m b name)
    (hf : env.g.find name = some (.charRule cr)) :
    ∀ id, CharRulePart.ident id ∈ cr.choices → ChkR env lvl m false id := by
  intro id hid
  rcases h with h | ⟨d, hd⟩
  · exact Or.inl h
  · simp only [chkRule, hf, List.all_eq_true] at hd
    exact (ChkE.field (Or.inr ⟨d, hd _ hid⟩)).2

/-- what `RecFirst` says of one `@leftrec` rule -/
theorem chkE_of_recFirst {fuel : Nat} (h : RecFirst env.g env.settings lvl fuel = true) {r : Rule}
    (hr : RuleEntry.rule r ∈ env.g.rules) (hl : r.flags.leftRecursive = true) :
    ChkE env lvl (lvl r.name + 1) (env.settings.skipWhitespace && !r.flags.noSkipWs) true r.definition := by
  unfold RecFirst at h
  rw [List.all_eq_true] at h
  have := h _ hr
  simp only [hl, Bool.not_true, Bool.false_or] at this
  exact Or.inr ⟨fuel, this⟩

/-! ### progress -/

theorem progE_iff_lrc {e} : ProgE env e ↔ LRC.ProgE env e := by
  unfold ProgE LRC.ProgE
  simp only [prog_eq_lrc]

theorem ProgE.choice {as} (h : ProgE env (.choice as)) : ∀ a ∈ as, ProgE env a :=
  fun a ha => progE_iff_lrc.2 ((progE_iff_lrc.1 h).choice a ha)

theorem ProgE.closure {x plus} (h : ProgE env (.closure x plus)) : plus = true ∧ ProgE env x :=
  (progE_iff_lrc.1 h).closure.imp id progE_iff_lrc.2

end

end SN

/-! ## Part 2: the semantic invariant -/

namespace SN

/-- the error is the left-recursion sentinel -/
def IsSent (e : PErr) : Prop := e.spec = .leftRecursionSentinel

/-- a stored sentinel lies at or before the cursor: the next real failure replaces it -/
def GoodSt (s : St) : Prop := ∀ f, s.far = some f → IsSent f → f.pos ≤ s.off

/-- the cache answers `k` with a sentinel failure (a planted seed that has not been replaced yet) -/
def Act (g : Global) (k : String × Nat) : Prop := ∃ e, g.lookup k = some (.err e) ∧ IsSent e

def ActAt (g : Global) (q : Nat) : Prop := ∃ R, Act g (R, q)

/-- planted seeds lie at or before `q` -/
def ActLe (g : Global) (q : Nat) : Prop := ∀ k, Act g k → k.2 ≤ q

/-- no new sentinel entries -/
def SentSub (g' g : Global) : Prop := ∀ k, Act g' k → Act g k

/-- cache entries: a success ends at or after its key with a good state; a failure lies at or after its key, and
    at it if it is the sentinel -/
structure CInv (g : Global) : Prop where
  ok : ∀ k v ns, g.lookup k = some (.ok v ns) → k.2 ≤ ns.off ∧ GoodSt ns
  err : ∀ k e, g.lookup k = some (.err e) → k.2 ≤ e.pos ∧ (IsSent e → e.pos = k.2)

/-- the rules whose seed is planted at offset `q` all have a level below `m` -/
def Pre (lvl : String → Nat) (m : Nat) (q : Nat) (g : Global) : Prop := ∀ R, Act g (R, q) → lvl R < m

/-- the precondition of a triple -/
structure Hyp (s : St) (g : Global) : Prop where
  good : GoodSt s
  cinv : CInv g
  le : ActLe g s.off

/-- a failure lies at/after the start offset; if it is the sentinel, it lies *at* the start offset and
    some seed is planted there -/
def ErrOK (g : Global) (q : Nat) (e : PErr) : Prop := q ≤ e.pos ∧ (IsSent e → e.pos = q ∧ ActAt g q)

/-- by outcome: a success has moved on to a good state, a failure is `ErrOK` for the start offset; either way no
    sentinel entry was added and the cache invariant holds; a panic promises nothing -/
def Post (s : St) (g : Global) {α} (res : Res α) (g' : Global) : Prop :=
  match res with
  | .ok _ s' => s.off ≤ s'.off ∧ GoodSt s' ∧ SentSub g' g ∧ CInv g'
  | .err e => ErrOK g s.off e ∧ SentSub g' g ∧ CInv g'
  | .panic _ => True

/-- what a triple says of one answer: it satisfies `Post`; if `b`, a failure is not the sentinel; if `p`, a
    success consumes input -/
def Ans (b : Bool) (p : Prop) (s : St) (g : Global) {α} (res : Res α) (g' : Global) : Prop :=
  Post s g res g' ∧ (b = true → ∀ e, res = .err e → ¬ IsSent e) ∧ (p → ∀ v s', res = .ok v s' → s.off < s'.off)

/-- the triple: every answer of `f` under `Hyp` and `Pre m` satisfies `Ans b p` (written out) -/
def Tri (lvl : String → Nat) (m : Nat) (b : Bool) (p : Prop) (s : St) {α} (f : Global → Out α) : Prop :=
  ∀ g res g', f g = some (res, g') → Hyp s g → Pre lvl m s.off g →
    Post s g res g' ∧ (b = true → ∀ e, res = .err e → ¬ IsSent e) ∧
      (p → ∀ v s', res = .ok v s' → s.off < s'.off)

/-! ### basic facts -/

theorem SentSub.refl (g : Global) : SentSub g g := fun _ h => h
theorem SentSub.trans {a b c : Global} (h1 : SentSub a b) (h2 : SentSub b c) : SentSub a c :=
  fun k h => h2 k (h1 k h)

theorem act_of_cache {g g' : Global} (h : g'.cache = g.cache) {k} : Act g' k ↔ Act g k := by
  unfold Act; rw [lookup_of_cache_eq h]

theorem sentSub_of_cache {g g' : Global} (h : g'.cache = g.cache) : SentSub g' g :=
  fun _ hk => (act_of_cache h).1 hk

theorem sentSub_of_cache' {g g' : Global} (h : g'.cache = g.cache) : SentSub g g' :=
  fun _ hk => (act_of_cache h).2 hk

theorem cinv_iff {g : Global} : CInv g ↔
    Cached (fun k r => (∀ v ns, r = .ok v ns → k.2 ≤ ns.off ∧ GoodSt ns) ∧
      ∀ e, r = .err e → k.2 ≤ e.pos ∧ (IsSent e → e.pos = k.2)) g :=
  ⟨fun h k _ hl => ⟨fun v ns hr => h.ok k v ns (hr ▸ hl), fun e hr => h.err k e (hr ▸ hl)⟩,
   fun h => ⟨fun k v ns hl => (h k _ hl).1 v ns rfl, fun k e hl => (h k _ hl).2 e rfl⟩⟩

theorem cinv_of_cache {g g' : Global} (hc : CInv g) (h : g'.cache = g.cache) : CInv g' :=
  cinv_iff.2 ((cinv_iff.1 hc).of_cache h)

theorem hyp_of_cache {s : St} {g g' : Global} (hh : Hyp s g) (h : g'.cache = g.cache) : Hyp s g' :=
  ⟨hh.good, cinv_of_cache hh.cinv h, fun k hk => hh.le k ((act_of_cache h).1 hk)⟩

theorem pre_of_cache {lvl m q} {g g' : Global} (hp : Pre lvl m q g) (h : g'.cache = g.cache) :
    Pre lvl m q g' := fun R hk => hp R ((act_of_cache h).1 hk)

theorem Pre.mono {lvl m m' q} {g : Global} (hp : Pre lvl m q g) (hm : m ≤ m') : Pre lvl m' q g :=
  fun R hk => Nat.lt_of_lt_of_le (hp R hk) hm

theorem actAt_of_cache {g g' : Global} (h : g'.cache = g.cache) {q} (ha : ActAt g q) : ActAt g' q := by
  obtain ⟨R, hR⟩ := ha
  exact ⟨R, (act_of_cache h).2 hR⟩

theorem ErrOK.sub {g g1 : Global} {q e} (h : ErrOK g1 q e) (hs : SentSub g1 g) : ErrOK g q e :=
  ⟨h.1, fun he => ⟨(h.2 he).1, by obtain ⟨R, hR⟩ := (h.2 he).2; exact ⟨R, hs _ hR⟩⟩⟩

/-- the cursor may move on, the cache may lose seeds -/
theorem pre_next {lvl m} {s : St} {g g1 : Global} {q1 : Nat} (hh : Hyp s g) (hp : Pre lvl m s.off g)
    (hs : SentSub g1 g) (hq : s.off ≤ q1) : Pre lvl m q1 g1 := by
  intro R hR
  have h1 := hs _ hR
  have h2 : q1 ≤ s.off := hh.le _ h1
  have h3 : q1 = s.off := Nat.le_antisymm h2 hq
  rw [h3] at h1
  exact hp R h1

/-- after consuming input no seed is planted at the cursor -/
theorem pre_zero {lvl} {s : St} {g g1 : Global} {q1 : Nat} (hh : Hyp s g)
    (hs : SentSub g1 g) (hq : s.off < q1) : Pre lvl 0 q1 g1 := by
  intro R hR
  have h2 : q1 ≤ s.off := hh.le _ (hs _ hR)
  omega

theorem hyp_next {s s1 : St} {g g1 : Global} (hh : Hyp s g) (ho : s.off ≤ s1.off) (hg : GoodSt s1)
    (hs : SentSub g1 g) (hc : CInv g1) : Hyp s1 g1 :=
  ⟨hg, hc, fun k hk => Nat.le_trans (hh.le k (hs k hk)) ho⟩

theorem Post.hyp {α} {s s1 : St} {g g1 : Global} {v : α} (hh : Hyp s g) (h : Post s g (.ok v s1) g1) :
    Hyp s1 g1 := hyp_next hh h.1 h.2.1 h.2.2.1 h.2.2.2

/-- composition: a success followed by anything -/
theorem Post.trans {α β} {s s1 : St} {g g1 g' : Global} {v : α} {res : Res β} (hh : Hyp s g)
    (h1 : Post s g (.ok v s1) g1) (h2 : Post s1 g1 res g') : Post s g res g' := by
  obtain ⟨ho, _, hs, _⟩ := h1
  cases res with
  | ok v' s' =>
    obtain ⟨ho2, hg2, hs2, hc2⟩ := h2
    exact ⟨Nat.le_trans ho ho2, hg2, hs2.trans hs, hc2⟩
  | err e =>
    obtain ⟨⟨hp, hse⟩, hs2, hc2⟩ := h2
    refine ⟨⟨Nat.le_trans ho hp, fun he => ?_⟩, hs2.trans hs, hc2⟩
    obtain ⟨hpos, R, hR⟩ := hse he
    have h3 : s1.off ≤ s.off := hh.le _ (hs _ hR)
    have h4 : s1.off = s.off := Nat.le_antisymm h3 ho
    rw [h4] at hpos hR
    exact ⟨hpos, R, hs _ hR⟩
  | panic m => trivial

/-- the global object before may have had more seeds, the one after fewer -/
theorem Post.imp {α} {s : St} {g G g' G' : Global} {res : Res α} (h : Post s g res g') (hl : SentSub g G)
    (hr : SentSub G' g') (hc : CInv g' → CInv G') : Post s G res G' := by
  cases res with
  | ok v s' => exact ⟨h.1, h.2.1, (hr.trans h.2.2.1).trans hl, hc h.2.2.2⟩
  | err e => exact ⟨h.1.sub hl, (hr.trans h.2.1).trans hl, hc h.2.2⟩
  | panic m => trivial

/-- the result is relative to the original state (lookaheads, failed alternatives) -/
theorem Post.then_same {β} {s : St} {g g1 g' : Global} {res : Res β}
    (hs : SentSub g1 g) (h2 : Post s g1 res g') : Post s g res g' :=
  h2.imp hs (SentSub.refl _) id

theorem Post.cache_r {α} {s : St} {g g' g'' : Global} {res : Res α} (hc : g''.cache = g'.cache)
    (h : Post s g res g') : Post s g res g'' :=
  h.imp (SentSub.refl _) (sentSub_of_cache hc) (cinv_of_cache · hc)

/-- `Post` with the sentinel clause relative to an earlier global object -/
def PostG (G0 : Global) (s : St) (g : Global) {α} (res : Res α) (g' : Global) : Prop :=
  match res with
  | .ok _ s' => s.off ≤ s'.off ∧ GoodSt s' ∧ SentSub g' g ∧ CInv g'
  | .err e => ErrOK G0 s.off e ∧ SentSub g' g ∧ CInv g'
  | .panic _ => True

theorem Post.toG {α} {G0 : Global} {s : St} {g g' : Global} {res : Res α} (hs : SentSub g G0)
    (h : Post s g res g') : PostG G0 s g res g' := by
  cases res with
  | ok v s' => exact h
  | err e => exact ⟨h.1.sub hs, h.2⟩
  | panic msg => trivial

theorem Post.of_off {α} {s s' : St} {g g' : Global} {res : Res α} (h : s.off = s'.off)
    (hp : Post s g res g') : Post s' g res g' := by
  unfold Post at hp ⊢
  rw [← h]
  exact hp

/-! ### `record_error` / `report_error` on good states -/

theorem goodSt_of_far {s s' : St} (hf : s'.far = s.far) (ho : s.off ≤ s'.off) (h : GoodSt s) : GoodSt s' :=
  fun f hf' hs => Nat.le_trans (h f (by rw [← hf]; exact hf') hs) ho

theorem goodSt_new (inp : List UInt8) : GoodSt (St.new inp) := fun f hf => by cases hf

/-- one `record_error` on a good state: what is stored afterwards lies at/after the cursor; it is the new error, or
    an older one that is no sentinel (an older sentinel lies at or before the cursor and loses against the new error) -/
theorem record_sent {cur : St} {e : PErr} (hg : GoodSt cur) (hle : cur.off ≤ e.pos) :
    ∃ f, record cur.far e = some f ∧ cur.off ≤ f.pos ∧ (f = e ∨ ¬ IsSent f) := by
  obtain ⟨f, hf, hef, -, hcase⟩ := record_spec cur.far e
  refine ⟨f, hf, Nat.le_trans hle hef, hcase.imp id fun ⟨hfar, hlt⟩ hs => ?_⟩
  have := hg f hfar hs
  omega

/-- `report_error` on a good state answers at/after the cursor; the answer is the sentinel only if the
    sentinel is what was reported, and then it lies at the cursor -/
theorem reportError_sent {s : St} (hg : GoodSt s) (sp : Spec) :
    s.off ≤ (s.reportError sp).pos ∧
      (IsSent (s.reportError sp) → sp = .leftRecursionSentinel ∧ (s.reportError sp).pos = s.off) := by
  obtain ⟨f, hf, hle, hfe⟩ := record_sent hg (e := ⟨s.off, sp⟩) (Nat.le_refl _)
  rw [Option.some.inj ((reportError_eq s sp).trans hf)]
  refine ⟨hle, fun h => ?_⟩
  rcases hfe with rfl | hns
  · exact ⟨h, rfl⟩
  · exact absurd h hns

/-- a real `report_error` on a good state is not the sentinel, and lies at/after the cursor -/
theorem reportError_real {s : St} (hg : GoodSt s) {sp : Spec} (hsp : sp ≠ .leftRecursionSentinel) :
    s.off ≤ (s.reportError sp).pos ∧ ¬ IsSent (s.reportError sp) :=
  ⟨(reportError_sent hg sp).1, fun h => hsp ((reportError_sent hg sp).2 h).1⟩

theorem errOK_real {g : Global} {s : St} (hg : GoodSt s) {sp : Spec} (hsp : sp ≠ .leftRecursionSentinel) :
    ErrOK g s.off (s.reportError sp) :=
  ⟨(reportError_real hg hsp).1, fun h => absurd h (reportError_real hg hsp).2⟩

/-- folding a failure into the state it started from, and what that state reports as its farthest failure (the answer of a
    choice or of `+` none of whose attempts succeeded) -/
theorem recordError_good {g : Global} {cur : St} {e : PErr} (hg : GoodSt cur) (he : ErrOK g cur.off e) :
    GoodSt (cur.recordError e) ∧ ErrOK g cur.off (cur.recordError e).reportFarthest ∧
      (¬ IsSent e → ¬ IsSent (cur.recordError e).reportFarthest) := by
  obtain ⟨f, hf, hle, hfe⟩ := record_sent hg he.1
  have hfar : (cur.recordError e).far = some f := (recordError_far cur e).trans hf
  have key : ErrOK g cur.off f ∧ (¬ IsSent e → ¬ IsSent f) := by
    rcases hfe with rfl | hns
    · exact ⟨he, id⟩
    · exact ⟨⟨hle, fun h => absurd h hns⟩, fun _ => hns⟩
  rw [show (cur.recordError e).reportFarthest = f by simp only [St.reportFarthest, hfar]]
  refine ⟨fun f' hf' hs' => ?_, key⟩
  obtain rfl : f' = f := Option.some.inj (hf'.symm.trans hfar)
  rw [recordError_off]
  exact Nat.le_of_eq (key.1.2 hs').1

/-! ### cache insertion -/

theorem act_insert_ne {g : Global} {key k : String × Nat} {x : Res Val} (hk : k ≠ key) :
    Act (g.insert key x) k ↔ Act g k := by
  unfold Act; rw [LR.lookup_insert_ne g x hk]

theorem cinv_insert {g : Global} {key : String × Nat} {x : Res Val} (hc : CInv g)
    (hok : ∀ v ns, x = .ok v ns → key.2 ≤ ns.off ∧ GoodSt ns)
    (herr : ∀ e, x = .err e → key.2 ≤ e.pos ∧ (IsSent e → e.pos = key.2)) : CInv (g.insert key x) :=
  cinv_iff.2 ((cinv_iff.1 hc).insert ⟨hok, herr⟩)

/-- replacing an entry by a non-sentinel one removes it from the active set and adds nothing to it -/
theorem act_insert {g : Global} {key k : String × Nat} {x : Res Val}
    (hx : ∀ e, x = .err e → ¬ IsSent e) (hk : Act (g.insert key x) k) : k ≠ key ∧ Act g k := by
  have hne : k ≠ key := by
    rintro rfl
    obtain ⟨e, hl, hs⟩ := hk
    rw [LR.lookup_insert_self] at hl
    exact hx e (Option.some.inj hl) hs
  exact ⟨hne, (act_insert_ne hne).1 hk⟩

/-! ## Part 3: the invariant is preserved -/

section
variable {lvl : String → Nat}

theorem Tri.weaken {m b b' p p' s α} {f : Global → Out α} (h : Tri lvl m b p s f)
    (hb : b' = true → b = true) (hp : p' → p) : Tri lvl m b' p' s f := by
  intro g res g' hx hh hpre
  obtain ⟨h1, h2, h3⟩ := h g res g' hx hh hpre
  exact ⟨h1, fun hb' => h2 (hb hb'), fun hp' => h3 (hp hp')⟩

/-- at bound `0` no seed is planted at the cursor: no failure is the sentinel -/
theorem Tri.zero_strict {b b' p s α} {f : Global → Out α} (h : Tri lvl 0 b p s f) : Tri lvl 0 b' p s f := by
  intro g res g' hx hh hpre
  obtain ⟨h1, _, h3⟩ := h g res g' hx hh hpre
  refine ⟨h1, fun _ e he hs => ?_, h3⟩
  subst he
  obtain ⟨R, hR⟩ := (h1.1.2 hs).2
  exact Nat.not_lt_zero _ (hpre R hR)

/-- `Ans` for each kind of answer (these three prove `Ans`, the conclusion of a triple, not `Tri`) -/
theorem tri_panic {α} {b : Bool} {p : Prop} {s : St} {g g' : Global} {msg : String} :
    Ans b p s g (.panic msg : Res α) g' :=
  ⟨trivial, nofun, nofun⟩

theorem tri_ok {α} {b : Bool} {p : Prop} {s s' : St} {g g' : Global} {v : α} (h : Post s g (.ok v s') g')
    (hp : p → s.off < s'.off) : Ans b p s g (.ok v s') g' :=
  ⟨h, nofun, fun hp' _ _ he => by cases he; exact hp hp'⟩

theorem tri_err {α} {b : Bool} {p : Prop} {s : St} {g g' : Global} {e : PErr} (h : Post s g (.err e : Res α) g')
    (hb : b = true → ¬ IsSent e) : Ans b p s g (.err e : Res α) g' :=
  ⟨h, fun hb' _ he => by cases he; exact hb hb', nofun⟩

theorem Tri.panic {m b p s α} (msg : String) : Tri lvl m b p s (fun g => some ((.panic msg : Res α), g)) := by
  intro g res g' hx _ _
  cases hx
  exact tri_panic

/-- a result that does not touch the global object -/
theorem Tri.pure {m b p s α} {r : Res α}
    (hok : ∀ v s', r = .ok v s' → GoodSt s → s.off ≤ s'.off ∧ GoodSt s' ∧ (p → s.off < s'.off))
    (herr : ∀ e, r = .err e → GoodSt s → s.off ≤ e.pos ∧ ¬ IsSent e) :
    Tri lvl m b p s (fun g => some (r, g)) := by
  intro g res g' hx hh _
  cases hx
  cases r with
  | ok v s' =>
    obtain ⟨h1, h2, h3⟩ := hok v s' rfl hh.good
    exact tri_ok ⟨h1, h2, SentSub.refl _, hh.cinv⟩ h3
  | err e =>
    obtain ⟨h1, h2⟩ := herr e rfl hh.good
    exact tri_err ⟨⟨h1, fun hs => absurd hs h2⟩, SentSub.refl _, hh.cinv⟩ fun _ => h2
  | panic msg => exact tri_panic

theorem Tri.okSame {m b s α} (v : α) : Tri lvl m b False s (fun g => some (.ok v s, g)) :=
  Tri.pure (fun _ _ he hg => by cases he; exact ⟨Nat.le_refl _, hg, fun h => h.elim⟩)
    (fun _ he => by cases he)

/-- what a node sees of a sub-computation that satisfies a triple -/
theorem Tri.inv {m b p s α β} {f : Global → Out α} (hf : Tri lvl m b p s f)
    {ok : α → St → Global → Out β} {err : PErr → Global → Out β} {g res g'}
    (h : caseR (f g) ok err = some (res, g')) (hh : Hyp s g) (hpre : Pre lvl m s.off g) :
    (∃ v s1 g1, ok v s1 g1 = some (res, g') ∧ Post s g (.ok v s1 : Res α) g1 ∧ (p → s.off < s1.off)) ∨
    (∃ e g1, err e g1 = some (res, g') ∧ Post s g (.err e : Res α) g1 ∧ (b = true → ¬ IsSent e)) ∨
    ∃ msg, res = .panic msg := by
  rcases caseR_inv h with ⟨v, s1, g1, hx, h⟩ | ⟨e, g1, hx, h⟩ | ⟨msg, _, rfl⟩
  · obtain ⟨hpost, _, hprog⟩ := hf _ _ _ hx hh hpre
    exact .inl ⟨_, _, g1, h, hpost, fun hp => hprog hp _ _ rfl⟩
  · obtain ⟨hpost, hb, _⟩ := hf _ _ _ hx hh hpre
    exact .inr (.inl ⟨_, g1, h, hpost, fun hb' => hb hb' _ rfl⟩)
  · exact .inr (.inr ⟨_, rfl⟩)

/-- running a triple on a global object that differs from `g` outside the cache (events emitted) -/
theorem Tri.run {m b p s α} {f : Global → Out α} (hf : Tri lvl m b p s f) {g0 g : Global} {res g'}
    (hx : f g0 = some (res, g')) (hh : Hyp s g) (hpre : Pre lvl m s.off g) (hc : g0.cache = g.cache) :
    Ans b p s g res g' :=
  let ⟨h1, h23⟩ := hf _ _ _ hx (hyp_of_cache hh hc) (pre_of_cache hpre hc)
  ⟨h1.then_same (sentSub_of_cache hc), h23⟩

/-- sequencing.  The continuation is checked at the same bound, or at bound `0` when the first part consumes input. -/
theorem Tri.bind {m b p p' s α β} {f : Global → Out α} {k : α → St → Global → Out β}
    (hf : Tri lvl m b p s f)
    (hk : ∀ v s1, Tri lvl m b p' s1 (k v s1) ∨ (p ∧ Tri lvl 0 b p' s1 (k v s1))) :
    Tri lvl m b (p ∨ p') s (fun g => bindR (f g) k) := by
  intro g res g' h hh hpre
  rcases hf.inv h hh hpre with ⟨v, s1, g1, h, hpost, hprog⟩ | ⟨e, g1, h, hpost, hb⟩ | ⟨msg, rfl⟩
  · obtain ⟨hpost2, hb2, hp2⟩ : Ans b p' s1 g1 res g' :=
      (hk v s1).elim (fun hk' => hk' _ _ _ h (hpost.hyp hh) (pre_next hh hpre hpost.2.2.1 hpost.1))
        fun ⟨hp, hk'⟩ => hk' _ _ _ h (hpost.hyp hh) (pre_zero hh hpost.2.2.1 (hprog hp))
    refine ⟨Post.trans hh hpost hpost2, hb2, fun hpp v' s' he => ?_⟩
    subst he
    have h12 : s1.off ≤ s'.off := hpost2.1
    rcases hpp with hp | hp
    · have := hprog hp; omega
    · have := hp2 hp v' s' rfl
      have := hpost.1
      omega
  · cases h
    exact tri_err hpost hb
  · exact tri_panic

/-- the plain form: the continuation is checked at the same bound and adds nothing to progress -/
theorem Tri.bind' {m b p s α β} {f : Global → Out α} {k : α → St → Global → Out β}
    (hf : Tri lvl m b p s f) (hk : ∀ v s1, Tri lvl m b False s1 (k v s1)) :
    Tri lvl m b p s (fun g => bindR (f g) k) :=
  (Tri.bind hf fun v s1 => .inl (hk v s1)).weaken id Or.inl

/-- first success wins: `f`, and when it fails `f'` from the same state -/
theorem Tri.orElse {m b p s α} {f f' : Global → Out α} (hf : Tri lvl m false p s f)
    (hf' : Tri lvl m b p s f') :
    Tri lvl m b p s (fun g => caseR (f g) (fun v s' g' => some (.ok v s', g')) fun _ g' => f' g') := by
  intro g res g' h hh hpre
  rcases hf.inv h hh hpre with ⟨v, s1, g1, h, hpost, hprog⟩ | ⟨e, g1, h, ⟨_, hs0, hc0⟩, _⟩ | ⟨msg, rfl⟩
  · cases h
    exact tri_ok hpost hprog
  · obtain ⟨h1, h2, h3⟩ := hf' _ _ _ h (hyp_next hh (Nat.le_refl _) hh.good hs0 hc0)
      (pre_next hh hpre hs0 (Nat.le_refl _))
    exact ⟨Post.then_same hs0 h1, h2, h3⟩
  · exact tri_panic

/-! ### terminal matchers -/

/-- a matcher on a good state: a success moves on (strictly, when `hl` says it consumes), a failure
    is reported at/after the cursor and is not the sentinel -/
theorem Tri.term {m b s α} {mt : St → Res α} {nn : Prop} (hm : IsMatcher mt)
    (hl : nn → ∀ s v s', mt s = .ok v s' → s'.rest.length < s.rest.length) :
    Tri lvl m b nn s (fun g => some (mt s, g)) := by
  refine Tri.pure (fun v s' he hg => ?_) (fun e he hg => ?_)
  · obtain ⟨n, hn, rfl⟩ := hm.ok_inv he
    exact ⟨Nat.le_add_right _ _, goodSt_of_far (s := s) rfl (Nat.le_add_right _ _) hg,
      fun hnn => (hm.off_lt_iff he).mpr (hl hnn s v _ he)⟩
  · obtain ⟨sp, hsp, rfl⟩ := hm.err_inv he
    exact reportError_real hg hsp.1

theorem Tri.termMap {m b s α β} {mt : St → Res α} {nn : Prop} (hm : IsMatcher mt)
    (hl : nn → ∀ s v s', mt s = .ok v s' → s'.rest.length < s.rest.length) (f : α → β) :
    Tri lvl m b nn s (fun g => some ((mt s).map f, g)) :=
  Tri.term (hm.map f) fun hn s _ s' he => by
    obtain ⟨v0, h0⟩ := map_ok he
    exact hl hn s v0 s' h0

end

/-- the invariant of the evaluator -/
structure SInv (env : Env) (lvl : String → Nat) (rec : Rec) : Prop where
  expr : ∀ ctx e s m b, ChkE env lvl m ctx.skipWs b e → Tri lvl m b (LRC.ProgE env e) s (rec.expr ctx e s)
  rule : ∀ name s m b, ChkR env lvl m b name → Tri lvl m b (LRC.ProgR env name) s (rec.rule name s)

/-! ### expression level -/

section
variable {env : Env} {lvl : String → Nat} {rec : Rec}

theorem withSkipWs_tri {α} (hrec : SInv env lvl rec) {ctx : Ctx} {m b p s} {k : St → Global → Out α}
    (hws : ctx.skipWs = true → ChkR env lvl m b "Whitespace")
    (hk : ∀ s1, Tri lvl m b p s1 (k s1)) :
    Tri lvl m b p s (fun g => withSkipWs rec ctx s g k) := by
  by_cases hc : ctx.skipWs = true
  · simp only [withSkipWs, hc, if_true]
    exact (Tri.bind (hrec.rule _ _ _ _ (hws hc)) fun _ s1 => .inl (hk s1)).weaken id Or.inr
  · simp only [withSkipWs, if_neg hc]
    exact hk s

theorem evalSeq_tri (hrec : SInv env lvl rec) {ctx : Ctx} {b : Bool} :
    ∀ ps m seen acc s, ChkSeq env lvl m ctx.skipWs b ps →
      Tri lvl m b (∃ p ∈ ps, LRC.ProgE env p) s (evalSeq env rec ctx ps seen acc s) := by
  intro ps
  induction ps with
  | nil =>
    intro m seen acc s _
    exact (Tri.okSame _).weaken id (fun ⟨p, hp, _⟩ => by cases hp)
  | cons p ps ih =>
    intro m seen acc s hchk
    obtain ⟨hp, hrest⟩ := hchk.cons
    refine congr_pred (fun g => by rw [evalSeq]) ((Tri.bind (p' := ∃ p ∈ ps, LRC.ProgE env p)
      (hrec.expr ctx p s m b hp) (fun r s1 => ?_)).weaken id ?_)
    · dsimp only
      cases mergePart (filterRuleFields ctx.ruleFields (ownFields env p)) seen acc r with
      | error msg => exact .inl (Tri.panic _)
      | ok v =>
        -- after a part that consumes input the rest needs no check
        exact hrest.elim (fun hpr => .inr ⟨hpr, ih _ _ _ _ (Or.inl rfl)⟩) fun h => .inl (ih _ _ _ _ h)
    · rintro ⟨q, hq, hpq⟩
      rcases List.mem_cons.1 hq with rfl | hq
      · exact Or.inl hpq
      · exact Or.inr ⟨q, hq, hpq⟩

/-- the alternatives from `a` on; `cur` is the state the choice started from with the failures so far folded in.  The
    failure of the choice is read from `cur` after the last alternative failed: it is that failure, or an older real one -/
theorem evalAlts_tri (hrec : SInv env lvl rec) {ctx : Ctx} {fields} {m : Nat} {b : Bool} (a : Expr) (as : List Expr)
    (cur : St) (hchk : ChkAlts env lvl m ctx.skipWs b (a :: as)) :
    Tri lvl m b (∀ x ∈ a :: as, LRC.ProgE env x) cur (evalAlts env rec ctx fields (a :: as) cur) := by
  intro g res g' h hh hpre
  obtain ⟨hca, hcas⟩ := hchk.cons
  rw [evalAlts_step] at h
  rcases (hrec.expr _ _ _ _ _ hca).inv h hh hpre with
    ⟨r0, s0, g0, h, hpost, hprog⟩ | ⟨e0, g0, h, ⟨he0, hs0, hc0⟩, hb0⟩ | ⟨msg, rfl⟩
  · split at h <;> cases h
    · exact tri_ok hpost fun hall => hprog (hall a (List.mem_cons_self ..))
    · exact tri_panic
  · obtain ⟨hgood, hfe, hfs⟩ := recordError_good hh.good he0
    have hoff : (cur.recordError e0).off = cur.off := recordError_off _ _
    cases as with
    | nil =>
      cases h
      exact tri_err ⟨hfe, hs0, hc0⟩ fun hb => hfs (hb0 (by simp [hb]))
    | cons a' as =>
      obtain ⟨h1, h2, h3⟩ := evalAlts_tri hrec a' as _ hcas _ _ _ h
        (hyp_next hh (Nat.le_of_eq hoff.symm) hgood hs0 hc0) (pre_next hh hpre hs0 (Nat.le_of_eq hoff.symm))
      exact ⟨(h1.then_same hs0).of_off hoff, h2, fun hall v s' he =>
        hoff ▸ h3 (fun x hx => hall x (List.mem_cons_of_mem _ hx)) v s' he⟩
  · exact tri_panic

/-- a closure from its iteration `iters` on, with what the node does with the count.  Only while no iteration has succeeded
    (`iters = 0`) can `+` fail, with the failure of the body folded into the state, and only then is progress owed from `s` -/
theorem closure_tri {body : St → Global → Out Parsed} {fields} {m : Nat} {b plus : Bool} {p : Prop}
    (hbody : ∀ s, Tri lvl m (b && plus) p s (body s)) :
    ∀ k iters acc s, Tri lvl m b (iters = 0 ∧ plus = true ∧ p) s fun g =>
      bindR (evalLoop body fields k iters acc s g) fun (it, a) s' g' =>
        if plus && it == 0 then some (.err s'.reportFarthest, g') else some (.ok a s', g') := by
  intro k
  induction k with
  | zero => intro iters acc s g res g' h; simp [evalLoop, bindR] at h
  | succ k ih =>
    intro iters acc s g res g' h hh hpre
    dsimp only at h
    rw [evalLoop_step, bindR_caseR] at h
    rcases (hbody s).inv h hh hpre with
      ⟨r0, s0, g0, h, hpost, hprog⟩ | ⟨e0, g0, h, ⟨he0, hs0, hc0⟩, hb0⟩ | ⟨msg, rfl⟩
    · split at h
      · obtain ⟨h1, h2, -⟩ := ih _ _ _ _ _ _ h (hpost.hyp hh) (pre_next hh hpre hpost.2.2.1 hpost.1)
        refine ⟨Post.trans hh hpost h1, h2, fun hp v s' he => ?_⟩
        subst he
        exact Nat.lt_of_lt_of_le (hprog hp.2.2) h1.1
      · cases h; exact tri_panic
    · obtain ⟨hgood, hfe, hfs⟩ := recordError_good hh.good he0
      dsimp only [bindR] at h
      split at h <;> cases h
      · -- no iteration succeeded: `+` answers with the failure of the first one
        rename_i hc
        simp only [Bool.and_eq_true, beq_iff_eq] at hc
        exact tri_err ⟨hfe, hs0, hc0⟩ fun hb => hfs (hb0 (by simp [hb, hc.1]))
      · rename_i hc
        exact tri_ok ⟨by simp, hgood, hs0, hc0⟩ fun hp => absurd (by simp [hp.1, hp.2.1]) hc
    · exact tri_panic

theorem stepExpr_tri (hrec : SInv env lvl rec) (n : Nat) (ctx : Ctx) (e : Expr) (s : St) (m : Nat) (b : Bool)
    (hchk : ChkE env lvl m ctx.skipWs b e) : Tri lvl m b (LRC.ProgE env e) s (stepExpr env rec n ctx e s) := by
  match hterm : terminalOf e with
  | some (.ok mt) =>
    refine congr_pred (fun g => stepExpr_terminal hterm s g) ?_
    exact withSkipWs_tri hrec (fun hw => hchk.terminal hterm hw) fun s1 =>
      Tri.term (isMatcher_of_terminalOf hterm) fun hp => LRC.progE_terminal hterm hp
  | some (.error msg) => exact congr_pred (fun g => stepExpr_terminal_error hterm s g) (Tri.panic _)
  | none =>
  cases e with
  | range | lit | eoi => simp [terminalOf] at hterm
  | choice alts =>
    match alts with
    | [] => exact Tri.panic _
    | [a] =>
      exact (hrec.expr ctx a s m b (hchk.step fun _ => rfl)).weaken id (fun hp => hp.choice a (List.mem_cons_self ..))
    | a :: a' :: rest => exact (evalAlts_tri hrec a (a' :: rest) s hchk.choice).weaken id fun hp => hp.choice
  | seq parts =>
    match parts with
    | [] => exact (Tri.okSame _).weaken id (fun hp => by obtain ⟨p, hp, _⟩ := hp.inv; cases hp)
    | [p] =>
      refine (hrec.expr ctx p s m b (ChkSeq.cons (hchk.step fun _ => rfl)).1).weaken id (fun hp => ?_)
      obtain ⟨q, hq, hpq⟩ := hp.inv
      rcases List.mem_singleton.1 hq with rfl
      exact hpq
    | a :: a' :: rest =>
      refine (Tri.bind' (evalSeq_tri hrec _ _ _ _ _ (hchk.step fun _ => rfl)) (fun v s' => ?_)).weaken id
        (fun hp => hp.inv)
      obtain ⟨seen, acc⟩ := v
      cases hp : project (filterRuleFields ctx.ruleFields (ownFields env (.seq (a :: a' :: rest)))) acc with
      | error msg => simp only [hp]; exact Tri.panic _
      | ok v => simp only [hp]; exact Tri.okSame _
  | group x => exact (hrec.expr ctx x s m b (hchk.step fun _ => rfl)).weaken id (fun hp => hp.inv)
  | opt x =>
    intro g res g' h hh hpre
    rw [opt_step] at h
    rcases (hrec.expr ctx x s m false (hchk.step fun _ => rfl)).inv h hh hpre with
      ⟨v, s1, g1, h, hpost, _⟩ | ⟨e, g1, h, ⟨he0, hs0, hc0⟩, _⟩ | ⟨msg, rfl⟩
    · cases h
      exact tri_ok hpost fun hp => hp.inv.elim
    · split at h <;> cases h
      · exact tri_ok ⟨by simp, (recordError_good hh.good he0).1, hs0, hc0⟩ fun hp => hp.inv.elim
      · exact tri_panic
    · exact tri_panic
  | closure x plus =>
    show Tri lvl m b _ s (fun g => stepExpr env rec n ctx (.closure x plus) s g)
    simp only [stepExpr]
    cases closureInit (filterRuleFields ctx.ruleFields (ownFields env x)) with
    | error msg => exact Tri.panic _
    | ok init =>
      exact (closure_tri (fun s => hrec.expr ctx x s m (b && plus) hchk.closure) n 0 init s).weaken id
        fun hp => ⟨rfl, hp.closure⟩
  | neg x =>
    intro g res g' h hh hpre
    rw [neg_step] at h
    rcases (hrec.expr ctx x s m false (hchk.step fun _ => rfl)).inv h hh hpre with
      ⟨v, s1, g1, h, hpost, _⟩ | ⟨e, g1, h, hpost, _⟩ | ⟨msg, rfl⟩
    · cases h
      have hreal : Spec.negativeLookaheadFailed ≠ .leftRecursionSentinel := nofun
      exact tri_err ⟨errOK_real hh.good hreal, hpost.2.2.1, hpost.2.2.2⟩ fun _ => (reportError_real hh.good hreal).2
    · cases h
      exact tri_ok ⟨Nat.le_refl _, hh.good, hpost.2.1, hpost.2.2⟩ fun hp => hp.inv.elim
    · exact tri_panic
  | pos x =>
    intro g res g' h hh hpre
    rw [stepExpr, bindR_eq_caseR] at h
    rcases (hrec.expr ctx x s m b (hchk.step fun _ => rfl)).inv h hh hpre with
      ⟨v, s1, g1, h, hpost, _⟩ | ⟨e, g1, h, hpost, hb⟩ | ⟨msg, rfl⟩
    · cases h
      exact tri_ok ⟨Nat.le_refl _, hh.good, hpost.2.2.1, hpost.2.2.2⟩ fun hp => hp.inv.elim
    · cases h
      exact tri_err hpost hb
    · exact tri_panic
  | incl r =>
    show Tri lvl m b _ s (fun g => stepExpr env rec n ctx (.incl r) s g)
    simp only [stepExpr]
    cases hf : env.g.findRule r with
    | none => simp only []; exact Tri.panic _
    | some rule =>
      simp only []
      exact (hrec.expr ctx _ s m b (hchk.incl hf)).weaken id (fun hp => hp.inv _ hf)
  | field name boxed typ =>
    show Tri lvl m b _ s (fun g => stepExpr env rec n ctx (.field name boxed typ) s g)
    simp only [stepExpr]
    refine withSkipWs_tri hrec (fun hw => hchk.field.1 hw) (fun s1 => ?_)
    refine (Tri.bind' (hrec.rule typ s1 m b hchk.field.2) (fun v s' => ?_)).weaken id (fun hp => hp.inv)
    cases name with
    | none => exact Tri.okSame _
    | some nm =>
      simp only []
      cases hp : postprocessField ctx.ruleFields nm.key typ v with
      | error msg => simp only []; exact Tri.panic _
      | ok fv => simp only []; exact Tri.okSame _

end

/-! ### rule level -/

section
variable {env : Env} {lvl : String → Nat} {rec : Rec}

/-- failing with a real `report_error` at the cursor, the cache as it was -/
theorem tri_report {α} {b : Bool} {p : Prop} {s : St} {g g' : Global} {sp : Spec} (hh : Hyp s g)
    (hsp : sp ≠ .leftRecursionSentinel) (hc : g'.cache = g.cache) :
    Ans b p s g (.err (s.reportError sp) : Res α) g' :=
  tri_err ⟨errOK_real hh.good hsp, sentSub_of_cache hc, cinv_of_cache hh.cinv hc⟩
    fun _ => (reportError_real hh.good hsp).2

theorem runChecks_tri : ∀ fs v s m b, Tri lvl m b False s (runChecks env fs v s) := by
  intro fs
  induction fs with
  | nil => intro v s m b; exact Tri.okSame _
  | cons f fs ih =>
    intro v s m b g res g' h hh hpre
    simp only [runChecks] at h
    split at h
    · cases h
      exact tri_report hh nofun rfl
    · exact (ih _ _ _ _).run h hh hpre rfl

theorem ruleBody_tri (hrec : SInv env lvl rec) (r : Rule) (s : St) (m : Nat) (b : Bool)
    (hchk : ChkE env lvl m (env.settings.skipWhitespace && !r.flags.noSkipWs) b r.definition) :
    Tri lvl m b (LRC.ProgE env r.definition) s (ruleBody env rec r s) := by
  show Tri lvl m b _ s (fun g => ruleBody env rec r s g)
  cases hf : getFields env.g env.nf r.definition with
  | ok fields =>
    simp only [ruleBody_eq hf]
    refine ite_pred (Tri.panic _) (Tri.bind' (hrec.expr (ruleCtx env r fields) r.definition s m b hchk) fun p s' => ?_)
    cases ruleValue r fields s p s' with
    | ok v => exact runChecks_tri _ _ _ _ _
    | error msg => exact Tri.panic _
  | err | fuel => simp only [ruleBody, hf]; exact Tri.panic _

/-- caching an answer that is not the sentinel: whatever stood under `key` is no seed any more, and no
    other entry changes -/
theorem Post.insert {s : St} {g g' : Global} {res : Res Val} {key : String × Nat} (hkey : key.2 = s.off)
    (hp : Post s g res g') (hne : ∀ e, res = .err e → ¬ IsSent e) :
    Post s g res (g'.insert key res) ∧ ¬ Act (g'.insert key res) key := by
  have hsub : SentSub (g'.insert key res) g' := fun k hk => (act_insert hne hk).2
  refine ⟨?_, fun hk => (act_insert hne hk).1 rfl⟩
  cases res with
  | ok v ns =>
    exact ⟨hp.1, hp.2.1, hsub.trans hp.2.2.1, cinv_insert hp.2.2.2
      (fun _ _ he => by cases he; exact ⟨hkey ▸ hp.1, hp.2.1⟩) (fun _ he => by cases he)⟩
  | err e =>
    exact ⟨hp.1, hsub.trans hp.2.1, cinv_insert hp.2.2 (fun _ _ he => by cases he)
      (fun _ he => by cases he; exact ⟨hkey ▸ hp.1.1, fun hs => absurd hs (hne e rfl)⟩)⟩
  | panic msg => trivial

theorem Post.sub {α} {s : St} {g g' : Global} {res : Res α} (h : Post s g res g')
    (hres : ∀ msg, res ≠ .panic msg) : SentSub g' g ∧ CInv g' := by
  cases res with
  | ok v s' => exact h.2.2
  | err e => exact h.2
  | panic msg => exact absurd rfl (hres msg)

/-- what a run of the grow loop guarantees, relative to the global object `G` from before the seed was
    planted (`G` has every seed of `g` but the one under `key`): no new seeds, a failure is a real one.
    (`best`, once a success, has replaced the seed; a final answer replaces it.) -/
theorem growRun_sn {body : St → Global → Out Val} {key : String × Nat} {s : St} {M : Nat} {p : Prop}
    (hbody : Tri lvl M true p s (body s)) (hkey : key.2 = s.off) {G : Global} {best g chain res g'}
    (h : GrowRun body key s best g chain res g') :
    Hyp s g → Pre lvl M s.off g → (∀ k, k ≠ key → Act g k → Act G k) →
      (∀ bv bs, best = .ok bv bs → s.off ≤ bs.off ∧ GoodSt bs ∧ ¬ Act g key) →
      Post s G res g' ∧ ∀ e, res = .err e → ¬ IsSent e := by
  have hb' : ∀ {g x g1}, body s (growPre key g) = some (x, g1) → Hyp s g → Pre lvl M s.off g →
      Post s g x g1 ∧ ∀ e, x = .err e → ¬ IsSent e := fun hb hh hpre =>
    let ⟨h1, h2, _⟩ := hbody.run hb hh hpre rfl
    ⟨h1, h2 rfl⟩
  induction h with
  | panic hb => exact fun _ _ _ _ => ⟨trivial, nofun⟩
  | stopOk hb _ | stopErr hb =>
    intro hh hpre hG hbest
    obtain ⟨h1, h2, h3⟩ := hbest _ _ rfl
    obtain ⟨hs, hc⟩ := (hb' hb hh hpre).1.sub nofun
    exact ⟨⟨h1, h2, fun k hk => hG k (fun hkk => h3 (hkk ▸ hs k hk)) (hs k hk), hc⟩, nofun⟩
  | @fail _ _ e _ hb _ =>
    intro hh hpre hG _
    obtain ⟨hpost, hne⟩ := hb' hb hh hpre
    obtain ⟨⟨he, hs, hc⟩, hgone⟩ := hpost.insert hkey hne
    exact ⟨⟨⟨he.1, fun hs' => absurd hs' (hne e rfl)⟩, fun k hk => hG k (fun hkk => hgone (hkk ▸ hk)) (hs k hk), hc⟩,
      hne⟩
  | grow hb _ _ ih =>
    intro hh hpre hG _
    obtain ⟨⟨ho, hg, hs, hc⟩, hgone⟩ := (hb' hb hh hpre).1.insert hkey nofun
    exact ih (hyp_next hh (Nat.le_refl _) hh.good hs hc) (pre_next hh hpre hs (Nat.le_refl _))
      (fun k hk ha => hG k hk (hs k ha)) (fun _ _ he => by cases he; exact ⟨ho, hg, hgone⟩)

/-- a cache hit answers with an entry that the cache invariant describes -/
theorem hit_post {s : St} {g : Global} {name : String} {res : Res Val} (hh : Hyp s g)
    (hlk : g.lookup (name, s.off) = some res) (ev : Ev) : Post s g res (g.emit ev) := by
  cases res with
  | ok v ns =>
    obtain ⟨h1, h2⟩ := hh.cinv.ok _ _ _ hlk
    exact ⟨h1, h2, sentSub_of_cache rfl, cinv_of_cache hh.cinv rfl⟩
  | err e =>
    obtain ⟨h1, h2⟩ := hh.cinv.err _ _ hlk
    exact ⟨⟨h1, fun hs => ⟨h2 hs, name, e, hlk, hs⟩⟩, sentSub_of_cache rfl, cinv_of_cache hh.cinv rfl⟩
  | panic msg => trivial

/-- the `left_recursive` branch of `generate_memoized_body`.  The body is checked at the bound `M` above the
    level of the rule; a caller at a bound `m` that is strict only if `m ≤ lvl name` cannot get the seed of
    this rule as a strict failure -/
theorem memoBody_leftrec_sn {body : St → Global → Out Val} {flags : RuleFlags} {name : String}
    (hl : flags.leftRecursive = true) {s : St} {M : Nat} {p : Prop} (hbody : Tri lvl M true p s (body s))
    (n : Nat) (hM : lvl name < M) {m : Nat} {b : Bool} (hm : m ≤ M) (hb : b = true → m ≤ lvl name) :
    Tri lvl m b False s (memoBody flags name body n s) := by
  intro g res g' h hh hpre
  cases memoBody_run h with
  | hit hlr | miss hlr | plain hlr => cases hl.symm.trans hlr
  | lrHit _ hlk =>
    exact ⟨hit_post hh hlk _, fun hb' e he hs =>
      absurd (hpre name ⟨e, he ▸ hlk, hs⟩) (Nat.not_lt.2 (hb hb')), False.elim⟩
  | lrGrow _ _ hrun =>
    -- with the seed planted the hypotheses still hold: it lies at the cursor, and `lvl name < M`
    have hseed := reportError_sent hh.good .leftRecursionSentinel
    have hact0 : ∀ k', Act (g.insert (name, s.off) (.err (s.reportError .leftRecursionSentinel))) k' →
        k' = (name, s.off) ∨ Act g k' := fun k' hk' =>
      (Decidable.em (k' = (name, s.off))).imp id fun hk => (act_insert_ne hk).1 hk'
    obtain ⟨hpost, hne⟩ := growRun_sn hbody (key := (name, s.off)) (G := g) rfl hrun
      ⟨hh.good, cinv_insert hh.cinv (fun v ns he => by cases he)
          (fun e he => by cases he; exact ⟨hseed.1, fun h => (hseed.2 h).2⟩),
        fun k' hk' => (hact0 k' hk').elim (fun hk => hk ▸ Nat.le_refl _) (hh.le _)⟩
      (fun R hR => (hact0 _ hR).elim (fun hk => (Prod.mk.inj hk).1 ▸ hM) (hpre.mono hm R))
      (fun k hk ha => (act_insert_ne hk).1 ha) nofun
    exact ⟨hpost, fun _ => hne, False.elim⟩

/-- the `memoize` branch of `generate_memoized_body`: the body is checked strictly, so no sentinel
    failure is ever cached; a hit cannot be a planted seed because the level of the rule is `≥ m` -/
theorem memoBody_memo_sn {body : St → Global → Out Val} {flags : RuleFlags} {name : String}
    (hl : flags.leftRecursive = false) (hmz : flags.memoize = true) {s : St} {m : Nat} {p : Prop}
    (hbody : Tri lvl m true p s (body s)) (n : Nat) (hlv : m ≤ lvl name) :
    Tri lvl m true False s (memoBody flags name body n s) := by
  intro g res g' h hh hpre
  cases memoBody_run h with
  | lrHit hlr | lrGrow hlr => cases hl.symm.trans hlr
  | plain _ hm => cases hmz.symm.trans hm
  | hit _ _ hlk =>
    exact ⟨hit_post hh hlk _, fun _ e he hs => absurd (hpre name ⟨e, he ▸ hlk, hs⟩) (Nat.not_lt.2 hlv),
      False.elim⟩
  | miss _ _ _ hb =>
    obtain ⟨hpost, hstrict, _⟩ := hbody.run hb hh hpre rfl
    cases res with
    | panic msg => exact tri_panic
    | _ => exact ⟨(hpost.insert rfl (hstrict rfl)).1, hstrict, False.elim⟩

theorem normalRule_tri (hrec : SInv env lvl rec) {fuel : Nat} (hrf : RecFirst env.g env.settings lvl fuel = true) (n : Nat)
    {name : String} {r : Rule} (hf : env.g.find name = some (.rule r)) (s : St) (m : Nat) (b : Bool)
    (hchk : ChkR env lvl m b name) : Tri lvl m b (LRC.ProgR env name) s (normalRule env rec n r s) := by
  have key : Tri lvl m b (LRC.ProgR env name) s (memoBody r.flags r.name (ruleBody env rec r) n s) := by
    obtain ⟨hc1, hc2, hc3⟩ := hchk.rule hf
    by_cases hl : r.flags.leftRecursive = true
    · exact (memoBody_leftrec_sn hl (ruleBody_tri hrec r s (lvl r.name + 1) true (chkE_of_recFirst hrf (find_mem hf).1 hl)) n
        (Nat.lt_succ_self _) (hc1 hl).1 (hc1 hl).2).weaken id fun hp => Bool.noConfusion ((hp.inv hf).1.symm.trans hl)
    · have hl' : r.flags.leftRecursive = false := by simpa using hl
      by_cases hmz : r.flags.memoize = true
      · obtain ⟨hlv, hce⟩ := hc2 hl' hmz
        exact (memoBody_memo_sn hl' hmz (ruleBody_tri hrec r s m true hce) n hlv).weaken (fun _ => rfl)
          fun hp => Bool.noConfusion ((hp.inv hf).2.1.symm.trans hmz)
      · exact congr_pred (fun g => memoBody_plain hl' hmz)
          ((ruleBody_tri hrec r s m b (hc3 hl' (by simpa using hmz))).weaken id fun hp => (hp.inv hf).2.2)
  intro g res g' h hh hpre
  obtain ⟨g1, hx, rfl⟩ := normalRule_eq_some h
  obtain ⟨h1, h23⟩ := key.run hx hh hpre rfl
  exact ⟨h1.cache_r (traceResult_cache _ _), h23⟩

end

section
variable {env : Env} {lvl : String → Nat} {rec : Rec}

theorem charParts_tri (hrec : SInv env lvl rec) (name : String) {m : Nat} {b : Bool} :
    ∀ ps s, (∀ id, CharRulePart.ident id ∈ ps → ChkR env lvl m false id) →
      Tri lvl m b (∀ id, CharRulePart.ident id ∈ ps → LRC.ProgR env id) s (charParts rec name ps s) := by
  intro ps
  induction ps with
  | nil =>
    intro s _
    exact Tri.pure (fun _ _ he => by cases he)
      (fun e he hg => by cases he; exact reportError_real hg nofun)
  | cons p ps ih =>
    intro s hchk
    refine congr_pred (fun g => charParts_step rec name p ps s g) (Tri.orElse ?_
      ((ih s fun id hid => hchk id (List.mem_cons_of_mem _ hid)).weaken id
        fun hp id hid => hp id (List.mem_cons_of_mem _ hid)))
    cases p with
    | chr item =>
      dsimp only
      cases item.toChar with
      | ok c =>
        exact Tri.termMap (isMatcher_parseCharacterLiteral _) (fun _ _ _ _ h => parseCharacterLiteral_len h) Val.chr
      | _ => exact Tri.panic _
    | range lo hi =>
      dsimp only
      cases lo.toChar with
      | ok a =>
        cases hi.toChar with
        | ok b =>
          exact Tri.termMap (isMatcher_parseCharacterRange _ _) (fun _ _ _ _ h => parseCharacterRange_len h) Val.chr
        | _ => exact Tri.panic _
      | _ => exact Tri.panic _
    | ident nm =>
      exact (hrec.rule nm s m false (hchk nm (List.mem_cons_self ..))).weaken id
        fun hp => hp nm (List.mem_cons_self ..)

theorem charRule_tri (hrec : SInv env lvl rec) {name : String} {r : CharRule}
    (hf : env.g.find name = some (.charRule r)) (s : St) (m : Nat) (b : Bool)
    (hchk : ChkR env lvl m b name) : Tri lvl m b (LRC.ProgR env name) s (charRule env rec r s) := by
  have hparts := fun s => (charParts_tri hrec r.name (b := b) r.choices s (hchk.charRule hf)).weaken id
    (fun (hp : LRC.ProgR env name) => hp.inv hf)
  intro g res g' h hh hpre
  unfold charRule at h
  split at h
  · exact hparts s _ _ _ h hh hpre
  · split at h
    · cases h
      exact tri_report hh nofun rfl
    · rename_i c hc
      obtain ⟨l, -, heq⟩ := charChecks_eq env r.name r.directives c
      rw [heq] at h
      cases hok : Spec.charChecksOk env r.directives c <;> simp only [hok, Bool.false_eq_true, if_false, if_true] at h
      · cases h
        exact tri_report hh nofun rfl
      · exact (hparts s).run h hh hpre rfl

theorem externRule_tri (r : ExternRule) (s : St) (m : Nat) (b : Bool) :
    Tri lvl m b False s (externRule env r s) := by
  intro g res g' h hh hpre
  unfold externRule at h
  simp only at h
  split at h
  · rename_i v adv hres
    cases h
    cases hadv : s.advanceSafe adv v with
    | ok v' s' =>
      obtain ⟨-, -, rfl⟩ := advanceSafe_ok_inv hadv
      exact tri_ok ⟨Nat.le_add_right _ _, goodSt_of_far (s := s) rfl (Nat.le_add_right _ _) hh.good,
        sentSub_of_cache rfl, cinv_of_cache hh.cinv rfl⟩ False.elim
    | err e => exact absurd hadv advanceSafe_ne_err
    | panic msg => exact tri_panic
  · cases h
    exact tri_report hh nofun rfl

theorem stepRule_tri (hrec : SInv env lvl rec) {fuel : Nat} (hrf : RecFirst env.g env.settings lvl fuel = true) (n : Nat)
    (name : String) (s : St) (m : Nat) (b : Bool) (hchk : ChkR env lvl m b name) :
    Tri lvl m b (LRC.ProgR env name) s (stepRule env rec n name s) := by
  intro g res g' h hh hpre
  unfold stepRule at h
  split at h
  · rename_i r hf
    exact normalRule_tri hrec hrf n hf s m b hchk _ _ _ h hh hpre
  · rename_i r hf
    exact charRule_tri hrec hf s m b hchk _ _ _ h hh hpre
  · rename_i r hf
    exact (externRule_tri r s m b).weaken id (fun (hp : LRC.ProgR env name) => hp.inv hf) _ _ _ h hh hpre
  · rename_i hf
    split at h
    · cases h
      exact Tri.termMap (lvl := lvl) isMatcher_parseChar (fun _ _ _ _ h => parseChar_len h) Val.chr
        g _ _ rfl hh hpre
    · rename_i hne
      split at h
      · cases h
        refine Tri.termMap (lvl := lvl) isMatcher_parseWhitespace
          (fun (hp : LRC.ProgR env name) => ?_) (fun _ => Val.unit) g _ _ rfl hh hpre
        exact absurd (beq_iff_eq.mpr (hp.inv hf)) hne
      · cases h
        exact tri_panic

theorem step_sinv (hrec : SInv env lvl rec) {fuel : Nat} (hrf : RecFirst env.g env.settings lvl fuel = true) (n : Nat) :
    SInv env lvl (step env rec n) :=
  ⟨fun ctx e s m b h => stepExpr_tri hrec n ctx e s m b h,
   fun name s m b h => stepRule_tri hrec hrf n name s m b h⟩

end

theorem eval_sinv (env : Env) (lvl : String → Nat) {fuel : Nat} (hrf : RecFirst env.g env.settings lvl fuel = true) :
    ∀ n, SInv env lvl (eval env n) :=
  eval_induction ⟨fun _ _ _ _ _ _ _ _ _ h => (nomatch h), fun _ _ _ _ _ _ _ _ h => (nomatch h)⟩ fun _ n ih =>
    step_sinv ih hrf n

theorem not_act_init {u : Nat} {k : String × Nat} : ¬ Act (Global.init u) k :=
  fun ⟨_, h, _⟩ => nomatch h

theorem hyp_init (inp : List UInt8) (u : Nat) : Hyp (St.new inp) (Global.init u) :=
  ⟨goodSt_new inp, ⟨fun _ _ _ h => (nomatch h), fun _ _ h => (nomatch h)⟩, fun _ hk => (not_act_init hk).elim⟩

/-- the invariant for a whole parse (fresh state, fresh global, bound `0`): what all the `C10_no_sentinel*`
    theorems are read off from -/
theorem parse_post {env : Env} {lvl : String → Nat} {fuel : Nat}
    (hrf : RecFirst env.g env.settings lvl fuel = true) {n : Nat} {rule : String} {inp : List UInt8} {u : Nat}
    {res : Res Val} {g' : Global} (h : parseAdvanced env n rule inp u = some (res, g')) :
    Post (St.new inp) (Global.init u) res g' ∧ ∀ e, res = .err e → ¬ IsSent e := by
  obtain ⟨h1, h2, _⟩ := (eval_sinv env lvl hrf n).rule rule (St.new inp) 0 true (Or.inl rfl) _ _ _ h
    (hyp_init inp u) (fun _ hk => (not_act_init hk).elim)
  exact ⟨h1, h2 rfl⟩

end SN

/-! ## Part 4: the theorems -/

/-- **C10, last clause, with `@leftrec` and `@memoize` rules.**  If the body of every `@leftrec` rule
    passes the check `RecFirst` (for some assignment `lvl` of precedence levels to rule names and some
    analysis fuel; the check also constrains the `@memoize` rules such a body reaches before consuming
    input), the error reported by a failing parse is never the internal left-recursion sentinel. -/
theorem C10_no_sentinel (env : Env) (lvl : String → Nat) (fuel : Nat)
    (hrf : RecFirst env.g env.settings lvl fuel = true)
    (n : Nat) (rule : String) (inp : List UInt8) (u : Nat) {e : PErr} {g' : Global}
    (h : parseAdvanced env n rule inp u = some (.err e, g')) : e.spec ≠ .leftRecursionSentinel :=
  (SN.parse_post hrf h).2 e rfl

/-- the plain reading: all `@leftrec` rules on one level – in every `@leftrec` rule the last
    alternative is a base alternative -/
theorem C10_no_sentinel_flat (env : Env) (fuel : Nat)
    (hrf : RecFirst env.g env.settings (fun _ => 0) fuel = true)
    (n : Nat) (rule : String) (inp : List UInt8) (u : Nat) {e : PErr} {g' : Global}
    (h : parseAdvanced env n rule inp u = some (.err e, g')) : e.spec ≠ .leftRecursionSentinel :=
  C10_no_sentinel env (fun _ => 0) fuel hrf n rule inp u h

/-- on success, a sentinel that is still stored in `farthest_error` lies at or before the end of the
    match: the next real failure of the caller replaces it (`record_error` uses `≤`) -/
theorem C10_no_sentinel_success (env : Env) (lvl : String → Nat) (fuel : Nat)
    (hrf : RecFirst env.g env.settings lvl fuel = true)
    (n : Nat) (rule : String) (inp : List UInt8) (u : Nat) {v : Val} {s' : St} {g' : Global}
    (h : parseAdvanced env n rule inp u = some (.ok v s', g')) :
    ∀ f, s'.far = some f → f.spec = .leftRecursionSentinel → f.pos ≤ s'.off :=
  (SN.parse_post hrf h).1.2.1

/-- when the parse has answered (success or failure), no cache entry holds the sentinel any more:
    every planted seed has been replaced by the final answer of its grow loop -/
theorem C10_no_sentinel_cache (env : Env) (lvl : String → Nat) (fuel : Nat)
    (hrf : RecFirst env.g env.settings lvl fuel = true)
    (n : Nat) (rule : String) (inp : List UInt8) (u : Nat) {res : Res Val} {g' : Global}
    (h : parseAdvanced env n rule inp u = some (res, g')) (hres : ∀ msg, res ≠ .panic msg) :
    ∀ k e, g'.lookup k = some (.err e) → e.spec ≠ .leftRecursionSentinel := by
  exact fun k e hk hs => SN.not_act_init (((SN.parse_post hrf h).1.sub hres).1 k ⟨e, hk, hs⟩)

/-! ### the shape "recursive alternatives first, then base alternatives"

  `chk` only constrains the *last* alternative strictly.  The reading of the informal sentence –
  `R = rec₁ | … | recₖ | base₁ | … | baseₗ` (`l ≥ 1`) with every base alternative passing the strict check
  and every recursive alternative the non-strict one – is a special case. -/

namespace SN

/-- every alternative but the last is checked non-strictly -/
theorem chkAlts_concat {ce : Bool → Expr → Bool} {b : Bool} (a : Expr) :
    ∀ pre : List Expr, chkAlts ce b (pre ++ [a]) = (pre.all (ce false) && ce b a)
  | [] => by simp [chkAlts]
  | [x] => by simp [chkAlts]
  | x :: y :: pre => by
    rw [List.cons_append, List.cons_append, chkAlts, ← List.cons_append, chkAlts_concat a (y :: pre),
      List.all_cons (a := x), Bool.and_assoc]

theorem chkAlts_mono {ce : Bool → Expr → Bool} (h : ∀ a, ce true a = true → ce false a = true) (as : List Expr) :
    chkAlts ce true as = true → chkAlts ce false as = true := by
  rcases as.eq_nil_or_concat with rfl | ⟨pre, a, rfl⟩
  · exact id
  · rw [List.concat_eq_append, chkAlts_concat, chkAlts_concat, Bool.and_eq_true, Bool.and_eq_true]
    exact fun hp => ⟨hp.1, h a hp.2⟩

theorem chkSeq_mono {ce : Bool → Expr → Bool} {pr : Expr → Bool}
    (h : ∀ a, ce true a = true → ce false a = true) :
    ∀ ps, chkSeq ce pr true ps = true → chkSeq ce pr false ps = true := by
  intro ps
  induction ps with
  | nil => intro _; rfl
  | cons p ps ih =>
    intro hp
    simp only [chkSeq, Bool.and_eq_true, Bool.or_eq_true] at hp ⊢
    exact ⟨h p hp.1, hp.2.imp id ih⟩

theorem chkRule_mono {g : Grammar} {st : Settings} {lvl : String → Nat} {m : Nat}
    {ce : Bool → Bool → Expr → Bool} (h : ∀ w a, ce w true a = true → ce w false a = true) (name : String)
    (hc : chkRule g st lvl m true ce name = true) : chkRule g st lvl m false ce name = true := by
  cases hf : g.find name with
  | none => simp only [chkRule, hf]
  | some entry =>
    cases entry with
    | rule r =>
      simp only [chkRule, hf] at hc ⊢
      by_cases hl : r.flags.leftRecursive = true
      · simp only [hl, if_true, decide_eq_true_eq] at hc
        simp only [hl, if_true, Bool.false_eq_true, if_false, decide_eq_true_eq]
        omega
      · simp only [if_neg hl] at hc ⊢
        by_cases hmz : r.flags.memoize = true
        · simp only [if_pos hmz] at hc ⊢
          exact hc
        · simp only [if_neg hmz] at hc ⊢
          exact h _ _ hc
    | charRule cr =>
      simp only [chkRule, hf] at hc ⊢
      exact hc
    | externRule er => simp only [chkRule, hf]

/-- the strict check implies the non-strict one -/
theorem chk_mono (g : Grammar) (st : Settings) (lvl : String → Nat) :
    ∀ d m w e, chk g st lvl d m w true e = true → chk g st lvl d m w false e = true := by
  intro d
  induction d with
  | zero => intro m w e h; simp [chk] at h
  | succ d ih =>
    intro m w e h
    have hr : ∀ name, chkRule g st lvl m true (chk g st lvl d m) name = true →
        chkRule g st lvl m false (chk g st lvl d m) name = true :=
      fun name => chkRule_mono (fun w a => ih m w a) name
    cases e with
    | choice alts => exact chkAlts_mono (ih m w) _ h
    | seq parts => exact chkSeq_mono (ih m w) _ h
    | group x | pos x => exact ih _ _ _ h
    | opt x | neg x => exact h
    | closure x plus =>
      cases plus with
      | true => exact ih _ _ _ h
      | false => exact h
    | range | lit | eoi =>
      simp only [chk, Bool.or_eq_true] at h ⊢
      exact h.imp id (hr _)
    | incl r =>
      simp only [chk] at h ⊢
      split
      · rename_i rule hf
        simp only [hf] at h
        exact ih _ _ _ h
      · rfl
    | field nm bx typ =>
      simp only [chk, Bool.and_eq_true, Bool.or_eq_true] at h ⊢
      exact ⟨h.1.imp id (hr _), hr _ h.2⟩

theorem chkAlts_append {ce : Bool → Expr → Bool} (hm : ∀ a, ce true a = true → ce false a = true)
    (recs bases : List Expr) (hne : bases ≠ []) (hr : ∀ a ∈ recs, ce false a = true)
    (hb : ∀ a ∈ bases, ce true a = true) : chkAlts ce true (recs ++ bases) = true := by
  obtain ⟨bs, l, rfl⟩ := bases.eq_nil_or_concat.resolve_left hne
  rw [List.concat_eq_append] at hb ⊢
  rw [← List.append_assoc, chkAlts_concat, Bool.and_eq_true, List.all_eq_true]
  refine ⟨fun a ha => ?_, hb l (List.mem_append_right _ (List.mem_singleton_self l))⟩
  rcases List.mem_append.1 ha with ha | ha
  · exact hr a ha
  · exact hm a (hb a (List.mem_append_left _ ha))

end SN

/-- a `@leftrec` body of the shape `rec₁ | … | recₖ | base₁ | … | baseₗ`, `l ≥ 1`, whose base
    alternatives pass the strict check and whose recursive alternatives pass the non-strict one,
    passes `RecFirst`'s check (with one more unit of fuel) -/
theorem RecFirst.of_shape (g : Grammar) (st : Settings) (lvl : String → Nat) (d m : Nat) (w : Bool)
    (recs bases : List Expr) (hne : bases ≠ [])
    (hrecs : ∀ a ∈ recs, SN.chk g st lvl d m w false a = true)
    (hbases : ∀ a ∈ bases, SN.chk g st lvl d m w true a = true) :
    SN.chk g st lvl (d + 1) m w true (.choice (recs ++ bases)) = true := by
  simp only [SN.chk]
  exact SN.chkAlts_append (SN.chk_mono g st lvl d m w) recs bases hne hrecs hbases

/-! ## Part 5: examples (all by evaluation) -/

/-- the reported error of a failing parse -/
def reportedErr (env : Env) (fuel : Nat) (rule : String) (inp : List UInt8) : Option PErr :=
  match parseAdvanced env fuel rule inp 0 with
  | some (.err e, _) => some e
  | _ => none

theorem reportedErr_some {env : Env} {fuel : Nat} {rule : String} {inp : List UInt8} {e : PErr}
    (h : reportedErr env fuel rule inp = some e) :
    ∃ g', parseAdvanced env fuel rule inp 0 = some (.err e, g') := by
  unfold reportedErr at h
  split at h
  · rename_i e0 g0 heq
    cases h
    exact ⟨g0, heq⟩
  · cases h

/-- `C10_no_sentinel` in terms of `reportedErr` -/
theorem C10_no_sentinel_reported (env : Env) (lvl : String → Nat) (fuel : Nat)
    (hrf : RecFirst env.g env.settings lvl fuel = true)
    {n : Nat} {rule : String} {inp : List UInt8} {e : PErr}
    (h : reportedErr env n rule inp = some e) : e.spec ≠ .leftRecursionSentinel := by
  obtain ⟨g', hg⟩ := reportedErr_some h
  exact C10_no_sentinel env lvl fuel hrf n rule inp 0 hg

namespace SentinelExample

def lit (c : Char) : Expr := .lit false [.chr c]
def call (r : String) : Expr := .field none false r

/-! ### non-vacuity 1: `@export @leftrec E = l:*E '+' r:Num | b:Num;  @string Num = {'0'..'9'}+;`
    (`LeftRecExample.envE`) -/

open LeftRecExample in
example : RecFirst envE.g envE.settings (fun _ => 0) 10 = true := by decide +kernel
/-- `"+1"` -/
example : reportedErr LeftRecExample.envE 30 "E" [43, 49] =
    some ⟨0, .expectedCharacterRange '0' '9'⟩ := by decide +kernel
/-- `"x"` -/
example : reportedErr LeftRecExample.envE 30 "E" [120] =
    some ⟨0, .expectedCharacterRange '0' '9'⟩ := by decide +kernel

/-! ### non-vacuity 2: a start rule above the left-recursive rule
    `@export S = e:E ';';  @leftrec E = l:*E '+' r:Num | b:Num;  @string Num = {'0'..'9'}+;` -/

def ruleS : Rule := ⟨[.export], "S", .seq [.field (some (.ident "e")) false "E", lit ';']⟩
def envS : Env :=
  { g := ⟨[.rule ruleS, .rule LeftRecExample.ruleE, .rule LeftRecExample.ruleNum]⟩,
    settings := {}, hooks := default, nf := 10 }

example : RecFirst envS.g envS.settings (fun _ => 0) 10 = true := by decide +kernel
/-- `"1+2"`: `E` succeeds (its state may still carry the sentinel of offset 0), `';'` fails at 3 -/
example : reportedErr envS 40 "S" [49, 43, 50] = some ⟨3, .expectedCharacter ';'⟩ := by decide +kernel
/-- `"+"` -/
example : reportedErr envS 40 "S" [43] = some ⟨0, .expectedCharacterRange '0' '9'⟩ := by decide +kernel

/-! ### non-vacuity 3: a precedence tower needs levels
    `@export @leftrec E = E '+' T | T;  @leftrec T = T '*' F | F;  F = Num | '(' E ')';` -/

def towerE : Rule := ⟨[.export, .leftrec], "E", .choice [.seq [call "E", lit '+', call "T"], call "T"]⟩
def towerT : Rule := ⟨[.leftrec], "T", .choice [.seq [call "T", lit '*', call "F"], call "F"]⟩
def towerF : Rule := ⟨[], "F", .choice [call "Num", .seq [lit '(', call "E", lit ')']]⟩
def envT : Env :=
  { g := ⟨[.rule towerE, .rule towerT, .rule towerF, .rule LeftRecExample.ruleNum]⟩,
    settings := {}, hooks := default, nf := 10 }
def lvlT : String → Nat := fun n => if n == "T" then 1 else 0

theorem recFirst_envT : RecFirst envT.g envT.settings lvlT 10 = true := by decide +kernel
example : RecFirst envT.g envT.settings lvlT 10 = true := recFirst_envT
/-- … the flat assignment is rejected (the check is conservative: `T` is a `@leftrec` rule in the
    last alternative of `E`) -/
example : RecFirst envT.g envT.settings (fun _ => 0) 10 = false := by decide +kernel
/-- `"*"` -/
example : reportedErr envT 60 "E" [42] = some ⟨0, .expectedCharacter '('⟩ := by decide +kernel
/-- `"(1"` -/
theorem envT_reported : reportedErr envT 60 "E" [40, 49] = some ⟨2, .expectedCharacter ')'⟩ := by decide +kernel
example : reportedErr envT 60 "E" [40, 49] = some ⟨2, .expectedCharacter ')'⟩ := envT_reported

/-! ### non-vacuity 4: the recursion goes through ordinary rules (the shape used in peginator's
    documentation) `@export @leftrec Expr = Add | Sub | Term;  Add = Expr '+' Term;
    Sub = Expr '-' Term;  Term = Num | '(' Expr ')';`, with a user-defined `Whitespace` rule -/

def envDoc : Env :=
  { g := ⟨[.rule ⟨[.export, .leftrec], "Expr", .choice [call "Add", call "Sub", call "Term"]⟩,
           .rule ⟨[], "Add", .seq [call "Expr", lit '+', call "Term"]⟩,
           .rule ⟨[], "Sub", .seq [call "Expr", lit '-', call "Term"]⟩,
           .rule ⟨[], "Term", .choice [call "Num", .seq [lit '(', call "Expr", lit ')']]⟩,
           .rule LeftRecExample.ruleNum,
           .rule ⟨[.noSkipWs], "Whitespace", .closure (.choice [lit ' ', lit '\t']) false⟩]⟩,
    settings := {}, hooks := default, nf := 10 }

example : RecFirst envDoc.g envDoc.settings (fun _ => 0) 20 = true := by decide +kernel
/-- `" -"` -/
example : reportedErr envDoc 60 "Expr" [32, 45] = some ⟨1, .expectedCharacter '('⟩ := by decide +kernel
/-- `"(1 - 2"` -/
example : reportedErr envDoc 80 "Expr" [40, 49, 32, 45, 32, 50] = some ⟨6, .expectedCharacter ')'⟩ := by
  decide +kernel

/-! ### the side conditions are necessary -/

/-- base alternative first, `@leftrec A = 'b' | A 'x'`: on `"c"` the sentinel IS reported (the base
    alternative fails at 0 first, the seed answers the recursive reference with the sentinel at 0,
    which wins by the `≤` rule) -/
def envBaseFirst : Env :=
  { g := ⟨[.rule ⟨[.export, .leftrec], "A", .choice [lit 'b', .seq [call "A", lit 'x']]⟩]⟩,
    settings := {}, hooks := default, nf := 10 }

theorem envBaseFirst_reported : reportedErr envBaseFirst 30 "A" [99] = some ⟨0, .leftRecursionSentinel⟩ := by
  decide +kernel
example : reportedErr envBaseFirst 30 "A" [99] = some ⟨0, .leftRecursionSentinel⟩ := envBaseFirst_reported
example : RecFirst envBaseFirst.g envBaseFirst.settings (fun _ => 0) 10 = false := by decide +kernel

/-- the same rule with the recursive alternative first is accepted, and reports the real failure -/
def envRecFirst : Env :=
  { g := ⟨[.rule ⟨[.export, .leftrec], "A", .choice [.seq [call "A", lit 'x'], lit 'b']⟩]⟩,
    settings := {}, hooks := default, nf := 10 }

example : RecFirst envRecFirst.g envRecFirst.settings (fun _ => 0) 10 = true := by decide +kernel
example : reportedErr envRecFirst 30 "A" [99] = some ⟨0, .expectedCharacter 'b'⟩ := by decide +kernel

/-- no base alternative at all, `@leftrec A = A 'x'` ("recursive alternatives first" holds
    vacuously): the sentinel is reported – at least one base alternative is needed -/
def envNoBase : Env :=
  { g := ⟨[.rule ⟨[.export, .leftrec], "A", .choice [.seq [call "A", lit 'x']]⟩]⟩,
    settings := {}, hooks := default, nf := 10 }

example : reportedErr envNoBase 30 "A" [99] = some ⟨0, .leftRecursionSentinel⟩ := by decide +kernel
example : RecFirst envNoBase.g envNoBase.settings (fun _ => 0) 10 = false := by decide +kernel

/-- a base alternative that reaches the recursion behind a lookahead,
    `@leftrec A = A 'x' | !'c' A 'y'`: the sentinel is reported -/
def envLookahead : Env :=
  { g := ⟨[.rule ⟨[.export, .leftrec], "A",
      .choice [.seq [call "A", lit 'x'], .seq [.neg (lit 'c'), call "A", lit 'y']]⟩]⟩,
    settings := {}, hooks := default, nf := 10 }

example : reportedErr envLookahead 30 "A" [100] = some ⟨0, .leftRecursionSentinel⟩ := by decide +kernel
example : RecFirst envLookahead.g envLookahead.settings (fun _ => 0) 10 = false := by decide +kernel

/-- **a `@memoize` rule inside the left recursion leaks the sentinel** (a finding about the model): with
    `@export S = A 'w' | M;  @leftrec A = M 'x' | 'b';  @memoize M = A 'y';`
    the `@leftrec` rule lists its recursive alternative first and has a base alternative, but on `"z"`
    the memoized rule `M`, evaluated inside the first iteration of `A`, caches the sentinel failure of
    the recursive reference for good; the cache hit of the second alternative of `S` replays it after
    the seed is gone, at the same position as the real failure – and the sentinel is reported.
    This is why `RecFirst` checks a `@memoize` rule reached from a `@leftrec` body before input is
    consumed *strictly* (and wants its level above): no level assignment accepts this grammar. -/
def envMemo : Env :=
  { g := ⟨[.rule ⟨[.export], "S", .choice [.seq [call "A", lit 'w'], call "M"]⟩,
           .rule ⟨[.leftrec], "A", .choice [.seq [call "M", lit 'x'], lit 'b']⟩,
           .rule ⟨[.memoize], "M", .seq [call "A", lit 'y']⟩]⟩,
    settings := {}, hooks := default, nf := 10 }

theorem envMemo_reported : reportedErr envMemo 30 "S" [122] = some ⟨0, .leftRecursionSentinel⟩ := by
  decide +kernel

example : ∀ lvl fuel, RecFirst envMemo.g envMemo.settings lvl fuel = false := by
  intro lvl fuel
  cases h : RecFirst envMemo.g envMemo.settings lvl fuel with
  | false => rfl
  | true => exact absurd rfl (C10_no_sentinel_reported envMemo lvl fuel h envMemo_reported)

/-- … without the `@memoize` directive the same grammar is accepted and reports the real failure -/
def envMemo' : Env :=
  { g := ⟨[.rule ⟨[.export], "S", .choice [.seq [call "A", lit 'w'], call "M"]⟩,
           .rule ⟨[.leftrec], "A", .choice [.seq [call "M", lit 'x'], lit 'b']⟩,
           .rule ⟨[], "M", .seq [call "A", lit 'y']⟩]⟩,
    settings := {}, hooks := default, nf := 10 }

example : RecFirst envMemo'.g envMemo'.settings (fun _ => 0) 10 = true := by decide +kernel
example : reportedErr envMemo' 30 "S" [122] = some ⟨0, .expectedCharacter 'b'⟩ := by decide +kernel

/-- a `@memoize` rule *below* the left recursion is fine: the tower with `@memoize F`, levels
    `E ↦ 0, T ↦ 1, F ↦ 2` -/
def envTM : Env :=
  { g := ⟨[.rule towerE, .rule towerT, .rule ⟨[.memoize], "F", towerF.definition⟩,
           .rule LeftRecExample.ruleNum]⟩,
    settings := {}, hooks := default, nf := 10 }
def lvlTM : String → Nat := fun n => if n == "T" then 1 else if n == "F" then 2 else 0

example : RecFirst envTM.g envTM.settings lvlTM 10 = true := by decide +kernel
/-- `"(1*"` -/
example : reportedErr envTM 60 "E" [40, 49, 42] = some ⟨2, .expectedCharacter ')'⟩ := by decide +kernel
/-- `"*"` -/
example : reportedErr envTM 60 "E" [42] = some ⟨0, .expectedCharacter '('⟩ := by decide +kernel

/-- mutual left recursion in which a `@leftrec` rule ends with a reference to the other one,
    `@export S = A 'w' | B;  @leftrec A = B 'x' | 'b'?;  @leftrec B = 'c' | A;`:
    `B` caches the sentinel of `A` as its own final failure.  The sentinel is reported on `"z"`, so
    (by `C10_no_sentinel`) *no* level assignment and no fuel makes `RecFirst` accept this grammar. -/
def envMutual : Env :=
  { g := ⟨[.rule ⟨[.export], "S", .choice [.seq [call "A", lit 'w'], call "B"]⟩,
           .rule ⟨[.leftrec], "A", .choice [.seq [call "B", lit 'x'], .opt (lit 'b')]⟩,
           .rule ⟨[.leftrec], "B", .choice [lit 'c', call "A"]⟩]⟩,
    settings := {}, hooks := default, nf := 10 }

theorem envMutual_reported : reportedErr envMutual 30 "S" [122] = some ⟨0, .leftRecursionSentinel⟩ := by
  decide +kernel

example : ∀ lvl fuel, RecFirst envMutual.g envMutual.settings lvl fuel = false := by
  intro lvl fuel
  cases h : RecFirst envMutual.g envMutual.settings lvl fuel with
  | false => rfl
  | true =>
    exact absurd rfl (C10_no_sentinel_reported envMutual lvl fuel h envMutual_reported)

end SentinelExample

end Peg
