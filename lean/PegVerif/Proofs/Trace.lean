import PegVerif.Eval
import PegVerif.Proofs.Basics
import PegVerif.Proofs.EvalLogic
/-
  Property C19: "tracing changes nothing but the log".

  Erasure: no step of the evaluator reads `Global.log`, and the log only grows by prepending.
  Balance: the tracer events of one evaluation are properly nested (`traceStart` …
  `traceOk`/`traceErr`), so the indentation counter of the real `IndentedTracer` never underflows.

  Both are proved in one pass over the evaluator: `LogInv f` says that the computation
  `f : Global → Out α` is log-erasable and that its new events are well nested (`Tr`).  `LogInv` has the closure
  properties EvalLogic.lean asks for (`LogInv.closed`, `LogInv.fx`), which gives every node but the wrapper of a normal
  rule (the trace bracket and `memoBody`); that one is followed here.
-/
namespace Peg

/-! ### the global object with a replaced log -/

def Global.withLog (g : Global) (l : List Ev) : Global := { g with log := l }

@[simp] theorem withLog_log (g : Global) (l : List Ev) : (g.withLog l).log = l := rfl
@[simp] theorem withLog_cache (g : Global) (l : List Ev) : (g.withLog l).cache = g.cache := rfl
@[simp] theorem withLog_uctx (g : Global) (l : List Ev) : (g.withLog l).uctx = g.uctx := rfl
@[simp] theorem withLog_lookup (g : Global) (l : List Ev) (k) : (g.withLog l).lookup k = g.lookup k := rfl
@[simp] theorem withLog_withLog (g : Global) (l l' : List Ev) : (g.withLog l).withLog l' = g.withLog l' := rfl
@[simp] theorem withLog_self (g : Global) : g.withLog g.log = g := rfl
theorem withLog_emit (g : Global) (l : List Ev) (e : Ev) :
    (g.withLog l).emit e = (g.emit e).withLog (e :: l) := rfl
theorem withLog_insert (g : Global) (l : List Ev) (k v) :
    (g.withLog l).insert k v = (g.insert k v).withLog l := rfl
theorem withLog_setUctx (g : Global) (l : List Ev) (u : Nat) :
    ({ g.withLog l with uctx := u } : Global) = ({ g with uctx := u } : Global).withLog l := rfl

/-- a global object is determined by its log-erasure and its log -/
theorem Global.ext_withLog {g g' : Global} (h : g.withLog [] = g'.withLog []) (hl : g.log = g'.log) :
    g = g' := by
  cases g; cases g'
  simp only [Global.withLog, Global.mk.injEq] at h hl ⊢
  exact ⟨h.1, hl, h.2.2⟩

/-! ### the tracer projection: nesting depth of a chronological event list -/

def isStart : Ev → Bool
  | .traceStart .. => true
  | _ => false

def isResult : Ev → Bool
  | .traceOk .. => true
  | .traceErr .. => true
  | _ => false

/-- depth after processing a chronological list of events starting at depth `d`; `none` if the
    depth would underflow (the `usize` indentation counter of `IndentedTracer`) -/
def depthAfter : List Ev → Nat → Option Nat
  | [], d => some d
  | e :: es, d =>
    if isStart e then depthAfter es (d + 1)
    else if isResult e then (if d = 0 then none else depthAfter es (d - 1))
    else depthAfter es d

/-- `l` chronological: every start has its result, no result without a start -/
def Balanced (l : List Ev) : Prop := ∀ d, depthAfter l d = some d

theorem depthAfter_append (a b : List Ev) (d : Nat) :
    depthAfter (a ++ b) d = (depthAfter a d).bind (depthAfter b) := by
  induction a generalizing d with
  | nil => rfl
  | cons e es ih =>
    simp only [List.cons_append, depthAfter]
    split
    · exact ih _
    · split
      · split
        · rfl
        · exact ih _
      · exact ih _

/-- `l` (chronological) never underflows and raises the depth by exactly `k` -/
def Nest (l : List Ev) (k : Nat) : Prop := ∀ d, depthAfter l d = some (d + k)

theorem Nest.nil : Nest [] 0 := fun _ => rfl

theorem Nest.append {a b : List Ev} {j k : Nat} (ha : Nest a j) (hb : Nest b k) : Nest (a ++ b) (j + k) := by
  intro d
  rw [depthAfter_append, ha d]
  simp only [Option.bind]
  rw [hb, Nat.add_assoc]

theorem Nest.neutral {e : Ev} (hs : isStart e = false) (hr : isResult e = false) : Nest [e] 0 := by
  intro d; simp [depthAfter, hs, hr]

theorem Nest.start {e : Ev} (hs : isStart e = true) : Nest [e] 1 := by
  intro d; simp [depthAfter, hs]

theorem Nest.close {a : List Ev} {k : Nat} {e : Ev} (ha : Nest a (k + 1)) (hs : isStart e = false)
    (hr : isResult e = true) : Nest (a ++ [e]) k := by
  intro d
  rw [depthAfter_append, ha d]
  simp only [Option.bind, depthAfter, hs, hr, if_true, Bool.false_eq_true, if_false]
  rw [if_neg (by omega)]
  congr 1

theorem balanced_iff_nest {l : List Ev} : Balanced l ↔ Nest l 0 := Iff.rfl

theorem depthAfter_shift {l : List Ev} {d d' : Nat} (h : depthAfter l d = some d') (c : Nat) :
    depthAfter l (d + c) = some (d' + c) := by
  induction l generalizing d with
  | nil => simpa [depthAfter] using h
  | cons e es ih =>
    simp only [depthAfter] at h ⊢
    split at h
    · next hs => rw [if_pos hs, Nat.add_right_comm]; exact ih h
    · next hs =>
      rw [if_neg hs]
      split at h
      · next hr =>
        rw [if_pos hr]
        split at h
        · cases h
        · rw [if_neg (by omega), show d + c - 1 = d - 1 + c by omega]; exact ih h
      · next hr => rw [if_neg hr]; exact ih h

theorem nest_of_depthAfter_zero {l : List Ev} {k : Nat} (h : depthAfter l 0 = some k) : Nest l k :=
  fun d => by simpa [Nat.add_comm] using depthAfter_shift h d

/-- every prefix of a nest is a nest: the depth never goes below the starting depth -/
theorem Nest.prefix {l p : List Ev} {k : Nat} (h : Nest l k) (hp : p <+: l) : ∃ j, Nest p j := by
  obtain ⟨q, rfl⟩ := hp
  have h0 := h 0
  rw [depthAfter_append] at h0
  cases hp : depthAfter p 0 with
  | none => simp [hp] at h0
  | some j => exact ⟨j, nest_of_depthAfter_zero hp⟩

/-! ### `Tr`: the invariant on the new events (newest first) of one computation -/

/-- `l` newest first.  The events never underflow the depth; unless the computation panicked
    (a Rust panic unwinds past `print_trace_result`) they are balanced. -/
def Tr (panic : Bool) (l : List Ev) : Prop := ∃ k, Nest l.reverse k ∧ (panic = false → k = 0)

theorem Tr.nil (b : Bool) : Tr b [] := ⟨0, Nest.nil, fun _ => rfl⟩

theorem Tr.balanced {l : List Ev} (h : Tr false l) : Balanced l.reverse := by
  obtain ⟨k, hk, h0⟩ := h
  obtain rfl := h0 rfl
  exact hk

theorem Tr.balanced_of {α} {r : Res α} {l : List Ev} (h : Tr r.isPanic l) (hp : ∀ m, r ≠ .panic m) :
    Balanced l.reverse := by
  cases r with
  | panic m => exact absurd rfl (hp m)
  | ok v s => exact h.balanced
  | err e => exact h.balanced

theorem Tr.weaken {b : Bool} {l : List Ev} (h : Tr b l) : Tr true l := by
  obtain ⟨k, hk, _⟩ := h
  exact ⟨k, hk, fun h => by cases h⟩

theorem Tr.append {b : Bool} {l1 l2 : List Ev} (h1 : Tr false l1) (h2 : Tr b l2) : Tr b (l2 ++ l1) := by
  obtain ⟨k2, hk2, h02⟩ := h2
  refine ⟨k2, ?_, h02⟩
  rw [List.reverse_append]
  have := Nest.append (balanced_iff_nest.mp h1.balanced) hk2
  simpa using this

theorem Tr.neutral {e : Ev} (b : Bool) (hs : isStart e = false) (hr : isResult e = false) : Tr b [e] :=
  ⟨0, Nest.neutral hs hr, fun _ => rfl⟩

/-! ### the invariant of a computation -/

/-- running `f` from `g` gives `(r, g')`, the new events are `l`, and the same happens from any other log -/
def Runs {α} (f : Global → Out α) (g : Global) (r : Res α) (g' : Global) (l : List Ev) : Prop :=
  g'.log = l ++ g.log ∧ ∀ l0, f (g.withLog l0) = some (r, g'.withLog (l ++ l0))

def LogInv {α} (f : Global → Out α) : Prop :=
  ∀ g r g', f g = some (r, g') → ∃ l, Runs f g r g' l ∧ Tr r.isPanic l

structure RecInv (rec : Rec) : Prop where
  expr : ∀ ctx e s, LogInv (rec.expr ctx e s)
  rule : ∀ name s, LogInv (rec.rule name s)

theorem LogInv.pure {α} (r : Res α) : LogInv (fun g => some (r, g)) := by
  intro g r' g' h
  cases h
  exact ⟨[], ⟨rfl, fun _ => rfl⟩, Tr.nil _⟩

/-- `F` goes from `g` to `g1` logging the balanced `l1` and continues there as `k` -/
theorem LogInv.after {α} {F k : Global → Out α} (hk : LogInv k) {g g1 g' : Global} {r : Res α} {l1 : List Ev}
    (hl1 : g1.log = l1 ++ g.log) (ht1 : Tr false l1) (hF : ∀ l0, F (g.withLog l0) = k (g1.withLog (l1 ++ l0)))
    (h : k g1 = some (r, g')) : ∃ l, Runs F g r g' l ∧ Tr r.isPanic l :=
  let ⟨l2, ⟨hl2, he2⟩, ht2⟩ := hk _ _ _ h
  ⟨l2 ++ l1, ⟨by rw [hl2, hl1, List.append_assoc], fun l0 => by rw [hF, List.append_assoc]; exact he2 _⟩, ht1.append ht2⟩

/-- the outcome of a sub-run: out of fuel, continue after a success, continue after an error, pass a
    panic on -/
theorem LogInv.caseR {α β} {f : Global → Out α} {ko : α → St → Global → Out β} {ke : PErr → Global → Out β}
    (hf : LogInv f) (hko : ∀ v s, LogInv (ko v s)) (hke : ∀ e, LogInv (ke e)) :
    LogInv fun g => caseR (f g) ko ke := by
  intro g r g' h
  rcases caseR_inv h with ⟨v, s1, g1, hx, h⟩ | ⟨e, g1, hx, h⟩ | ⟨m, hx, rfl⟩ <;>
    obtain ⟨l1, ⟨hl1, he1⟩, ht1⟩ := hf _ _ _ hx
  · exact (hko v s1).after hl1 ht1 (fun l0 => by simp only [he1 l0, Peg.caseR]) h
  · exact (hke e).after hl1 ht1 (fun l0 => by simp only [he1 l0, Peg.caseR]) h
  · exact ⟨l1, ⟨hl1, fun l0 => by simp only [he1 l0, Peg.caseR]⟩, ht1⟩

/-- `f` after an event that is neither a start nor a result -/
theorem LogInv.emit {α} {f : Global → Out α} {e : Ev} (hf : LogInv f)
    (he : isStart e = false ∧ isResult e = false := by exact ⟨rfl, rfl⟩) : LogInv fun g => f (g.emit e) :=
  fun g _ _ h => hf.after (g1 := g.emit e) rfl (Tr.neutral false he.1 he.2) (fun _ => rfl) h

theorem LogInv.insert {α} {f : Global → Out α} (k v) (hf : LogInv f) : LogInv fun g => f (g.insert k v) :=
  fun g => hf (g.insert k v)

theorem LogInv.lookup {α} {key} {hit : Res Val → Global → Out α} {miss : Global → Out α}
    (hhit : ∀ c, LogInv (hit c)) (hmiss : LogInv miss) :
    LogInv fun g => match g.lookup key with
      | some c => hit c g
      | none => miss g :=
  -- the lookup does not see the log (`withLog_lookup`, by computation): its answer is fixed before the run
  fun g => (show LogInv fun g' => match g.lookup key with
      | some c => hit c g'
      | none => miss g' by
    cases g.lookup key with
    | some c => exact hhit c
    | none => exact hmiss) g

/-! ### `LogInv` has the closure properties of EvalLogic.lean -/

theorem LogInv.closed : EvalClosed fun {_} _ f => LogInv f where
  stuck _ := fun _ _ _ h => nomatch h
  ok _ _ := .pure _
  err _ _ := .pure _
  panic _ _ := .pure _
  matcher _ _ := .pure _
  caseR hf hok herr := hf.caseR hok herr
  look hf _ := hf.caseR (fun _ _ => .pure _) fun _ => .pure _
  recErr h := h

theorem LogInv.fx : EvalFx fun {_} _ f => LogInv f where
  toEvalClosed := LogInv.closed
  readUctx hk g := hk g.uctx g
  setUctx u hf := fun g => hf { g with uctx := u }
  call {_ _ _ e} he hf := hf.emit (by cases e <;> simp [Ev.isCall] at he <;> exact ⟨rfl, rfl⟩)
  advanceSafe _ _ _ := .pure _

section
variable {env : Env} {rec : Rec}

/-! ### the wrapper of a normal rule: `memoBody` with the grow loop, and the trace bracket -/

theorem ruleBody_log (hrec : RecInv rec) (r : Rule) (s : St) : LogInv (ruleBody env rec r s) :=
  LogInv.closed.ruleBody hrec.expr LogInv.fx.runChecks r s

theorem growLoop_log {body : St → Global → Out Val} {s : St} (hbody : LogInv (body s)) (key : String × Nat) :
    ∀ k best, LogInv (growLoop body key s k best)
  | 0, _ => fun g r g' h => by simp [growLoop] at h
  | k+1, best =>
    congr_pred (growLoop_step body key s k best) <|
      ((hbody.emit (e := .bodyEval key.1 key.2)).emit (e := .info "Starting new left recursive loop")).caseR
        (fun _ _ => ite_pred ((growLoop_log hbody key k _).insert _ _) (.pure _))
        fun _ => by
          split
          · exact .pure _
          · exact (LogInv.pure _).insert _ _

theorem memoBody_log {body : St → Global → Out Val} {s : St} (hbody : LogInv (body s)) (flags : RuleFlags)
    (name : String) (n : Nat) : LogInv (memoBody flags name body n s) := by
  refine congr_pred (memoBody_step flags name body n s) <|
    ite_pred (.lookup (fun c => (LogInv.pure c).emit) ((growLoop_log hbody _ n _).insert _ _))
      (ite_pred (.lookup (fun c => (LogInv.pure c).emit) ?_) hbody)
  exact (hbody.emit (e := .bodyEval name s.off)).caseR (fun _ _ => (LogInv.pure _).insert _ _)
    fun _ => (LogInv.pure _).insert _ _

/-- what `print_trace_result` records for a result (nothing on a panic) -/
def resultEv : Res Val → List Ev
  | .ok _ s => [.traceOk s.off]
  | .err e => [.traceErr e.spec]
  | .panic _ => []

theorem traceResult_eq (g : Global) (res : Res Val) :
    traceResult g res = g.withLog (resultEv res ++ g.log) := by
  cases res <;> rfl

/-- the start event, the nested events of the body, the event of the result: balanced again, or – a panic has no
    result event – one level deeper -/
theorem Tr.bracket {res : Res Val} {mid : List Ev} (name : String) (off : Nat) (h : Tr res.isPanic mid) :
    Tr res.isPanic (resultEv res ++ mid ++ [.traceStart name off]) := by
  obtain ⟨k, hk, h0⟩ := h
  have hs : Nest ([Ev.traceStart name off] ++ mid.reverse) (1 + k) := (Nest.start rfl).append hk
  cases res with
  | panic m => exact ⟨1 + k, by simpa [resultEv] using hs, fun h => by cases h⟩
  | ok v s =>
    obtain rfl := h0 rfl
    exact ⟨0, by simpa [resultEv] using hs.close (e := .traceOk s.off) rfl rfl, fun _ => rfl⟩
  | err e =>
    obtain rfl := h0 rfl
    exact ⟨0, by simpa [resultEv] using hs.close (e := .traceErr e.spec) rfl rfl, fun _ => rfl⟩

/-- a call of a normal rule logs its start event, the events `mid` of the (memoized) body, and the
    event for exactly the returned result -/
theorem normalRule_runs (hrec : RecInv rec) {n : Nat} {r : Rule} {s : St} {g g' : Global} {res : Res Val}
    (h : normalRule env rec n r s g = some (res, g')) :
    ∃ mid, Runs (normalRule env rec n r s) g res g' (resultEv res ++ mid ++ [.traceStart r.name s.off]) ∧
      Tr res.isPanic mid := by
  obtain ⟨g1, hx, rfl⟩ := normalRule_eq_some h
  obtain ⟨mid, ⟨hl, he⟩, ht⟩ := memoBody_log (ruleBody_log hrec r s) _ _ _ _ _ _ hx
  exact ⟨mid, ⟨by simp [traceResult_eq, hl], fun l0 => by simp [normalRule, withLog_emit, he, traceResult_eq]⟩, ht⟩

theorem normalRule_log (hrec : RecInv rec) (n : Nat) (r : Rule) (s : St) :
    LogInv (normalRule env rec n r s) := fun _ _ _ h =>
  let ⟨_, hr, ht⟩ := normalRule_runs hrec h
  ⟨_, hr, ht.bracket _ _⟩

theorem step_log (hrec : RecInv rec) (n : Nat) : RecInv (step env rec n) :=
  ⟨LogInv.closed.stepExpr hrec.expr hrec.rule n, LogInv.closed.stepRule n
    (fun r s _ => normalRule_log hrec n r s) (LogInv.fx.charRule hrec.rule) LogInv.fx.externRule⟩

end

theorem eval_log (env : Env) : ∀ n, RecInv (eval env n) :=
  eval_induction ⟨fun _ _ _ => LogInv.closed.stuck default, fun _ _ => LogInv.closed.stuck default⟩ fun _ n h =>
    step_log h n

/-! ### consequences of `LogInv` -/

theorem LogInv.erasure {α} {f : Global → Out α} (hf : LogInv f) {g r g'} (h : f g = some (r, g')) :
    ∃ l, g'.log = l ++ g.log ∧ ∀ l0, f (g.withLog l0) = some (r, g'.withLog (l ++ l0)) := by
  obtain ⟨l, hr, _⟩ := hf _ _ _ h
  exact ⟨l, hr⟩

theorem LogInv.tr {α} {f : Global → Out α} (hf : LogInv f) {g r g'} (h : f g = some (r, g')) {l : List Ev}
    (hl : g'.log = l ++ g.log) : Tr r.isPanic l := by
  obtain ⟨l', ⟨hl', _⟩, ht⟩ := hf _ _ _ h
  rw [List.append_cancel_right (hl.symm.trans hl')]; exact ht

/-- the outcome modulo the log does not depend on the initial log (including running out of fuel) -/
theorem LogInv.irrelevant {α} {f : Global → Out α} (hf : LogInv f) (g : Global) (l0 : List Ev) :
    (f (g.withLog l0)).map (fun p => (p.1, p.2.withLog [])) = (f g).map (fun p => (p.1, p.2.withLog [])) := by
  cases h : f g with
  | some a =>
    obtain ⟨l, ⟨_, he⟩, _⟩ := hf _ _ _ h
    rw [he l0]
    rfl
  | none =>
    cases h2 : f (g.withLog l0) with
    | none => rfl
    | some a =>
      -- a run from `l0` that answers would answer from `g.log` as well
      obtain ⟨l, ⟨_, he⟩, _⟩ := hf _ _ _ h2
      have := he g.log
      rw [withLog_withLog, withLog_self, h] at this
      cases this

/-- no prefix of the (chronological) events underflows the depth counter, from any starting depth -/
def NoUnderflow (l : List Ev) : Prop := ∀ p, p <+: l → ∀ d, ∃ d', depthAfter p d = some d' ∧ d ≤ d'

theorem Nest.noUnderflow {l : List Ev} {k : Nat} (h : Nest l k) : NoUnderflow l := by
  intro p hp d
  obtain ⟨j, hj⟩ := h.prefix hp
  exact ⟨d + j, hj d, by omega⟩

theorem Tr.noUnderflow {b : Bool} {l : List Ev} (h : Tr b l) : NoUnderflow l.reverse :=
  let ⟨_, hk, _⟩ := h
  hk.noUnderflow

theorem Balanced.noUnderflow {l : List Ev} (h : Balanced l) : NoUnderflow l :=
  (balanced_iff_nest.mp h).noUnderflow

/-! ### C19, erasure: at `eval`, and for a whole parse -/

/-- result, cache and user context (`g'.withLog []`) of an expression do not depend on the initial
    log; as an equation, so that fuel exhaustion is covered -/
theorem eval_log_irrelevant {env : Env} {n : Nat} {ctx : Ctx} {e : Expr} {s : St} (g : Global) (l0 : List Ev) :
    ((eval env n).expr ctx e s (g.withLog l0)).map (fun p => (p.1, p.2.withLog [])) =
      ((eval env n).expr ctx e s g).map (fun p => (p.1, p.2.withLog [])) :=
  ((eval_log env n).expr ctx e s).irrelevant g l0

/-- C19, erasure: a parse started with an arbitrary initial log `l0` gives the same result, the same
    cache and the same user context as `parseAdvanced` (which starts from the empty log); its log is
    the log of `parseAdvanced` on top of `l0`. -/
theorem C19_erasure {env : Env} {n : Nat} {rule : String} {inp : List UInt8} {u : Nat} {r : Res Val}
    {g' : Global} (h : parseAdvanced env n rule inp u = some (r, g')) (l0 : List Ev) :
    (eval env n).rule rule (St.new inp) ((Global.init u).withLog l0) = some (r, g'.withLog (g'.log ++ l0)) := by
  obtain ⟨l, hl, he⟩ := ((eval_log env n).rule rule _).erasure h
  have : g'.log = l := by simpa [Global.init] using hl
  rw [this]; exact he l0

/-! ### C19, balance: at `eval`, and for a whole parse -/

theorem eval_trace_balanced {env : Env} {n : Nat} {ctx : Ctx} {e : Expr} {s : St} {g g' : Global}
    {r : Res Parsed} (h : (eval env n).expr ctx e s g = some (r, g')) (hp : ∀ m, r ≠ .panic m)
    {l : List Ev} (hl : g'.log = l ++ g.log) : Balanced l.reverse :=
  (((eval_log env n).expr ctx e s).tr h hl).balanced_of hp

/-- the indentation counter never underflows, on any prefix of the new events, from any starting
    depth – also when the evaluation panics -/
theorem eval_trace_noUnderflow {env : Env} {n : Nat} {ctx : Ctx} {e : Expr} {s : St} {g g' : Global}
    {r : Res Parsed} (h : (eval env n).expr ctx e s g = some (r, g'))
    {l : List Ev} (hl : g'.log = l ++ g.log) :
    ∀ p, p <+: l.reverse → ∀ d, ∃ d', depthAfter p d = some d' ∧ d ≤ d' :=
  (((eval_log env n).expr ctx e s).tr h hl).noUnderflow

/-- C19, balance: the complete chronological log of a non-panicking `parseAdvanced` is balanced, and
    no prefix of it (panicking or not) underflows the indentation counter. -/
theorem C19_balanced {env : Env} {n : Nat} {rule : String} {inp : List UInt8} {u : Nat} {r : Res Val}
    {g' : Global} (h : parseAdvanced env n rule inp u = some (r, g')) :
    ((∀ m, r ≠ .panic m) → Balanced g'.log.reverse) ∧
    (∀ p, p <+: g'.log.reverse → ∀ d, depthAfter p d ≠ none) := by
  have ht := ((eval_log env n).rule rule (St.new inp)).tr h (l := g'.log) (by simp [Global.init])
  refine ⟨ht.balanced_of, fun p hp d => ?_⟩
  obtain ⟨d', hd, _⟩ := ht.noUnderflow p hp d
  rw [hd]; exact fun h => by cases h

/-! ### sanity checks of the definitions -/

example : Balanced [.traceStart "A" 0, .info "Cache hit", .traceStart "B" 0, .traceErr .other, .traceOk 1] := by
  intro d; simp [depthAfter, isStart, isResult]

example : depthAfter [.traceStart "A" 0, .traceOk 1, .traceOk 1] 0 = none := by
  simp [depthAfter, isStart, isResult]

example : ¬ Balanced [.traceStart "A" 0] := by
  intro h; have := h 0; simp [depthAfter, isStart] at this

end Peg
