import PegVerif.Proofs.SpecMono
import PegVerif.Proofs.Refine
import PegVerif.Proofs.SpecLemmas
/-
  The reference semantics as a big-step *relation* (Ford-style natural semantics), and its
  equivalence with the functional presentation `Spec.eval` (Spec.lean).

  `Sem env u j s r` reads: "in grammar `env.g` (user functions applied at user context `u`), the
  judgement `j`, started at cursor `s`, has outcome `r`".  An outcome is
    `.ok v s'`   match, value `v`, cursor afterwards `s'`,
    `.err _`     no match (the payload is always `Spec.noErr`: the reference semantics has none),
    `.panic m`   the generated code would not compile / would panic (kept because `Spec.eval` has
                 these branches; unreachable for grammars accepted by the generator:
                 Proofs/Plumbing.lean).
  No derivation = the PEG reading does not terminate (e.g. `A = A 'x'`).

  One constructor per branch of `Spec.stepExpr` / `Spec.stepRule` and their helpers.  There is no
  fuel, no cache, no tracer, no furthest-error bookkeeping.

  The relation is equivalent to `∃ fuel, Spec.eval … = some r` (soundness by induction on the fuel,
  completeness by induction on the derivation, with `Holds` as the common reading of all judgement
  forms); determinism and the laws of the property sentence are read off as inversions.  That the
  implementation model answers exactly what the relation derives is ImplBridge.lean.
-/
namespace Peg

/-! ### judgement forms -/

/-- the judgement forms.  The first two are the "real" ones, the others are the list / loop
    helpers of the constructs (`Spec.evalSeq`, `Spec.evalAlts`, `Spec.evalLoop`, …). -/
inductive Judg where
  /-- expression `e` inside a rule with generation context `ctx` (whitespace skipping on/off, the
      rule's declared fields) -/
  | expr (ctx : Ctx) (e : Expr)
  /-- a call of the rule (or builtin) called `name` -/
  | rule (name : String)
  /-- the remaining `parts` of a sequence; `seen` / `acc`: fields bound so far -/
  | parts (ctx : Ctx) (parts : List Expr) (seen : List String) (acc : Parsed)
  /-- the remaining alternatives of an ordered choice with result fields `fields` -/
  | alts (ctx : Ctx) (fields : List FieldDesc) (alts : List Expr)
  /-- the iterations of a closure over `body` after `iters` iterations that collected `acc` -/
  | loop (ctx : Ctx) (body : Expr) (fields : List FieldDesc) (iters : Nat) (acc : Parsed)
  /-- the optional whitespace skip in front of a terminal or a rule reference -/
  | ws (ctx : Ctx)
  /-- the remaining `@check` functions of a rule applied to its value `v` -/
  | checks (fs : List (List String)) (v : Val)
  /-- one alternative of a `@char` rule -/
  | charPart (p : CharRulePart)
  /-- the remaining alternatives of a `@char` rule -/
  | charParts (ps : List CharRulePart)

/-- the type of values a judgement form produces -/
@[reducible] def Judg.Out : Judg → Type
  | .expr .. => Parsed
  | .rule .. => Val
  | .parts .. => List String × Parsed
  | .alts .. => Parsed
  | .loop .. => Nat × Parsed
  | .ws .. => Unit
  | .checks .. => Val
  | .charPart .. => Val
  | .charParts .. => Val

/-! ### small vocabulary used by the rules -/

/-- "no match" -/
abbrev noMatch {α} : Res α := .err Spec.noErr

/-- how a failure or a panic of a sub-derivation becomes the outcome of the construct around it
    (for the constructs that just give up when a part gives up): a failure stays a failure, a
    panic stays that panic -/
inductive Abort {α β} : Res α → Res β → Prop
  | err (e : PErr) : Abort (.err e) noMatch
  | panic (m : String) : Abort (.panic m) (.panic m)

/-- last step of a construct: the generated field plumbing `x` builds the result at cursor `s`.
    (`.error` = the generator would have emitted ill-typed code; never happens for accepted
    grammars, see Proofs/Plumbing.lean) -/
def plumb {α} (x : Except String α) (s : St) : Res α :=
  match x with
  | .ok v => .ok v s
  | .error m => .panic ("codegen: " ++ m)

/-- what the runtime matcher selected for a literal does at `s` (a literal binds no field) -/
def litAt (m : LitMatcher) (s : St) : Res Parsed :=
  match m with
  | .charLit c => Spec.abs ((parseCharacterLiteral s c).map fun _ => [])
  | .strLit l => Spec.abs ((parseStringLiteral s l).map fun _ => [])
  | .charLitI c => Spec.abs ((parseCharacterLiteralInsensitive s c).map fun _ => [])
  | .strLitI l => Spec.abs ((parseStringLiteralInsensitive s l).map fun _ => [])

/-! ### the relation -/

/-- Big-step semantics of grammars.  `Sem env u j s r`: judgement `j` from cursor `s` has
    outcome `r`. -/
inductive Sem (env : Env) (u : Nat) : (j : Judg) → St → Res j.Out → Prop

  /- ── ordered choice `a₁ | a₂ | …` -/

  /-- (a choice without alternatives is not produced by the front end; the generated code would
      index out of bounds) -/
  | choice_nil {ctx s} :
      Sem env u (.expr ctx (.choice [])) s (.panic "index out of bounds: choices[0]")
  /-- a choice with one alternative is that alternative -/
  | choice_one {ctx a s} {r : Res Parsed} :
      Sem env u (.expr ctx a) s r →
      Sem env u (.expr ctx (.choice [a])) s r
  /-- a choice with several alternatives tries them in order (`alts_*`); its result has the
      choice's own fields -/
  | choice {ctx a b rest s} {r : Res Parsed} :
      Sem env u (.alts ctx (filterRuleFields ctx.ruleFields (ownFields env (.choice (a :: b :: rest))))
        (a :: b :: rest)) s r →
      Sem env u (.expr ctx (.choice (a :: b :: rest))) s r
  /-- no alternative left: the choice fails -/
  | alts_nil {ctx fields s} :
      Sem env u (.alts ctx fields []) s noMatch
  /-- the first alternative matches: that is the result (converted to the choice's fields); the
      remaining alternatives are not consulted -/
  | alts_first {ctx fields a as s} {r : Parsed} {s' : St} :
      Sem env u (.expr ctx a) s (.ok r s') →
      Sem env u (.alts ctx fields (a :: as)) s (plumb (convertArm fields (ownFields env a) r) s')
  /-- the first alternative fails: the result is that of the remaining alternatives, tried from
      the SAME cursor -/
  | alts_next {ctx fields a as s e} {r : Res Parsed} :
      Sem env u (.expr ctx a) s (.err e) →
      Sem env u (.alts ctx fields as) s r →
      Sem env u (.alts ctx fields (a :: as)) s r
  /-- a panic is not a failure: no further alternative is tried -/
  | alts_panic {ctx fields a as s m} :
      Sem env u (.expr ctx a) s (.panic m) →
      Sem env u (.alts ctx fields (a :: as)) s (.panic m)

  /- ── sequence `p₁ p₂ …` -/

  /-- the empty sequence matches the empty string -/
  | seq_nil {ctx s} :
      Sem env u (.expr ctx (.seq [])) s (.ok [] s)
  /-- a sequence with one part is that part -/
  | seq_one {ctx p s} {r : Res Parsed} :
      Sem env u (.expr ctx p) s r →
      Sem env u (.expr ctx (.seq [p])) s r
  /-- a sequence matches when all its parts match one after the other (`parts_*`); its result are
      the collected fields -/
  | seq {ctx a b rest s seen acc s'} :
      Sem env u (.parts ctx (a :: b :: rest) [] []) s (.ok (seen, acc) s') →
      Sem env u (.expr ctx (.seq (a :: b :: rest))) s
        (plumb (project (filterRuleFields ctx.ruleFields (ownFields env (.seq (a :: b :: rest)))) acc) s')
  /-- … and fails when the parts fail -/
  | seq_abort {ctx a b rest s} {r : Res (List String × Parsed)} {r' : Res Parsed} :
      Sem env u (.parts ctx (a :: b :: rest) [] []) s r → Abort r r' →
      Sem env u (.expr ctx (.seq (a :: b :: rest))) s r'
  /-- no part left: done, at the cursor reached -/
  | parts_nil {ctx seen acc s} :
      Sem env u (.parts ctx [] seen acc) s (.ok (seen, acc) s)
  /-- the first part matches from `s` to `s₁`; the remaining parts continue from `s₁`
      (left to right) -/
  | parts_cons {ctx p ps seen acc s r s₁ seen' acc'} {out : Res (List String × Parsed)} :
      Sem env u (.expr ctx p) s (.ok r s₁) →
      mergePart (filterRuleFields ctx.ruleFields (ownFields env p)) seen acc r = .ok (seen', acc') →
      Sem env u (.parts ctx ps seen' acc') s₁ out →
      Sem env u (.parts ctx (p :: ps) seen acc) s out
  /-- the first part fails: the sequence fails, the remaining parts are not tried -/
  | parts_abort {ctx p ps seen acc s} {r : Res Parsed} {r' : Res (List String × Parsed)} :
      Sem env u (.expr ctx p) s r → Abort r r' →
      Sem env u (.parts ctx (p :: ps) seen acc) s r'
  /-- (field plumbing of the part ill-typed) -/
  | parts_bad {ctx p ps seen acc s r s₁ m} :
      Sem env u (.expr ctx p) s (.ok r s₁) →
      mergePart (filterRuleFields ctx.ruleFields (ownFields env p)) seen acc r = .error m →
      Sem env u (.parts ctx (p :: ps) seen acc) s (.panic ("codegen: " ++ m))

  /- ── group `( e )` -/

  /-- a group is its body -/
  | group {ctx b s} {r : Res Parsed} :
      Sem env u (.expr ctx b) s r →
      Sem env u (.expr ctx (.group b)) s r

  /- ── optional `[ e ]`: never fails -/

  /-- the body matches: so does the optional, with the same result -/
  | opt_some {ctx b s r s'} :
      Sem env u (.expr ctx b) s (.ok r s') →
      Sem env u (.expr ctx (.opt b)) s (.ok r s')
  /-- the body fails: the optional matches the empty string (cursor unchanged, fields default) -/
  | opt_none {ctx b s e} :
      Sem env u (.expr ctx b) s (.err e) →
      Sem env u (.expr ctx (.opt b)) s (plumb (defaults (filterRuleFields ctx.ruleFields (ownFields env b))) s)
  /-- (a panic of the body is a panic of the optional: only failures are absorbed) -/
  | opt_panic {ctx b s m} :
      Sem env u (.expr ctx b) s (.panic m) →
      Sem env u (.expr ctx (.opt b)) s (.panic m)

  /- ── closures `{ e }` and `{ e }+`: greedy, never give anything back -/

  /-- `{ e }` / `{ e }+`: iterate the body as long as it matches (`loop_*`); the result is what
      the iterations collected, the cursor is where the last successful iteration ended -/
  | closure {ctx b plus s init iters acc s'} :
      closureInit (filterRuleFields ctx.ruleFields (ownFields env b)) = .ok init →
      Sem env u (.loop ctx b (filterRuleFields ctx.ruleFields (ownFields env b)) 0 init) s (.ok (iters, acc) s') →
      (plus && iters == 0) = false →
      Sem env u (.expr ctx (.closure b plus)) s (.ok acc s')
  /-- `{ e }+` fails when there was no iteration -/
  | closure_none {ctx b plus s init iters acc s'} :
      closureInit (filterRuleFields ctx.ruleFields (ownFields env b)) = .ok init →
      Sem env u (.loop ctx b (filterRuleFields ctx.ruleFields (ownFields env b)) 0 init) s (.ok (iters, acc) s') →
      (plus && iters == 0) = true →
      Sem env u (.expr ctx (.closure b plus)) s noMatch
  /-- (a panic during the iteration is a panic of the closure; the iteration itself never fails) -/
  | closure_abort {ctx b plus s init} {r : Res (Nat × Parsed)} {r' : Res Parsed} :
      closureInit (filterRuleFields ctx.ruleFields (ownFields env b)) = .ok init →
      Sem env u (.loop ctx b (filterRuleFields ctx.ruleFields (ownFields env b)) 0 init) s r → Abort r r' →
      Sem env u (.expr ctx (.closure b plus)) s r'
  /-- (a field of the body not declared as a list) -/
  | closure_bad {ctx b plus s m} :
      closureInit (filterRuleFields ctx.ruleFields (ownFields env b)) = .error m →
      Sem env u (.expr ctx (.closure b plus)) s (.panic ("codegen: " ++ m))
  /-- the body fails at `s`: the iteration stops there and keeps everything matched so far.  This
      is the only way a closure ends: it never gives characters back -/
  | loop_stop {ctx b fields iters acc s e} :
      Sem env u (.expr ctx b) s (.err e) →
      Sem env u (.loop ctx b fields iters acc) s (.ok (iters, acc) s)
  /-- the body matches from `s` to `s₁`: the iteration must continue from `s₁` (greedy) -/
  | loop_step {ctx b fields iters acc s r s₁ acc'} {out : Res (Nat × Parsed)} :
      Sem env u (.expr ctx b) s (.ok r s₁) →
      extendAll fields acc r = .ok acc' →
      Sem env u (.loop ctx b fields (iters + 1) acc') s₁ out →
      Sem env u (.loop ctx b fields iters acc) s out
  /-- (a panic of the body ends the iteration with that panic) -/
  | loop_panic {ctx b fields iters acc s m} :
      Sem env u (.expr ctx b) s (.panic m) →
      Sem env u (.loop ctx b fields iters acc) s (.panic m)
  /-- (field plumbing of the body ill-typed) -/
  | loop_bad {ctx b fields iters acc s r s₁ m} :
      Sem env u (.expr ctx b) s (.ok r s₁) →
      extendAll fields acc r = .error m →
      Sem env u (.loop ctx b fields iters acc) s (.panic ("codegen: " ++ m))

  /- ── lookaheads `!e`, `&e`: consume nothing, produce nothing -/

  /-- `!e` matches (the empty string, at the cursor it started from) when `e` fails -/
  | neg_ok {ctx b s e} :
      Sem env u (.expr ctx b) s (.err e) →
      Sem env u (.expr ctx (.neg b)) s (.ok [] s)
  /-- `!e` fails when `e` matches -/
  | neg_fail {ctx b s r s'} :
      Sem env u (.expr ctx b) s (.ok r s') →
      Sem env u (.expr ctx (.neg b)) s noMatch
  /-- (a panic is neither a match nor a failure) -/
  | neg_panic {ctx b s m} :
      Sem env u (.expr ctx b) s (.panic m) →
      Sem env u (.expr ctx (.neg b)) s (.panic m)
  /-- `&e` matches (the empty string, at the cursor it started from) when `e` matches -/
  | pos_ok {ctx b s r s'} :
      Sem env u (.expr ctx b) s (.ok r s') →
      Sem env u (.expr ctx (.pos b)) s (.ok [] s)
  /-- `&e` fails when `e` fails -/
  | pos_abort {ctx b s} {r r' : Res Parsed} :
      Sem env u (.expr ctx b) s r → Abort r r' →
      Sem env u (.expr ctx (.pos b)) s r'

  /- ── whitespace skipping in front of terminals and rule references -/

  /-- the rule does not skip whitespace (`@no_skip_ws` or global setting): nothing happens -/
  | ws_off {ctx s} :
      ctx.skipWs = false →
      Sem env u (.ws ctx) s (.ok () s)
  /-- otherwise the rule `Whitespace` (builtin unless the grammar defines it) is called -/
  | ws_on {ctx s v s₁} :
      ctx.skipWs = true →
      Sem env u (.rule "Whitespace") s (.ok v s₁) →
      Sem env u (.ws ctx) s (.ok () s₁)
  /-- (the builtin never fails; a user-defined `Whitespace` rule may) -/
  | ws_abort {ctx s} {r : Res Val} {r' : Res Unit} :
      ctx.skipWs = true →
      Sem env u (.rule "Whitespace") s r → Abort r r' →
      Sem env u (.ws ctx) s r'

  /- ── terminals: the runtime matchers (builtin_parsers.rs), after the whitespace skip; characterised
      on characters in `Props/C01.lean` (`C01_char_literal`, …) -/

  /-- character range `'a'..'z'` -/
  | range {ctx lo hi s l h s₁} :
      lo.toChar = .ok l → hi.toChar = .ok h →
      Sem env u (.ws ctx) s (.ok () s₁) →
      Sem env u (.expr ctx (.range lo hi)) s (Spec.abs ((parseCharacterRange s₁ l h).map fun _ => []))
  /-- (the whitespace skip fails – only possible with a user-defined `Whitespace` rule – or panics) -/
  | range_abort {ctx lo hi s l h} {r : Res Unit} {r' : Res Parsed} :
      lo.toChar = .ok l → hi.toChar = .ok h →
      Sem env u (.ws ctx) s r → Abort r r' →
      Sem env u (.expr ctx (.range lo hi)) s r'
  /-- (a bound that is not a character: rejected by the generator) -/
  | range_bad {ctx lo hi s} :
      (∀ l h, lo.toChar = .ok l → hi.toChar = .ok h → False) →
      Sem env u (.expr ctx (.range lo hi)) s (.panic "uncompilable: range bound")
  /-- string / character literal, case sensitive or not (`litAt`) -/
  | lit {ctx ins body s m s₁} :
      compileLit ins body = .ok m →
      Sem env u (.ws ctx) s (.ok () s₁) →
      Sem env u (.expr ctx (.lit ins body)) s (litAt m s₁)
  /-- (the whitespace skip fails or panics) -/
  | lit_abort {ctx ins body s m} {r : Res Unit} {r' : Res Parsed} :
      compileLit ins body = .ok m →
      Sem env u (.ws ctx) s r → Abort r r' →
      Sem env u (.expr ctx (.lit ins body)) s r'
  /-- (a literal the generator rejects: bad escape, non-ASCII case-insensitive literal) -/
  | lit_bad {ctx ins body s} :
      (∀ m, compileLit ins body = .ok m → False) →
      Sem env u (.expr ctx (.lit ins body)) s (.panic "uncompilable: literal")
  /-- end of input `$` -/
  | eoi {ctx s s₁} :
      Sem env u (.ws ctx) s (.ok () s₁) →
      Sem env u (.expr ctx .eoi) s (Spec.abs ((parseEndOfInput s₁).map fun _ => []))
  /-- (the whitespace skip fails or panics) -/
  | eoi_abort {ctx s} {r : Res Unit} {r' : Res Parsed} :
      Sem env u (.ws ctx) s r → Abort r r' →
      Sem env u (.expr ctx .eoi) s r'

  /- ── rule references -/

  /-- `>Rule`: the body of the (normal) rule `Rule`, spliced in -/
  | incl {ctx name rule s} {r : Res Parsed} :
      env.g.findRule name = some rule →
      Sem env u (.expr ctx rule.definition) s r →
      Sem env u (.expr ctx (.incl name)) s r
  /-- (include of a rule that does not exist, or is not a normal rule: rejected by the generator) -/
  | incl_missing {ctx name s} :
      env.g.findRule name = none →
      Sem env u (.expr ctx (.incl name)) s (.panic "uncompilable: include of a missing rule")
  /-- `Rule` (no field name): skip whitespace, call the rule, drop its value -/
  | field_anon {ctx boxed typ s s₁ v s'} :
      Sem env u (.ws ctx) s (.ok () s₁) →
      Sem env u (.rule typ) s₁ (.ok v s') →
      Sem env u (.expr ctx (.field none boxed typ)) s (.ok [] s')
  /-- `name:Rule`, `name:*Rule`, `@:Rule`: skip whitespace, call the rule, bind its value (boxed /
      wrapped in the enum variant / `Some` / one-element list as the declared field says) -/
  | field_named {ctx nm boxed typ s s₁ v s'} :
      Sem env u (.ws ctx) s (.ok () s₁) →
      Sem env u (.rule typ) s₁ (.ok v s') →
      Sem env u (.expr ctx (.field (some nm) boxed typ)) s
        ((plumb (postprocessField ctx.ruleFields nm.key typ v) s').map fun fv => [(nm.key, fv)])
  /-- the called rule fails: so does the reference -/
  | field_abort {ctx name boxed typ s s₁} {r : Res Val} {r' : Res Parsed} :
      Sem env u (.ws ctx) s (.ok () s₁) →
      Sem env u (.rule typ) s₁ r → Abort r r' →
      Sem env u (.expr ctx (.field name boxed typ)) s r'
  /-- (the whitespace skip fails or panics) -/
  | field_ws_abort {ctx name boxed typ s} {r : Res Unit} {r' : Res Parsed} :
      Sem env u (.ws ctx) s r → Abort r r' →
      Sem env u (.expr ctx (.field name boxed typ)) s r'

  /- ── rules.  `@memoize` and `@leftrec` do not change what a rule matches: a rule is its body -/

  /-- `@string` rule: the body matches from `s` to `s'`; the value is the matched text; then the
      `@check`s -/
  | rule_string {name r fields s p s'} {out : Res Val} :
      env.g.find name = some (.rule r) →
      getFields env.g env.nf r.definition = .ok fields →
      ruleShape r fields = .string →
      Sem env u (.expr (ruleCtx env r fields) r.definition) s (.ok p s') →
      Sem env u (.checks r.checks (stringVal r s s')) s' out →
      Sem env u (.rule name) s out
  /-- rule whose only field is `@:`: the value is the value bound to `@:`; then the `@check`s -/
  | rule_override {name r fields s p s' v} {out : Res Val} :
      env.g.find name = some (.rule r) →
      getFields env.g env.nf r.definition = .ok fields →
      ruleShape r fields = .override →
      Sem env u (.expr (ruleCtx env r fields) r.definition) s (.ok p s') →
      p.get "_override" = some v →
      Sem env u (.checks r.checks v) s' out →
      Sem env u (.rule name) s out
  /-- any other rule: the value is a node labelled with the rule's name holding the declared
      fields (and the matched span under `@position`); then the `@check`s -/
  | rule_struct {name r fields s p s' fs} {out : Res Val} :
      env.g.find name = some (.rule r) →
      getFields env.g env.nf r.definition = .ok fields →
      ruleShape r fields = .struct →
      Sem env u (.expr (ruleCtx env r fields) r.definition) s (.ok p s') →
      project fields p = .ok fs →
      Sem env u (.checks r.checks (structVal r fs s s')) s' out →
      Sem env u (.rule name) s out
  /-- the body fails: the rule fails -/
  | rule_abort {name r fields s} {res : Res Parsed} {out : Res Val} :
      env.g.find name = some (.rule r) →
      getFields env.g env.nf r.definition = .ok fields →
      ruleShape r fields ≠ .mixed →
      Sem env u (.expr (ruleCtx env r fields) r.definition) s res → Abort res out →
      Sem env u (.rule name) s out
  /-- (the body produced no value for `@:`: ill-typed generated code) -/
  | rule_override_bad {name r fields s p s'} :
      env.g.find name = some (.rule r) →
      getFields env.g env.nf r.definition = .ok fields →
      ruleShape r fields = .override →
      Sem env u (.expr (ruleCtx env r fields) r.definition) s (.ok p s') →
      p.get "_override" = none →
      Sem env u (.rule name) s (.panic "codegen: override value missing")
  /-- (the body did not bind a declared field: ill-typed generated code) -/
  | rule_struct_bad {name r fields s p s' m} :
      env.g.find name = some (.rule r) →
      getFields env.g env.nf r.definition = .ok fields →
      ruleShape r fields = .struct →
      Sem env u (.expr (ruleCtx env r fields) r.definition) s (.ok p s') →
      project fields p = .error m →
      Sem env u (.rule name) s (.panic ("codegen: " ++ m))
  /-- (`@:` mixed with named fields: rejected by the generator) -/
  | rule_mixed {name r fields s} :
      env.g.find name = some (.rule r) →
      getFields env.g env.nf r.definition = .ok fields →
      ruleShape r fields = .mixed →
      Sem env u (.rule name) s (.panic "uncompilable: Mixing simple and override fields is not allowed.")
  /-- (the field analysis of the rule fails: rejected by the generator) -/
  | rule_fields_bad {name r s} :
      env.g.find name = some (.rule r) →
      (∀ fields, getFields env.g env.nf r.definition = .ok fields → False) →
      Sem env u (.rule name) s (.panic "uncompilable: get_fields failed")
  /-- no `@check` left: the rule matches with value `v` -/
  | checks_nil {v s} :
      Sem env u (.checks [] v) s (.ok v s)
  /-- a `@check` function rejects the value: the rule fails -/
  | checks_reject {f fs v s} :
      (env.hooks.check ("::".intercalate f) v u).1 = false →
      Sem env u (.checks (f :: fs) v) s noMatch
  /-- it accepts: on to the next one -/
  | checks_accept {f fs v s} {out : Res Val} :
      (env.hooks.check ("::".intercalate f) v u).1 = true →
      Sem env u (.checks fs v) s out →
      Sem env u (.checks (f :: fs) v) s out

  /- ── `@char` rules: an ordered choice of characters, ranges and other `@char` rules -/

  /-- `@char` rule without `@check`: its alternatives in order -/
  | char_rule {name r s} {out : Res Val} :
      env.g.find name = some (.charRule r) →
      r.directives.isEmpty = true →
      Sem env u (.charParts r.choices) s out →
      Sem env u (.rule name) s out
  /-- `@char` rule with `@check`s: the next character must pass all of them first -/
  | char_rule_checked {name r s c} {out : Res Val} :
      env.g.find name = some (.charRule r) →
      r.directives.isEmpty = false →
      decodeHead s.rest = some c → Spec.charChecksOk env r.directives c = true →
      Sem env u (.charParts r.choices) s out →
      Sem env u (.rule name) s out
  /-- a `@check` rejects the next character: the rule fails -/
  | char_rule_rejected {name r s c} :
      env.g.find name = some (.charRule r) →
      r.directives.isEmpty = false →
      decodeHead s.rest = some c → Spec.charChecksOk env r.directives c = false →
      Sem env u (.rule name) s noMatch
  /-- there is no next character to check: the rule fails -/
  | char_rule_eoi {name r s} :
      env.g.find name = some (.charRule r) →
      r.directives.isEmpty = false →
      decodeHead s.rest = none →
      Sem env u (.rule name) s noMatch
  /-- a character -/
  | part_chr {item c s} :
      item.toChar = .ok c →
      Sem env u (.charPart (.chr item)) s (Spec.abs ((parseCharacterLiteral s c).map .chr))
  /-- (an escape that is not a character: rejected by the generator) -/
  | part_chr_bad {item s} :
      (∀ c, item.toChar = .ok c → False) →
      Sem env u (.charPart (.chr item)) s (.panic "uncompilable: char rule literal")
  /-- a character range -/
  | part_range {lo hi l h s} :
      lo.toChar = .ok l → hi.toChar = .ok h →
      Sem env u (.charPart (.range lo hi)) s (Spec.abs ((parseCharacterRange s l h).map .chr))
  /-- (a bound that is not a character: rejected by the generator) -/
  | part_range_bad {lo hi s} :
      (∀ l h, lo.toChar = .ok l → hi.toChar = .ok h → False) →
      Sem env u (.charPart (.range lo hi)) s (.panic "uncompilable: char rule range")
  /-- another (`@char`) rule -/
  | part_ident {id s} {r : Res Val} :
      Sem env u (.rule id) s r →
      Sem env u (.charPart (.ident id)) s r
  /-- no alternative left: fails -/
  | chars_nil {s} :
      Sem env u (.charParts []) s noMatch
  /-- the first alternative matches: that is the result -/
  | chars_first {p ps s v s'} :
      Sem env u (.charPart p) s (.ok v s') →
      Sem env u (.charParts (p :: ps)) s (.ok v s')
  /-- the first alternative fails: the remaining ones, from the same cursor -/
  | chars_next {p ps s e} {out : Res Val} :
      Sem env u (.charPart p) s (.err e) →
      Sem env u (.charParts ps) s out →
      Sem env u (.charParts (p :: ps)) s out
  /-- (a panic is not a failure: no further alternative is tried) -/
  | chars_panic {p ps s m} :
      Sem env u (.charPart p) s (.panic m) →
      Sem env u (.charParts (p :: ps)) s (.panic m)

  /- ── `@extern` rules and builtins -/

  /-- `@extern` rule: the user function returns a value and the number of bytes it consumed -/
  | extern_ok {name r s v adv} :
      env.g.find name = some (.externRule r) →
      (env.hooks.extern ("::".intercalate r.function) s.rest u).1 = .ok (v, adv) →
      Sem env u (.rule name) s (Spec.abs (s.advanceSafe adv v))
  /-- … or an error message: the rule fails -/
  | extern_fail {name r s msg} :
      env.g.find name = some (.externRule r) →
      (env.hooks.extern ("::".intercalate r.function) s.rest u).1 = .error msg →
      Sem env u (.rule name) s noMatch
  /-- builtin `char`: any one character (unless the grammar defines `char`) -/
  | builtin_char {s} :
      env.g.find "char" = none →
      Sem env u (.rule "char") s (Spec.abs ((parseChar s).map .chr))
  /-- builtin `Whitespace`: the longest run of ASCII whitespace; never fails (unless the grammar
      defines `Whitespace`) -/
  | builtin_ws {s} :
      env.g.find "Whitespace" = none →
      Sem env u (.rule "Whitespace") s (Spec.abs ((parseWhitespace s).map fun _ => .unit))
  /-- (reference to a rule that is neither defined nor builtin: the generated code does not compile) -/
  | rule_undefined {name s} :
      env.g.find name = none → name ≠ "char" → name ≠ "Whitespace" →
      Sem env u (.rule name) s (.panic ("uncompilable: undefined rule " ++ name))

/-! ## Equivalence with the functional presentation `Spec.eval` -/

namespace Spec

/-- one alternative of a `@char` rule, as inlined in `Spec.charParts` -/
def charPart (rec : SRec) (p : CharRulePart) (s : St) : SOut Val :=
  match p with
  | .chr item => (match item.toChar with
    | .ok c => some (abs ((parseCharacterLiteral s c).map .chr))
    | _ => some (.panic "uncompilable: char rule literal"))
  | .range lo hi => (match lo.toChar, hi.toChar with
    | .ok lo, .ok hi => some (abs ((parseCharacterRange s lo hi).map .chr))
    | _, _ => some (.panic "uncompilable: char rule range"))
  | .ident id => rec.rule id s

theorem charParts_cons (rec : SRec) (p : CharRulePart) (ps : List CharRulePart) (s : St) :
    charParts rec (p :: ps) s =
      match charPart rec p s with
      | none => none
      | some (.ok v s') => some (.ok v s')
      | some (.err _) => charParts rec ps s
      | some (.panic m) => some (.panic m) := by
  cases p <;> rfl

end Spec

/-- the functional reading of a judgement at fuel `n` -/
def Holds (env : Env) (u : Nat) (n : Nat) : (j : Judg) → St → Res j.Out → Prop
  | .expr ctx e, s, r => (Spec.eval env u n).expr ctx e s = some r
  | .rule name, s, r => (Spec.eval env u n).rule name s = some r
  | .parts ctx ps seen acc, s, r => Spec.evalSeq env (Spec.eval env u n) ctx ps seen acc s = some r
  | .alts ctx fields as, s, r => Spec.evalAlts env (Spec.eval env u n) ctx fields as s = some r
  | .loop ctx b fields iters acc, s, r =>
      Spec.evalLoop ((Spec.eval env u n).expr ctx b) fields n iters acc s = some r
  | .ws ctx, s, r => Spec.withSkipWs (Spec.eval env u n) ctx s (fun s' => some (.ok () s')) = some r
  | .checks fs v, s, r => Spec.runChecks env u fs v s = some r
  | .charPart p, s, r => Spec.charPart (Spec.eval env u n) p s = some r
  | .charParts ps, s, r => Spec.charParts (Spec.eval env u n) ps s = some r

/-! ### soundness: every answer of `Spec.eval` is derivable -/

namespace Rel
section Sound
variable {env : Env} {u : Nat}

theorem bindS_inv {α β} {x : Spec.SOut α} {k : α → St → Spec.SOut β} {r : Res β}
    (h : Spec.bindS x k = some r) :
    ∃ a, x = some a ∧ ((∃ v s', a = .ok v s' ∧ k v s' = some r) ∨ Abort a r) := by
  cases x with
  | none => simp [Spec.bindS] at h
  | some a =>
    refine ⟨a, rfl, ?_⟩
    cases a with
    | ok v s' => left; exact ⟨v, s', rfl, h⟩
    | err e => right; simp only [Spec.bindS, Option.some.injEq] at h; subst h; exact .err e
    | panic m => right; simp only [Spec.bindS, Option.some.injEq] at h; subst h; exact .panic m

/-- the recursive calls of one unfolding are derivable -/
structure RecOk (env : Env) (u : Nat) (rec : Spec.SRec) : Prop where
  expr : ∀ ctx e s r, rec.expr ctx e s = some r → Sem env u (.expr ctx e) s r
  rule : ∀ name s r, rec.rule name s = some r → Sem env u (.rule name) s r

/-- the skip in front of a continuation is the skip alone, then the continuation -/
theorem withSkipWs_bind {rec : Spec.SRec} {ctx s} {α} (k : St → Spec.SOut α) :
    Spec.withSkipWs rec ctx s k =
      Spec.bindS (Spec.withSkipWs rec ctx s fun s' => some (.ok () s')) fun _ => k := by
  unfold Spec.withSkipWs
  split
  · cases rec.rule "Whitespace" s with
    | none => rfl
    | some a => cases a <;> rfl
  · rfl

theorem ws_sound {rec : Spec.SRec} (hok : RecOk env u rec) {ctx s r}
    (h : Spec.withSkipWs rec ctx s (fun s' => some (.ok () s')) = some r) : Sem env u (.ws ctx) s r := by
  unfold Spec.withSkipWs at h
  split at h
  · obtain ⟨a, ha, h⟩ := bindS_inv h
    rcases h with ⟨v, s', rfl, hk⟩ | hab
    · cases hk; exact .ws_on ‹_› (hok.rule _ _ _ ha)
    · exact .ws_abort ‹_› (hok.rule _ _ _ ha) hab
  · rename_i hs
    cases h; exact .ws_off (by simpa using hs)

theorem withSkipWs_sound {rec : Spec.SRec} (hok : RecOk env u rec) {α} {ctx s} {k : St → Spec.SOut α} {r}
    (h : Spec.withSkipWs rec ctx s k = some r) :
    (∃ s₁, Sem env u (.ws ctx) s (.ok () s₁) ∧ k s₁ = some r) ∨
    (∃ r₀ : Res Unit, Sem env u (.ws ctx) s r₀ ∧ Abort r₀ r) := by
  rw [withSkipWs_bind] at h
  obtain ⟨a, ha, h⟩ := bindS_inv h
  rcases h with ⟨_, s₁, rfl, hk⟩ | hab
  · exact .inl ⟨s₁, ws_sound hok ha, hk⟩
  · exact .inr ⟨a, ws_sound hok ha, hab⟩

theorem evalSeq_sound {rec : Spec.SRec} (hok : RecOk env u rec) {ctx} :
    ∀ ps seen acc s r, Spec.evalSeq env rec ctx ps seen acc s = some r →
      Sem env u (.parts ctx ps seen acc) s r := by
  intro ps
  induction ps with
  | nil => intro seen acc s r h; cases h; exact .parts_nil
  | cons p ps ih =>
    intro seen acc s r h
    simp only [Spec.evalSeq] at h
    obtain ⟨a, ha, h⟩ := bindS_inv h
    have hp := hok.expr _ _ _ _ ha
    rcases h with ⟨v, s', rfl, hk⟩ | hab
    · split at hk
      · cases hk; exact .parts_bad hp ‹_›
      · exact .parts_cons hp ‹_› (ih _ _ _ _ hk)
    · exact .parts_abort hp hab

theorem evalAlts_sound {rec : Spec.SRec} (hok : RecOk env u rec) {ctx fields} :
    ∀ as s r, Spec.evalAlts env rec ctx fields as s = some r →
      Sem env u (.alts ctx fields as) s r := by
  intro as
  induction as with
  | nil => intro s r h; cases h; exact .alts_nil
  | cons a as ih =>
    intro s r h
    simp only [Spec.evalAlts] at h
    split at h
    · cases h
    · have := Sem.alts_first (fields := fields) (as := as) (hok.expr _ _ _ _ ‹_›)
      generalize convertArm _ _ _ = x at h this
      cases x <;> cases h <;> exact this
    · exact .alts_next (hok.expr _ _ _ _ ‹_›) (ih _ _ h)
    · cases h; exact .alts_panic (hok.expr _ _ _ _ ‹_›)

theorem evalLoop_sound {rec : Spec.SRec} (hok : RecOk env u rec) {ctx b fields} :
    ∀ k iters acc s r, Spec.evalLoop (rec.expr ctx b) fields k iters acc s = some r →
      Sem env u (.loop ctx b fields iters acc) s r := by
  intro k
  induction k with
  | zero => intro iters acc s r h; cases h
  | succ k ih =>
    intro iters acc s r h
    simp only [Spec.evalLoop] at h
    split at h
    · cases h
    · have hp := hok.expr _ _ _ _ ‹_›
      split at h
      · exact .loop_step hp ‹_› (ih _ _ _ _ h)
      · cases h; exact .loop_bad hp ‹_›
    · cases h; exact .loop_stop (hok.expr _ _ _ _ ‹_›)
    · cases h; exact .loop_panic (hok.expr _ _ _ _ ‹_›)

theorem stepExpr_sound {rec : Spec.SRec} (hok : RecOk env u rec) (n : Nat) {ctx e s r}
    (h : Spec.stepExpr env rec n ctx e s = some r) : Sem env u (.expr ctx e) s r := by
  cases e with
  | choice alts =>
    match alts with
    | [] => cases h; exact .choice_nil
    | [a] => exact .choice_one (hok.expr _ _ _ _ h)
    | a :: b :: rest => exact .choice (evalAlts_sound hok _ _ _ h)
  | seq parts =>
    match parts with
    | [] => cases h; exact .seq_nil
    | [a] => exact .seq_one (hok.expr _ _ _ _ h)
    | a :: b :: rest =>
      simp only [Spec.stepExpr] at h
      obtain ⟨x, hx, h⟩ := bindS_inv h
      have hp := evalSeq_sound hok _ _ _ _ _ hx
      rcases h with ⟨⟨seen, acc⟩, s', rfl, hk⟩ | hab
      · have := Sem.seq hp
        generalize project _ _ = x at hk this
        cases x <;> cases hk <;> exact this
      · exact .seq_abort hp hab
  | group b => exact .group (hok.expr _ _ _ _ h)
  | opt b =>
    simp only [Spec.stepExpr] at h
    split at h
    · cases h
    · cases h; exact .opt_some (hok.expr _ _ _ _ ‹_›)
    · have := Sem.opt_none (hok.expr _ _ _ _ ‹_›)
      generalize defaults _ = x at h this
      cases x <;> cases h <;> exact this
    · cases h; exact .opt_panic (hok.expr _ _ _ _ ‹_›)
  | closure b plus =>
    simp only [Spec.stepExpr] at h
    split at h
    · cases h; exact .closure_bad ‹_›
    · rename_i init hinit
      obtain ⟨x, hx, h⟩ := bindS_inv h
      have hp := evalLoop_sound hok _ _ _ _ _ hx
      rcases h with ⟨⟨iters, acc⟩, s', rfl, hk⟩ | hab
      · simp only at hk
        split at hk <;> cases hk
        · exact .closure_none hinit hp ‹_›
        · rename_i hc
          exact .closure hinit hp (by simpa using hc)
      · exact .closure_abort hinit hp hab
  | neg b =>
    simp only [Spec.stepExpr] at h
    split at h <;> cases h
    · exact .neg_fail (hok.expr _ _ _ _ ‹_›)
    · exact .neg_ok (hok.expr _ _ _ _ ‹_›)
    · exact .neg_panic (hok.expr _ _ _ _ ‹_›)
  | pos b =>
    simp only [Spec.stepExpr] at h
    obtain ⟨x, hx, h⟩ := bindS_inv h
    have hp := hok.expr _ _ _ _ hx
    rcases h with ⟨v, s', rfl, hk⟩ | hab
    · cases hk; exact .pos_ok hp
    · exact .pos_abort hp hab
  | range lo hi =>
    simp only [Spec.stepExpr] at h
    split at h
    · rename_i l h' hl hh
      rcases withSkipWs_sound hok h with ⟨s₁, hws, hk⟩ | ⟨r₀, hws, hab⟩
      · cases hk; exact .range hl hh hws
      · exact .range_abort hl hh hws hab
    · cases h; exact .range_bad ‹_›
  | lit ins body =>
    simp only [Spec.stepExpr] at h
    split at h
    · rename_i m hm
      rcases withSkipWs_sound hok h with ⟨s₁, hws, hk⟩ | ⟨r₀, hws, hab⟩
      · have := Sem.lit (ins := ins) (body := body) hm hws
        cases m <;> cases hk <;> exact this
      · exact .lit_abort hm hws hab
    · rename_i hbad
      cases h; exact .lit_bad fun m hm => hbad m hm
  | eoi =>
    simp only [Spec.stepExpr] at h
    rcases withSkipWs_sound hok h with ⟨s₁, hws, hk⟩ | ⟨r₀, hws, hab⟩
    · cases hk; exact .eoi hws
    · exact .eoi_abort hws hab
  | incl name =>
    simp only [Spec.stepExpr] at h
    split at h
    · cases h; exact .incl_missing ‹_›
    · exact .incl ‹_› (hok.expr _ _ _ _ h)
  | field name boxed typ =>
    simp only [Spec.stepExpr] at h
    rcases withSkipWs_sound hok h with ⟨s₁, hws, hk⟩ | ⟨r₀, hws, hab⟩
    · obtain ⟨x, hx, hk⟩ := bindS_inv hk
      have hp := hok.rule _ _ _ hx
      rcases hk with ⟨v, s', rfl, hk⟩ | hab
      · cases name with
        | none => cases hk; exact .field_anon hws hp
        | some nm =>
          have := Sem.field_named (nm := nm) (boxed := boxed) hws hp
          simp only at hk
          generalize postprocessField _ _ _ _ = x at hk this
          cases x <;> cases hk <;> exact this
      · exact .field_abort hws hp hab
    · exact .field_ws_abort hws hab

theorem runChecks_sound : ∀ fs v s r, Spec.runChecks env u fs v s = some r →
    Sem env u (.checks fs v) s r := by
  intro fs
  induction fs with
  | nil => intro v s r h; cases h; exact .checks_nil
  | cons f fs ih =>
    intro v s r h
    simp only [Spec.runChecks] at h
    split at h
    · rename_i hc
      cases h; exact .checks_reject (by simpa using hc)
    · rename_i hc
      exact .checks_accept (by simpa using hc) (ih _ _ _ h)

theorem charPart_sound {rec : Spec.SRec} (hok : RecOk env u rec) {p s r}
    (h : Spec.charPart rec p s = some r) : Sem env u (.charPart p) s r := by
  cases p with
  | chr item =>
    simp only [Spec.charPart] at h
    split at h <;> cases h
    · exact .part_chr ‹_›
    · rename_i hbad
      exact .part_chr_bad fun c hc => hbad c hc
  | range lo hi =>
    simp only [Spec.charPart] at h
    split at h <;> cases h
    · exact .part_range ‹_› ‹_›
    · exact .part_range_bad ‹_›
  | ident id => exact .part_ident (hok.rule _ _ _ h)

theorem charParts_sound {rec : Spec.SRec} (hok : RecOk env u rec) :
    ∀ ps s r, Spec.charParts rec ps s = some r → Sem env u (.charParts ps) s r := by
  intro ps
  induction ps with
  | nil => intro s r h; cases h; exact .chars_nil
  | cons p ps ih =>
    intro s r h
    rw [Spec.charParts_cons] at h
    split at h
    · cases h
    · cases h; exact .chars_first (charPart_sound hok ‹_›)
    · exact .chars_next (charPart_sound hok ‹_›) (ih _ _ h)
    · cases h; exact .chars_panic (charPart_sound hok ‹_›)

/-- the rule wrapper, by the shape of the rule's value -/
theorem ruleBody_sound {rec : Spec.SRec} (hok : RecOk env u rec) {name : String} {r0 : Rule} {s r}
    (hfind : env.g.find name = some (.rule r0))
    (h : Spec.ruleBody env u rec r0 s = some r) : Sem env u (.rule name) s r := by
  cases hf : getFields env.g env.nf r0.definition with
  | ok fields =>
    rw [Spec.ruleBody_eq hf] at h
    split at h
    · cases h; exact .rule_mixed hfind hf ‹_›
    · rename_i hne
      obtain ⟨x, hx, h⟩ := bindS_inv h
      have hp := hok.expr _ _ _ _ hx
      rcases h with ⟨p, s', rfl, hk⟩ | hab
      · unfold ruleValue at hk
        cases hs : ruleShape r0 fields with
        | mixed => exact (hne hs).elim
        | string =>
          simp only [hs] at hk
          exact .rule_string hfind hf hs hp (runChecks_sound _ _ _ _ hk)
        | override =>
          simp only [hs] at hk
          cases hv : p.get "_override" with
          | some v => simp only [hv] at hk; exact .rule_override hfind hf hs hp hv (runChecks_sound _ _ _ _ hk)
          | none => simp only [hv] at hk; cases hk; exact .rule_override_bad hfind hf hs hp hv
        | struct =>
          simp only [hs] at hk
          cases hv : project fields p with
          | ok fs => simp only [hv] at hk; exact .rule_struct hfind hf hs hp hv (runChecks_sound _ _ _ _ hk)
          | error m => simp only [hv] at hk; cases hk; exact .rule_struct_bad hfind hf hs hp hv
      · exact .rule_abort hfind hf hne hp hab
  | err _ | fuel =>
    simp only [Spec.ruleBody, hf] at h
    cases h
    exact .rule_fields_bad hfind fun fields hf' => by rw [hf] at hf'; cases hf'

theorem stepRule_sound {rec : Spec.SRec} (hok : RecOk env u rec) {name s r}
    (h : Spec.stepRule env u rec name s = some r) : Sem env u (.rule name) s r := by
  unfold Spec.stepRule at h
  split at h
  · exact ruleBody_sound hok ‹_› h
  · rename_i cr hfind
    unfold Spec.charRule at h
    split at h
    · exact .char_rule hfind ‹_› (charParts_sound hok _ _ _ h)
    · rename_i hc
      have hc : cr.directives.isEmpty = false := by simpa using hc
      split at h
      · cases h; exact .char_rule_eoi hfind hc ‹_›
      · rename_i c hd
        split at h
        · exact .char_rule_checked hfind hc hd ‹_› (charParts_sound hok _ _ _ h)
        · rename_i hck
          cases h; exact .char_rule_rejected hfind hc hd (by simpa using hck)
  · rename_i er hfind
    unfold Spec.externRule at h
    split at h <;> cases h
    · exact .extern_ok hfind ‹_›
    · exact .extern_fail hfind ‹_›
  · rename_i hfind
    split at h
    · rename_i hn
      obtain rfl : name = "char" := by simpa using hn
      cases h; exact .builtin_char hfind
    · rename_i hn
      split at h
      · rename_i hn2
        obtain rfl : name = "Whitespace" := by simpa using hn2
        cases h; exact .builtin_ws hfind
      · rename_i hn2
        cases h; exact .rule_undefined hfind (by simpa using hn) (by simpa using hn2)

theorem eval_recOk (env : Env) (u : Nat) : ∀ n, RecOk env u (Spec.eval env u n) := by
  intro n
  induction n with
  | zero => exact ⟨fun _ _ _ _ h => by simp [Spec.eval] at h, fun _ _ _ h => by simp [Spec.eval] at h⟩
  | succ n ih =>
    exact ⟨fun _ _ _ _ h => stepExpr_sound ih n h, fun _ _ _ h => stepRule_sound ih h⟩

end Sound
end Rel
open Rel

/-- **Soundness** (all judgement forms): whatever the functional semantics answers at some fuel is
    derivable in the relation. -/
theorem Holds.sem {env : Env} {u n : Nat} : ∀ {j : Judg} {s : St} {r : Res j.Out},
    Holds env u n j s r → Sem env u j s r := by
  intro j s r h
  have hok := eval_recOk env u n
  cases j with
  | expr ctx e => exact hok.expr _ _ _ _ h
  | rule name => exact hok.rule _ _ _ h
  | parts ctx ps seen acc => exact evalSeq_sound hok _ _ _ _ _ h
  | alts ctx fields as => exact evalAlts_sound hok _ _ _ h
  | loop ctx b fields iters acc => exact evalLoop_sound hok _ _ _ _ _ h
  | ws ctx => exact ws_sound hok h
  | checks fs v => exact runChecks_sound _ _ _ _ h
  | charPart p => exact charPart_sound hok h
  | charParts ps => exact charParts_sound hok _ _ _ h

/-! ### completeness: every derivation is computed by `Spec.eval` with enough fuel -/

section Complete
variable {env : Env} {u : Nat}

theorem Spec.charPart_le {rec rec' : Spec.SRec} (hR : Spec.LeR rec.rule rec'.rule) {p s r}
    (h : Spec.charPart rec p s = some r) : Spec.charPart rec' p s = some r := by
  cases p with
  | chr item => exact h
  | range lo hi => exact h
  | ident id => exact hR _ _ _ h

/-- more fuel does not change an answer -/
theorem Holds.mono {n m : Nat} (hnm : n ≤ m) {j : Judg} {s : St} {r : Res j.Out}
    (h : Holds env u n j s r) : Holds env u m j s r := by
  have hle := Spec.eval_mono env u hnm
  cases j with
  | expr ctx e => exact hle.expr _ _ _ _ h
  | rule name => exact hle.rule _ _ _ h
  | parts ctx ps seen acc => exact Spec.evalSeq_le hle _ _ _ _ _ h
  | alts ctx fields as => exact Spec.evalAlts_le hle _ _ _ h
  | loop ctx b fields iters acc =>
    exact Spec.evalLoop_le (fun s r => hle.expr _ _ _ _) _ _ _ _ _ _ hnm h
  | ws ctx => exact Spec.withSkipWs_le hle.rule (fun _ _ h => h) h
  | checks fs v => exact h
  | charPart p => exact Spec.charPart_le hle.rule h
  | charParts ps => exact Spec.charParts_leR hle.rule _ _ _ h

/-- two derivable judgements are computed at a common fuel -/
theorem Holds.two {j₁ j₂ : Judg} {s₁ s₂ : St} {r₁ : Res j₁.Out} {r₂ : Res j₂.Out}
    (h₁ : ∃ n, Holds env u n j₁ s₁ r₁) (h₂ : ∃ n, Holds env u n j₂ s₂ r₂) :
    ∃ n, Holds env u n j₁ s₁ r₁ ∧ Holds env u n j₂ s₂ r₂ := by
  obtain ⟨n₁, h₁⟩ := h₁
  obtain ⟨n₂, h₂⟩ := h₂
  exact ⟨max n₁ n₂, h₁.mono (Nat.le_max_left _ _), h₂.mono (Nat.le_max_right _ _)⟩

theorem Holds.three {j₁ j₂ j₃ : Judg} {s₁ s₂ s₃ : St} {r₁ : Res j₁.Out} {r₂ : Res j₂.Out} {r₃ : Res j₃.Out}
    (h₁ : ∃ n, Holds env u n j₁ s₁ r₁) (h₂ : ∃ n, Holds env u n j₂ s₂ r₂)
    (h₃ : ∃ n, Holds env u n j₃ s₃ r₃) :
    ∃ n, Holds env u n j₁ s₁ r₁ ∧ Holds env u n j₂ s₂ r₂ ∧ Holds env u n j₃ s₃ r₃ := by
  obtain ⟨n₁, h₁, h₂⟩ := Holds.two h₁ h₂
  obtain ⟨n₃, h₃⟩ := h₃
  exact ⟨max n₁ n₃, h₁.mono (Nat.le_max_left _ _), h₂.mono (Nat.le_max_left _ _),
    h₃.mono (Nat.le_max_right _ _)⟩

theorem Holds.expr_succ {n ctx e s} {r : Res Parsed}
    (h : Spec.stepExpr env (Spec.eval env u n) n ctx e s = some r) :
    ∃ k, Holds env u k (.expr ctx e) s r := ⟨n + 1, h⟩

theorem Holds.rule_succ {n name s} {r : Res Val}
    (h : Spec.stepRule env u (Spec.eval env u n) name s = some r) :
    ∃ k, Holds env u k (.rule name) s r := ⟨n + 1, h⟩

namespace Spec
theorem bindS_some_ok {α β} (v : α) (s : St) (k : α → St → SOut β) : bindS (some (.ok v s)) k = k v s := rfl
end Spec

namespace Rel

theorem bindS_abort {α β} {x : Spec.SOut α} {k : α → St → Spec.SOut β} {a : Res α} {r : Res β}
    (h : x = some a) (hab : Abort a r) : Spec.bindS x k = some r := by
  subst h; cases hab <;> rfl

theorem withSkipWs_ok {rec : Spec.SRec} {ctx s s₁} {α} (k : St → Spec.SOut α)
    (h : Spec.withSkipWs rec ctx s (fun s' => some (.ok () s')) = some (.ok () s₁)) :
    Spec.withSkipWs rec ctx s k = k s₁ := by
  rw [withSkipWs_bind, h, Spec.bindS_some_ok]

theorem withSkipWs_abort {rec : Spec.SRec} {ctx s} {α} (k : St → Spec.SOut α) {r₀ : Res Unit} {r : Res α}
    (h : Spec.withSkipWs rec ctx s (fun s' => some (.ok () s')) = some r₀) (hab : Abort r₀ r) :
    Spec.withSkipWs rec ctx s k = some r := by
  rw [withSkipWs_bind, bindS_abort h hab]

theorem plumb_some {α} (x : Except String α) (s : St) :
    (match x with
      | .ok p => some (Res.ok p s)
      | .error m => some (Res.panic ("codegen: " ++ m))) = some (plumb x s) := by
  cases x <;> rfl

end Rel

/-- **Completeness** (all judgement forms): every derivation of the relation is computed by the
    functional semantics, with enough fuel. -/
theorem Sem.holds {j : Judg} {s : St} {r : Res j.Out} (h : Sem env u j s r) :
    ∃ n, Holds env u n j s r := by
  induction h with
  | choice_nil | seq_nil => exact ⟨1, rfl⟩
  | alts_nil | parts_nil | checks_nil | chars_nil => exact ⟨0, rfl⟩
  /- constructs over one sub-derivation: one more unit of fuel -/
  | choice_one _ ih | choice _ ih | seq_one _ ih | group _ ih | opt_some _ ih | opt_panic _ ih
  | neg_ok _ ih | neg_fail _ ih | neg_panic _ ih =>
    obtain ⟨n, ih⟩ := ih
    refine Holds.expr_succ (n := n) ?_
    simp only [Holds] at ih
    simp only [Spec.stepExpr, ih]
  | opt_none _ ih =>
    obtain ⟨n, ih⟩ := ih
    refine Holds.expr_succ (n := n) ?_
    simp only [Holds] at ih
    simp only [Spec.stepExpr, ih]
    generalize defaults _ = x; cases x <;> rfl
  | seq _ ih =>
    obtain ⟨n, ih⟩ := ih
    refine Holds.expr_succ (n := n) ?_
    simp only [Holds] at ih
    simp only [Spec.stepExpr, ih, Spec.bindS_some_ok]
    generalize project _ _ = x; cases x <;> rfl
  | pos_ok _ ih =>
    obtain ⟨n, ih⟩ := ih
    refine Holds.expr_succ (n := n) ?_
    simp only [Holds] at ih
    simp only [Spec.stepExpr, ih, Spec.bindS_some_ok]
  | seq_abort _ hab ih | pos_abort _ hab ih =>
    obtain ⟨n, ih⟩ := ih
    refine Holds.expr_succ (n := n) ?_
    simp only [Holds] at ih
    simp only [Spec.stepExpr, bindS_abort ih hab]
  | closure hinit _ hc ih =>
    obtain ⟨n, ih⟩ := ih
    refine Holds.expr_succ (n := n) ?_
    simp only [Holds] at ih
    simp only [Spec.stepExpr, hinit, ih, Spec.bindS_some_ok, hc, Bool.false_eq_true, if_false]
  | closure_none hinit _ hc ih =>
    obtain ⟨n, ih⟩ := ih
    refine Holds.expr_succ (n := n) ?_
    simp only [Holds] at ih
    simp only [Spec.stepExpr, hinit, ih, Spec.bindS_some_ok, hc, if_true]
  | closure_abort hinit _ hab ih =>
    obtain ⟨n, ih⟩ := ih
    refine Holds.expr_succ (n := n) ?_
    simp only [Holds] at ih
    simp only [Spec.stepExpr, hinit, bindS_abort ih hab]
  | closure_bad hinit => exact Holds.expr_succ (n := 0) (by simp only [Spec.stepExpr, hinit])
  | incl hf _ ih =>
    obtain ⟨n, ih⟩ := ih
    refine Holds.expr_succ (n := n) ?_
    simp only [Holds] at ih
    simp only [Spec.stepExpr, hf, ih]
  | incl_missing hf => exact Holds.expr_succ (n := 0) (by simp only [Spec.stepExpr, hf])
  /- the list and loop helpers: same fuel (one more for an iteration) -/
  | alts_first _ ih =>
    obtain ⟨n, ih⟩ := ih
    refine ⟨n, ?_⟩
    simp only [Holds] at ih ⊢
    simp only [Spec.evalAlts, ih]
    generalize convertArm _ _ _ = x; cases x <;> rfl
  | alts_next _ _ ih₁ ih₂ =>
    obtain ⟨n, ih₁, ih₂⟩ := Holds.two ih₁ ih₂
    refine ⟨n, ?_⟩
    simp only [Holds] at ih₁ ih₂ ⊢
    simp only [Spec.evalAlts, ih₁, ih₂]
  | alts_panic _ ih =>
    obtain ⟨n, ih⟩ := ih
    refine ⟨n, ?_⟩
    simp only [Holds] at ih ⊢
    simp only [Spec.evalAlts, ih]
  | parts_cons _ hm _ ih₁ ih₂ =>
    obtain ⟨n, ih₁, ih₂⟩ := Holds.two ih₁ ih₂
    refine ⟨n, ?_⟩
    simp only [Holds] at ih₁ ih₂ ⊢
    simp only [Spec.evalSeq, ih₁, Spec.bindS_some_ok, hm, ih₂]
  | parts_abort _ hab ih =>
    obtain ⟨n, ih⟩ := ih
    refine ⟨n, ?_⟩
    simp only [Holds] at ih ⊢
    simp only [Spec.evalSeq, bindS_abort ih hab]
  | parts_bad _ hm ih =>
    obtain ⟨n, ih⟩ := ih
    refine ⟨n, ?_⟩
    simp only [Holds] at ih ⊢
    simp only [Spec.evalSeq, ih, Spec.bindS_some_ok, hm]
  | loop_stop _ ih | loop_panic _ ih =>
    obtain ⟨n, ih⟩ := ih
    refine ⟨n + 1, ?_⟩
    have ih := ih.mono (Nat.le_succ n)
    simp only [Holds] at ih ⊢
    simp only [Spec.evalLoop, ih]
  | loop_bad _ he ih =>
    obtain ⟨n, ih⟩ := ih
    refine ⟨n + 1, ?_⟩
    have ih := ih.mono (Nat.le_succ n)
    simp only [Holds] at ih ⊢
    simp only [Spec.evalLoop, ih, he]
  | loop_step _ he _ ih₁ ih₂ =>
    obtain ⟨n, ih₁, ih₂⟩ := Holds.two ih₁ ih₂
    refine ⟨n + 1, ?_⟩
    have ih₁ := ih₁.mono (Nat.le_succ n)
    have hle := Spec.eval_mono env u (Nat.le_succ n)
    simp only [Holds] at ih₁ ih₂ ⊢
    simp only [Spec.evalLoop, ih₁, he]
    exact Spec.evalLoop_le (fun s r => hle.expr _ _ _ _) _ _ _ _ _ _ (Nat.le_refl n) ih₂
  /- the whitespace skip, and the terminals and references behind it -/
  | ws_off hs => exact ⟨0, by simp only [Holds, Spec.withSkipWs, hs, Bool.false_eq_true, if_false]⟩
  | ws_on hs _ ih =>
    obtain ⟨n, ih⟩ := ih
    refine ⟨n, ?_⟩
    simp only [Holds] at ih ⊢
    simp only [Spec.withSkipWs, hs, if_true, ih, Spec.bindS_some_ok]
  | ws_abort hs _ hab ih =>
    obtain ⟨n, ih⟩ := ih
    refine ⟨n, ?_⟩
    simp only [Holds] at ih ⊢
    simp only [Spec.withSkipWs, hs, if_true, bindS_abort ih hab]
  | range hl hh _ ih =>
    obtain ⟨n, ih⟩ := ih
    refine Holds.expr_succ (n := n) ?_
    simp only [Holds] at ih
    simp only [Spec.stepExpr, hl, hh, withSkipWs_ok _ ih]
  | range_abort hl hh _ hab ih =>
    obtain ⟨n, ih⟩ := ih
    refine Holds.expr_succ (n := n) ?_
    simp only [Holds] at ih
    simp only [Spec.stepExpr, hl, hh, withSkipWs_abort _ ih hab]
  -- the equation lemma of this branch of `Spec.stepExpr` has the hypothesis as its side condition
  | range_bad hbad | lit_bad hbad => exact Holds.expr_succ (n := 0) (by simp only [Spec.stepExpr])
  | lit hm _ ih =>
    obtain ⟨n, ih⟩ := ih
    refine Holds.expr_succ (n := n) ?_
    simp only [Holds] at ih
    simp only [Spec.stepExpr, hm, withSkipWs_ok _ ih]
    unfold litAt
    split <;> rfl
  | lit_abort hm _ hab ih =>
    obtain ⟨n, ih⟩ := ih
    refine Holds.expr_succ (n := n) ?_
    simp only [Holds] at ih
    simp only [Spec.stepExpr, hm, withSkipWs_abort _ ih hab]
  | eoi _ ih =>
    obtain ⟨n, ih⟩ := ih
    refine Holds.expr_succ (n := n) ?_
    simp only [Holds] at ih
    simp only [Spec.stepExpr, withSkipWs_ok _ ih]
  | eoi_abort _ hab ih | field_ws_abort _ hab ih =>
    obtain ⟨n, ih⟩ := ih
    refine Holds.expr_succ (n := n) ?_
    simp only [Holds] at ih
    simp only [Spec.stepExpr, withSkipWs_abort _ ih hab]
  | field_anon _ _ ih₁ ih₂ =>
    obtain ⟨n, ih₁, ih₂⟩ := Holds.two ih₁ ih₂
    refine Holds.expr_succ (n := n) ?_
    simp only [Holds] at ih₁ ih₂
    simp only [Spec.stepExpr, withSkipWs_ok _ ih₁, ih₂, Spec.bindS_some_ok]
  | field_named _ _ ih₁ ih₂ =>
    obtain ⟨n, ih₁, ih₂⟩ := Holds.two ih₁ ih₂
    refine Holds.expr_succ (n := n) ?_
    simp only [Holds] at ih₁ ih₂
    simp only [Spec.stepExpr, withSkipWs_ok _ ih₁, ih₂, Spec.bindS_some_ok]
    generalize postprocessField _ _ _ _ = x; cases x <;> rfl
  | field_abort _ _ hab ih₁ ih₂ =>
    obtain ⟨n, ih₁, ih₂⟩ := Holds.two ih₁ ih₂
    refine Holds.expr_succ (n := n) ?_
    simp only [Holds] at ih₁ ih₂
    simp only [Spec.stepExpr, withSkipWs_ok _ ih₁, bindS_abort ih₂ hab]
  /- rules -/
  | rule_string hfind hf hs _ _ ih₁ ih₂ =>
    obtain ⟨n, ih₁, ih₂⟩ := Holds.two ih₁ ih₂
    refine Holds.rule_succ (n := n) ?_
    simp only [Holds] at ih₁ ih₂
    simp only [Spec.stepRule, hfind, Spec.ruleBody_shape hf, hs, ih₁, Spec.bindS_some_ok, ih₂]
  | rule_override hfind hf hs _ hv _ ih₁ ih₂ | rule_struct hfind hf hs _ hv _ ih₁ ih₂ =>
    obtain ⟨n, ih₁, ih₂⟩ := Holds.two ih₁ ih₂
    refine Holds.rule_succ (n := n) ?_
    simp only [Holds] at ih₁ ih₂
    simp only [Spec.stepRule, hfind, Spec.ruleBody_shape hf, hs, ih₁, Spec.bindS_some_ok, hv, ih₂]
  | rule_abort hfind hf hs _ hab ih =>
    obtain ⟨n, ih⟩ := ih
    refine Holds.rule_succ (n := n) ?_
    simp only [Holds] at ih
    simp only [Spec.stepRule, hfind, Spec.ruleBody_eq hf, if_neg hs, bindS_abort ih hab]
  | rule_override_bad hfind hf hs _ hv ih | rule_struct_bad hfind hf hs _ hv ih =>
    obtain ⟨n, ih⟩ := ih
    refine Holds.rule_succ (n := n) ?_
    simp only [Holds] at ih
    simp only [Spec.stepRule, hfind, Spec.ruleBody_shape hf, hs, ih, Spec.bindS_some_ok, hv]
  | rule_mixed hfind hf hs =>
    exact Holds.rule_succ (n := 0) (by simp only [Spec.stepRule, hfind, Spec.ruleBody_shape hf, hs])
  | rule_fields_bad hfind hbad =>
    refine Holds.rule_succ (n := 0) ?_
    simp only [Spec.stepRule, hfind]
    unfold Spec.ruleBody
    split
    · exact (hbad _ ‹_›).elim
    · rfl
  | checks_reject hc => exact ⟨0, by simp only [Holds, Spec.runChecks, hc, Bool.not_false, if_true]⟩
  | checks_accept hc _ ih =>
    obtain ⟨n, ih⟩ := ih
    refine ⟨0, ?_⟩
    simp only [Holds] at ih ⊢
    simp only [Spec.runChecks, hc, Bool.not_true, Bool.false_eq_true, if_false, ih]
  | char_rule hfind hc _ ih =>
    obtain ⟨n, ih⟩ := ih
    refine Holds.rule_succ (n := n) ?_
    simp only [Holds] at ih
    simp only [Spec.stepRule, hfind, Spec.charRule, hc, if_true, ih]
  | char_rule_checked hfind hc hd hck _ ih =>
    obtain ⟨n, ih⟩ := ih
    refine Holds.rule_succ (n := n) ?_
    simp only [Holds] at ih
    simp only [Spec.stepRule, hfind, Spec.charRule, hc, hd, hck, Bool.false_eq_true, if_false, if_true, ih]
  | char_rule_rejected hfind hc hd hck =>
    exact Holds.rule_succ (n := 0)
      (by simp only [Spec.stepRule, hfind, Spec.charRule, hc, hd, hck, Bool.false_eq_true, if_false])
  | char_rule_eoi hfind hc hd =>
    exact Holds.rule_succ (n := 0)
      (by simp only [Spec.stepRule, hfind, Spec.charRule, hc, hd, Bool.false_eq_true, if_false])
  | part_chr hc => exact ⟨0, by simp only [Holds, Spec.charPart, hc]⟩
  | part_range hl hh => exact ⟨0, by simp only [Holds, Spec.charPart, hl, hh]⟩
  | part_chr_bad hbad | part_range_bad hbad => exact ⟨0, by simp only [Holds, Spec.charPart]⟩
  | part_ident _ ih => exact ih
  | chars_first _ ih | chars_panic _ ih =>
    obtain ⟨n, ih⟩ := ih
    refine ⟨n, ?_⟩
    simp only [Holds] at ih ⊢
    simp only [Spec.charParts_cons, ih]
  | chars_next _ _ ih₁ ih₂ =>
    obtain ⟨n, ih₁, ih₂⟩ := Holds.two ih₁ ih₂
    refine ⟨n, ?_⟩
    simp only [Holds] at ih₁ ih₂ ⊢
    simp only [Spec.charParts_cons, ih₁, ih₂]
  | extern_ok hfind hx | extern_fail hfind hx =>
    exact Holds.rule_succ (n := 0) (by simp only [Spec.stepRule, hfind, Spec.externRule, hx])
  | builtin_char hfind => exact Holds.rule_succ (n := 0) (by simp only [Spec.stepRule, hfind, BEq.rfl, if_true])
  | builtin_ws hfind =>
    refine Holds.rule_succ (n := 0) ?_
    simp only [Spec.stepRule, hfind]
    rfl
  | @rule_undefined name s hfind h1 h2 =>
    refine Holds.rule_succ (n := 0) ?_
    have h1 : (name == "char") = false := by simpa using h1
    have h2 : (name == "Whitespace") = false := by simpa using h2
    simp only [Spec.stepRule, hfind, h1, h2, Bool.false_eq_true, if_false]

end Complete

/-! ## Main statements -/

/-- **Soundness, expressions**: an answer of the functional reference semantics is derivable. -/
theorem Spec.eval_sound {env : Env} {u n : Nat} {ctx : Ctx} {e : Expr} {s : St} {r : Res Parsed}
    (h : (Spec.eval env u n).expr ctx e s = some r) : Sem env u (.expr ctx e) s r :=
  Holds.sem (j := .expr ctx e) h

/-- **Soundness, rules.** -/
theorem Spec.eval_sound_rule {env : Env} {u n : Nat} {name : String} {s : St} {r : Res Val}
    (h : (Spec.eval env u n).rule name s = some r) : Sem env u (.rule name) s r :=
  Holds.sem (j := .rule name) h

/-- **Completeness, expressions**: a derivable outcome is the answer of the functional reference
    semantics for some (hence, by `Spec.eval_mono`, every larger) fuel. -/
theorem Spec.eval_complete {env : Env} {u : Nat} {ctx : Ctx} {e : Expr} {s : St} {r : Res Parsed}
    (h : Sem env u (.expr ctx e) s r) : ∃ n, (Spec.eval env u n).expr ctx e s = some r :=
  h.holds

/-- **Completeness, rules.** -/
theorem Spec.eval_complete_rule {env : Env} {u : Nat} {name : String} {s : St} {r : Res Val}
    (h : Sem env u (.rule name) s r) : ∃ n, (Spec.eval env u n).rule name s = some r :=
  h.holds

/-- the relation and the function define the same semantics -/
theorem Sem.expr_iff {env : Env} {u : Nat} {ctx : Ctx} {e : Expr} {s : St} {r : Res Parsed} :
    Sem env u (.expr ctx e) s r ↔ ∃ n, (Spec.eval env u n).expr ctx e s = some r :=
  ⟨Spec.eval_complete, fun ⟨_, h⟩ => Spec.eval_sound h⟩

theorem Sem.rule_iff {env : Env} {u : Nat} {name : String} {s : St} {r : Res Val} :
    Sem env u (.rule name) s r ↔ ∃ n, (Spec.eval env u n).rule name s = some r :=
  ⟨Spec.eval_complete_rule, fun ⟨_, h⟩ => Spec.eval_sound_rule h⟩

/-- … for an exported rule on an input: `Spec.parse` -/
theorem Sem.parse_iff {env : Env} {u : Nat} {rule : String} {inp : List UInt8} {r : Res Val} :
    Sem env u (.rule rule) (St.new inp) r ↔ ∃ n, Spec.parse env u n rule inp = some r :=
  Sem.rule_iff

/-- the same for every judgement form -/
theorem Sem.iff_holds {env : Env} {u : Nat} {j : Judg} {s : St} {r : Res j.Out} :
    Sem env u j s r ↔ ∃ n, Holds env u n j s r :=
  ⟨Sem.holds, fun ⟨_, h⟩ => h.sem⟩

theorem Holds.det {env : Env} {u n : Nat} {j : Judg} {s : St} {r r' : Res j.Out}
    (h : Holds env u n j s r) (h' : Holds env u n j s r') : r = r' := by
  cases j <;> exact Option.some.inj (h.symm.trans h')

/-- **Determinism**: a judgement has at most one outcome from a given cursor (PEG semantics is
    deterministic: same success/failure, same value, same cursor afterwards). -/
theorem Sem.det {env : Env} {u : Nat} {j : Judg} {s : St} {r r' : Res j.Out}
    (h : Sem env u j s r) (h' : Sem env u j s r') : r = r' := by
  obtain ⟨n, h₁, h₂⟩ := Holds.two h.holds h'.holds
  exact h₁.det h₂

/-! ## A failure never carries a payload -/

namespace Rel

theorem plumb_err {α} {x : Except String α} {s e} (h : plumb x s = .err e) : False := by
  cases x <;> cases h

end Rel

/-- every failure derived by the relation is the payload-free `noMatch` (premises of the form
    `Sem … (.err e)` are therefore the same as `Sem … noMatch`) -/
theorem Sem.err_noErr {env : Env} {u : Nat} {j : Judg} {s : St} {r : Res j.Out}
    (h : Sem env u j s r) : ∀ e, r = .err e → e = Spec.noErr := by
  induction h with
  -- the outcome of the last premise is the outcome
  | choice_one _ ih | choice _ ih | alts_next _ _ _ ih | seq_one _ ih | parts_cons _ _ _ _ ih | group _ ih
  | incl _ _ ih | loop_step _ _ _ _ ih | rule_string _ _ _ _ _ _ ih | rule_override _ _ _ _ _ _ _ ih
  | rule_struct _ _ _ _ _ _ _ ih | checks_accept _ _ ih | char_rule _ _ _ ih
  | char_rule_checked _ _ _ _ _ ih | part_ident _ ih | chars_next _ _ _ ih => exact ih
  | seq_abort _ hab _ | parts_abort _ hab _ | closure_abort _ _ hab _ | pos_abort _ hab _ | ws_abort _ _ hab _
  | range_abort _ _ _ hab _ | lit_abort _ _ hab _ | eoi_abort _ hab _ | field_abort _ _ hab _ _
  | field_ws_abort _ hab _ | rule_abort _ _ _ _ hab _ =>
    intro e he
    cases hab <;> cases he
    rfl
  | range | eoi | part_chr | part_range | extern_ok | builtin_char | builtin_ws => exact fun e he => (Spec.abs_err he).1
  | lit =>
    intro e he
    unfold litAt at he
    split at he <;> exact (Spec.abs_err he).1
  | alts_first | seq | opt_none => exact fun e he => (plumb_err he).elim
  | field_named =>
    intro e he
    unfold plumb at he
    split at he <;> cases he
  | _ =>
    intro e he
    cases he <;> rfl

theorem Sem.err_eq_noMatch {env : Env} {u : Nat} {j : Judg} {s : St} {e : PErr}
    (h : Sem env u j s (.err e)) : Sem env u j s noMatch := by
  have := h.err_noErr e rfl
  subst this; exact h

/-! ## The laws listed in property C01, read off the relation -/

section Laws
variable {env : Env} {u : Nat}

/-- sequences match left to right: the rest of a sequence starts where its first part ended -/
theorem Sem.parts_left_to_right {ctx p ps seen acc s x s'}
    (h : Sem env u (.parts ctx (p :: ps) seen acc) s (.ok x s')) :
    ∃ r s₁ seen' acc', Sem env u (.expr ctx p) s (.ok r s₁) ∧
      Sem env u (.parts ctx ps seen' acc') s₁ (.ok x s') := by
  cases h with
  | parts_cons h₁ _ h₂ => exact ⟨_, _, _, _, h₁, h₂⟩
  | parts_abort _ hab => cases hab

/-- … and fail as soon as a part fails -/
theorem Sem.parts_fail_first {ctx p ps seen acc s e}
    (h : Sem env u (.expr ctx p) s (.err e)) :
    Sem env u (.parts ctx (p :: ps) seen acc) s noMatch :=
  .parts_abort h (.err e)

/-- ordered choice commits to the first alternative that matches: whatever the later alternatives
    would do, the outcome is the first one's (same cursor) -/
theorem Sem.alts_commit {ctx fields a as s p s₁} {r : Res Parsed}
    (ha : Sem env u (.expr ctx a) s (.ok p s₁))
    (h : Sem env u (.alts ctx fields (a :: as)) s r) :
    r = plumb (convertArm fields (ownFields env a) p) s₁ :=
  h.det (.alts_first ha)

/-- an alternative is tried exactly when every earlier one failed, from the same cursor -/
theorem Sem.alts_skip {ctx fields a as s e} {r : Res Parsed}
    (ha : Sem env u (.expr ctx a) s (.err e)) :
    Sem env u (.alts ctx fields (a :: as)) s r ↔ Sem env u (.alts ctx fields as) s r := by
  constructor
  · intro h
    cases h with
    | alts_first h' => cases ha.det h'
    | alts_next _ h' => exact h'
    | alts_panic h' => cases ha.det h'
  · exact fun h => .alts_next ha h

/-- optionals never fail -/
theorem Sem.opt_never_fails {ctx b s} {r : Res Parsed}
    (h : Sem env u (.expr ctx (.opt b)) s r) : ∀ e, r ≠ .err e := by
  intro e he
  cases h with
  | opt_some h => cases he
  | opt_none h => exact plumb_err he
  | opt_panic h => cases he

/-- lookaheads consume nothing (and bind nothing) -/
theorem Sem.neg_consumes_nothing {ctx b s p s'}
    (h : Sem env u (.expr ctx (.neg b)) s (.ok p s')) : s' = s ∧ p = [] := by
  cases h with
  | neg_ok h => exact ⟨rfl, rfl⟩

theorem Sem.pos_consumes_nothing {ctx b s p s'}
    (h : Sem env u (.expr ctx (.pos b)) s (.ok p s')) : s' = s ∧ p = [] := by
  cases h with
  | pos_ok h => exact ⟨rfl, rfl⟩
  | pos_abort _ hab => cases hab

/-- closures are greedy: the iteration ends only at a cursor where the body fails … -/
theorem Sem.loop_ends_where_body_fails {ctx b fields iters acc s k acc' s'}
    (h : Sem env u (.loop ctx b fields iters acc) s (.ok (k, acc') s')) :
    ∃ e, Sem env u (.expr ctx b) s' (.err e) := by
  let P : (j : Judg) → St → Res j.Out → Prop := fun j _ r =>
    match j, r with
    | .loop ctx b _ _ _, .ok _ s' => ∃ e, Sem env u (.expr ctx b) s' (.err e)
    | _, _ => True
  have key : ∀ {j s r}, Sem env u j s r → P j s r := by
    intro j s r h
    induction h with
    | loop_stop h => exact ⟨_, h⟩
    | @loop_step _ _ _ _ _ _ _ _ _ out _ _ _ _ ih => cases out <;> exact ih
    | _ => trivial
  exact key h

end Laws
/-! ## Examples: two derivations, and a rule without any -/

namespace RelExamples

/-- `A = 'a';` -/
def exGrammar : Grammar :=
  ⟨[.rule { directives := [.export], name := "A", definition := .choice [.seq [.lit false [.chr 'a']]] }]⟩
def exEnv : Env := { g := exGrammar, settings := {}, hooks := default, nf := 10 }

example : PureHooks exEnv.hooks ∧ NoLeftrec exEnv.g := by
  refine ⟨⟨fun _ _ _ => rfl, fun _ _ _ => rfl⟩, ?_⟩
  intro r hr
  simp only [exEnv, exGrammar, List.mem_singleton, RuleEntry.rule.injEq] at hr
  subst hr; rfl

example : Sem exEnv 0 (.rule "A") (St.new [97, 98])
    (.ok (.node "A" [] none) { rest := [98], off := 1, far := none }) := by
  refine Sem.rule_struct (r := { directives := [.export], name := "A", definition := .choice [.seq [.lit false [.chr 'a']]] })
    (fields := []) (p := []) (fs := []) (s' := { rest := [98], off := 1, far := none }) rfl rfl rfl ?_ rfl .checks_nil
  refine .choice_one (.seq_one ?_)
  exact Sem.lit (m := .charLit 'a') (s₁ := St.new [97, 98]) rfl (.ws_on (v := .unit) rfl (.builtin_ws rfl))

example : Sem exEnv 0 (.rule "A") (St.new [98]) noMatch := by
  refine Sem.rule_abort (r := { directives := [.export], name := "A", definition := .choice [.seq [.lit false [.chr 'a']]] })
    (fields := []) (res := noMatch) rfl rfl (by decide) ?_ (.err _)
  refine .choice_one (.seq_one ?_)
  exact Sem.lit (m := .charLit 'a') (s₁ := St.new [98]) rfl (.ws_on (v := .unit) rfl (.builtin_ws rfl))

/-- `@no_skip_ws A = A;` -/
def loopRule : Rule := { directives := [.noSkipWs], name := "A", definition := .choice [.seq [.field none false "A"]] }
def loopEnv : Env := { g := ⟨[.rule loopRule]⟩, settings := {}, hooks := default, nf := 10 }
def loopCtx : Ctx := { skipWs := false, ruleFields := [] }

theorem loop_none : ∀ n s,
    (Spec.eval loopEnv 0 n).rule "A" s = none ∧
    (Spec.eval loopEnv 0 n).expr loopCtx (.choice [.seq [.field none false "A"]]) s = none ∧
    (Spec.eval loopEnv 0 n).expr loopCtx (.seq [.field none false "A"]) s = none ∧
    (Spec.eval loopEnv 0 n).expr loopCtx (.field none false "A") s = none := by
  intro n
  induction n with
  | zero => intro s; exact ⟨rfl, rfl, rfl, rfl⟩
  | succ n ih =>
    intro s
    refine ⟨?_, (ih s).2.2.1, (ih s).2.2.2, ?_⟩
    · show Spec.ruleBody loopEnv 0 (Spec.eval loopEnv 0 n) loopRule s = none
      have hf : getFields loopEnv.g loopEnv.nf loopRule.definition = .ok [] := rfl
      rw [Spec.ruleBody_shape hf]
      show Spec.bindS ((Spec.eval loopEnv 0 n).expr loopCtx _ s) _ = none
      rw [show (Spec.eval loopEnv 0 n).expr loopCtx loopRule.definition s = none from (ih s).2.1]; rfl
    · show Spec.bindS ((Spec.eval loopEnv 0 n).rule "A" s) _ = none
      rw [(ih s).1]; rfl

/-- a left-recursive rule (without `@leftrec`) has no outcome at all: the PEG reading does not terminate -/
example (s : St) (r : Res Val) : ¬ Sem loopEnv 0 (.rule "A") s r := by
  intro h
  obtain ⟨n, hn⟩ := Spec.eval_complete_rule h
  rw [(loop_none n s).1] at hn
  cases hn
end RelExamples

end Peg
