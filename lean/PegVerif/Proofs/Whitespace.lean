import PegVerif.Spec
import PegVerif.Proofs.SpecMono
import PegVerif.Proofs.MapRules
import PegVerif.Proofs.Boundary
import PegVerif.Proofs.Matchers
import PegVerif.Proofs.SpecLemmas
import PegVerif.Proofs.Arity
/-
  Property C08 (whitespace skipping).

  "In a rule without `@no_skip_ws`, whitespace is skipped immediately before every literal, character range,
   `$`, and rule or field reference written in that rule's body, and at no other point; a `@no_skip_ws` rule
   skips nothing itself; rules it references keep their own setting."

  1. "at no other point": the non-token constructs never call `Whitespace` themselves and never look at
     `ctx.skipWs`: their result is a function of `rec.expr ctx` only.
  2. "before every token": skipping = an explicit `Whitespace` call in front of every token (`desugarE`,
     `desugarG`), at expression level and at grammar level.  The proof is a simulation in both directions
     between a skipping evaluation of `e` and a non-skipping evaluation of `desugarE e`; the desugared side
     needs twice the fuel (the token sits one level deeper, under the two-part sequence).
  3. the builtin skipper: never fails, maximal prefix of SPACE, TAB, LF, FF, CR.
  4. which `Whitespace` is called; the per-rule flag.

  Everything lives in `Peg.WS`; the `C08_*` theorems are exported to `Peg`.
  Hypotheses of the desugaring theorems and why each is needed: see `GoodE`, `UniqueNames` and section 6.
-/
namespace Peg
open Spec
namespace WS

/-! ## 0. vocabulary -/

/-- the constructs in front of which whitespace is skipped -/
def isToken : Expr → Bool
  | .lit _ _ => true
  | .range _ _ => true
  | .eoi => true
  | .field _ _ _ => true
  | _ => false

/-- an explicit, unnamed call of the rule `Whitespace` -/
def wsCall : Expr := .field none false "Whitespace"

mutual
/-- put an explicit `Whitespace` call in front of every token -/
def desugarE : Expr → Expr
  | .choice alts => .choice (desugarL alts)
  | .seq parts => .seq (desugarL parts)
  | .group b => .group (desugarE b)
  | .opt b => .opt (desugarE b)
  | .closure b p => .closure (desugarE b) p
  | .neg b => .neg (desugarE b)
  | .pos b => .pos (desugarE b)
  | .range lo hi => .seq [wsCall, .range lo hi]
  | .lit i b => .seq [wsCall, .lit i b]
  | .eoi => .seq [wsCall, .eoi]
  | .incl r => .incl r
  | .field nm bx t => .seq [wsCall, .field nm bx t]
def desugarL : List Expr → List Expr
  | [] => []
  | e :: es => desugarE e :: desugarL es
end

theorem desugarL_eq_map : ∀ l, desugarL l = l.map desugarE
  | [] => by simp [desugarL]
  | e :: es => by simp [desugarL, desugarL_eq_map es]

mutual
/-- no `>Rule` include anywhere in the expression -/
def noIncl : Expr → Bool
  | .choice alts => noInclL alts
  | .seq parts => noInclL parts
  | .group b => noIncl b
  | .opt b => noIncl b
  | .closure b _ => noIncl b
  | .neg b => noIncl b
  | .pos b => noIncl b
  | .incl _ => false
  | _ => true
def noInclL : List Expr → Bool
  | [] => true
  | e :: es => noIncl e && noInclL es
end

theorem noInclL_iff : ∀ {l}, noInclL l = true ↔ ∀ e ∈ l, noIncl e = true
  | [] => by simp [noInclL]
  | e :: es => by simp [noInclL, noInclL_iff (l := es)]

mutual
/-- nesting depth (number of AST levels) -/
def depthE : Expr → Nat
  | .choice alts => depthL alts + 1
  | .seq parts => depthL parts + 1
  | .group b => depthE b + 1
  | .opt b => depthE b + 1
  | .closure b _ => depthE b + 1
  | .neg b => depthE b + 1
  | .pos b => depthE b + 1
  | _ => 1
def depthL : List Expr → Nat
  | [] => 0
  | e :: es => max (depthE e) (depthL es)
end

theorem depthL_le : ∀ {l n}, depthL l ≤ n ↔ ∀ e ∈ l, depthE e ≤ n
  | [], n => by simp [depthL]
  | e :: es, n => by simp [depthL, Nat.max_le, depthL_le (l := es)]

/-- the literal / range can be compiled (the generator rejects the grammar otherwise: the model answers
    `panic "uncompilable: …"` *before* skipping whitespace) -/
def tokenCompiles : Expr → Bool
  | .range lo hi => (match lo.toChar, hi.toChar with | .ok _, .ok _ => true | _, _ => false)
  | .lit i b => (match compileLit i b with | .ok _ => true | _ => false)
  | _ => true

mutual
/-- every literal and range in the expression compiles -/
def compilable : Expr → Bool
  | .choice alts => compilableL alts
  | .seq parts => compilableL parts
  | .group b => compilable b
  | .opt b => compilable b
  | .closure b _ => compilable b
  | .neg b => compilable b
  | .pos b => compilable b
  | .range lo hi => tokenCompiles (.range lo hi)
  | .lit i b => tokenCompiles (.lit i b)
  | _ => true
def compilableL : List Expr → Bool
  | [] => true
  | e :: es => compilable e && compilableL es
end

theorem compilableL_iff : ∀ {l}, compilableL l = true ↔ ∀ e ∈ l, compilable e = true
  | [] => by simp [compilableL]
  | e :: es => by simp [compilableL, compilableL_iff (l := es)]

/-! ## 0'. the desugaring keeps the shape; the field analysis of a desugared expression -/

/-- a transformation that maps the non-token constructs homomorphically -/
structure Hom (f : Expr → Expr) : Prop where
  choice : ∀ l, f (.choice l) = .choice (l.map f)
  seq : ∀ l, f (.seq l) = .seq (l.map f)
  group : ∀ b, f (.group b) = .group (f b)
  opt : ∀ b, f (.opt b) = .opt (f b)
  closure : ∀ b p, f (.closure b p) = .closure (f b) p
  neg : ∀ b, f (.neg b) = .neg (f b)
  pos : ∀ b, f (.pos b) = .pos (f b)

theorem hom_id : Hom (fun e => e) := by constructor <;> simp

theorem hom_desugarE : Hom desugarE := by constructor <;> simp [desugarE, desugarL_eq_map]

def ds (b : Bool) (e : Expr) : Expr := if b then desugarE e else e

theorem hom_ds (b : Bool) : Hom (ds b) := by
  cases b
  · exact hom_id
  · exact hom_desugarE

theorem desugarE_token {t : Expr} (ht : isToken t = true) : desugarE t = .seq [wsCall, t] := by
  cases t <;> simp [isToken] at ht <;> simp [desugarE]

theorem token_depth {t : Expr} (ht : isToken t = true) : depthE t = 1 := by
  cases t <;> simp [isToken] at ht <;> simp [depthE]

/-- the parts of a construct -/
def children : Expr → List Expr
  | .choice l => l
  | .seq l => l
  | .group b => [b]
  | .opt b => [b]
  | .closure b _ => [b]
  | .neg b => [b]
  | .pos b => [b]
  | _ => []

/-- a homomorphic transformation keeps the head of a construct with parts and maps the parts -/
theorem Hom.shape {f : Expr → Expr} (H : Hom f) {e : Expr} (he : hasParts e = true) :
    Shape (fun x x' => x ∈ children e ∧ x' = f x) e (f e) := by
  cases e with
  | choice l =>
    rw [H.choice]
    simpa using Shape.choice_map (C := fun x x' => x ∈ children (.choice l) ∧ x' = f x) id f l fun a ha => ⟨ha, rfl⟩
  | seq l =>
    rw [H.seq]
    simpa using Shape.seq_map (C := fun x x' => x ∈ children (.seq l) ∧ x' = f x) id f l fun a ha => ⟨ha, rfl⟩
  | group x => rw [H.group]; exact .group ⟨List.mem_singleton.2 rfl, rfl⟩
  | opt x => rw [H.opt]; exact .opt ⟨List.mem_singleton.2 rfl, rfl⟩
  | closure x p => rw [H.closure]; exact .closure p ⟨List.mem_singleton.2 rfl, rfl⟩
  | neg x => rw [H.neg]; exact .neg ⟨List.mem_singleton.2 rfl, rfl⟩
  | pos x => rw [H.pos]; exact .pos ⟨List.mem_singleton.2 rfl, rfl⟩
  | _ => cases he

/-- the side conditions on an expression: include-free, its literals and ranges compile, and the `get_fields`
    fuel `nf` exceeds its depth (by one more than the model itself needs, because the desugared expression is
    one level deeper at the tokens) -/
def GoodE (nf : Nat) (e : Expr) : Prop := noIncl e = true ∧ compilable e = true ∧ depthE e < nf

/-- the parts of a good expression are good, one level down -/
theorem good_children {nf m : Nat} {e x : Expr} (h : GoodE nf e) (hx : x ∈ children e) (hm : nf ≤ m + 1) :
    GoodE m x := by
  obtain ⟨h1, h2, h3⟩ := h
  cases e with
  | choice l | seq l =>
    simp only [children] at hx
    simp only [noIncl, noInclL_iff] at h1
    simp only [compilable, compilableL_iff] at h2
    simp only [depthE] at h3
    have := depthL_le.1 (Nat.le_refl _) x hx
    exact ⟨h1 x hx, h2 x hx, by omega⟩
  | group b | opt b | closure b p | neg b | pos b =>
    simp only [children, List.mem_singleton] at hx; subst hx
    simp only [noIncl] at h1; simp only [compilable] at h2; simp only [depthE] at h3
    exact ⟨h1, h2, by omega⟩
  | _ => simp [children] at hx

theorem good_hasParts {nf : Nat} {e : Expr} (hg : GoodE nf e) (het : isToken e = false) : hasParts e = true := by
  cases e with
  | incl r => exact absurd hg.1 (by simp [noIncl])
  | range | lit | eoi | field => simp [isToken] at het
  | _ => rfl

/-- the fields of a construct with parts are computed from the fields of its parts, one level down -/
theorem getFields_shape {g g' : Grammar} {n : Nat} {C : Expr → Expr → Prop}
    (hC : ∀ x x', C x x' → getFields g' n x' = getFields g n x) {e e' : Expr} (hS : Shape C e e') :
    getFields g' (n + 1) e' = getFields g (n + 1) e := by
  cases hS with
  | choice_map f f' as h | seq_map f f' as h =>
    simp only [getFields, mapMCR_map, mapMCR_ext fun a ha => hC _ _ (h a ha)]
  | group h | opt h | closure p h | neg h | pos h => simp only [getFields, hC _ _ h]

/-- the fields of a token do not depend on the grammar, and the unnamed `Whitespace` reference in
    front of it contributes none -/
theorem getFields_token (g g' : Grammar) (k : Nat) {t : Expr} (ht : isToken t = true) :
    getFields g' (k+1) t = getFields g (k+1) t ∧
    getFields g' (k+2) (.seq [wsCall, t]) = getFields g (k+2) t := by
  cases t <;> simp [isToken] at ht
  case field nm _ _ => cases nm <;> exact ⟨rfl, rfl⟩
  all_goals exact ⟨rfl, rfl⟩

/-- desugared (the tokens are one level deeper, hence the depth below the fuel) or not, an include-free
    expression has the same fields, in any grammar -/
theorem getFields_ds (g g' : Grammar) (b : Bool) :
    ∀ {n : Nat} {e : Expr}, GoodE n e → getFields g' n (ds b e) = getFields g n e
  | 0, _, _ => rfl
  | n + 1, e, hg => by
    by_cases ht : isToken e = true
    · cases b
      · exact (getFields_token g g' n ht).1
      · have hd := hg.2.2
        rw [token_depth ht] at hd
        obtain ⟨k, rfl⟩ : ∃ k, n = k + 1 := ⟨n - 1, by omega⟩
        rw [show ds true e = .seq [wsCall, e] from desugarE_token ht]
        exact (getFields_token g g' k ht).2
    · exact getFields_shape
        (fun x _ hx => hx.2 ▸ getFields_ds g g' b (good_children hg hx.1 (Nat.le_refl _)))
        ((hom_ds b).shape (good_hasParts hg (by simpa using ht)))

theorem ownFields_ds {envA envB : Env} (hnf : envA.nf = envB.nf) (b : Bool) {e : Expr} (hg : GoodE envA.nf e) :
    ownFields envA e = ownFields envB (ds b e) := by
  unfold ownFields
  rw [← hnf, getFields_ds envA.g envB.g b hg]

/-! ## 1. only tokens skip -/

/-- **C08, "and at no other point".**  A construct that is not a literal, range, `$` or rule/field reference
    never calls `Whitespace` itself and never looks at `ctx.skipWs`: its result is a function of the
    sub-expression evaluator `rec.expr ctx` (and of `ctx.ruleFields`) only.  In particular it is unchanged when
    `rec.rule` (hence the rule `Whitespace`) is replaced by anything else, and when `ctx.skipWs` is flipped
    while the sub-expression evaluator is kept. -/
theorem C08_only_tokens {env : Env} {rec rec' : SRec} {n : Nat} {ctx ctx' : Ctx} {e : Expr}
    (he : isToken e = false) (hrf : ctx'.ruleFields = ctx.ruleFields)
    (hexpr : ∀ b s, rec'.expr ctx' b s = rec.expr ctx b s) (s : St) :
    Spec.stepExpr env rec' n ctx' e s = Spec.stepExpr env rec n ctx e s := by
  have hp : ∀ x, PartLe env env rec' rec ctx' ctx x x := fun x => ⟨rfl, fun s r h => hexpr x s ▸ h⟩
  have hp' : ∀ x, PartLe env env rec rec' ctx ctx' x x := fun x => ⟨rfl, fun s r h => (hexpr x s).symm ▸ h⟩
  cases e with
  | incl r => simp only [Spec.stepExpr, hexpr]
  | range | lit | eoi | field => simp [isToken] at he
  | _ =>
    exact eq_of_some_iff (fun _ => stepExpr_parts hrf (Nat.le_refl n) hp rfl)
      (fun _ => stepExpr_parts hrf.symm (Nat.le_refl n) hp' rfl)

/-- special case: same context, any other `rec.rule` -/
theorem C08_only_tokens_rule {env : Env} {rec rec' : SRec} {n : Nat} {ctx : Ctx} {e : Expr}
    (he : isToken e = false) (hexpr : rec'.expr = rec.expr) (s : St) :
    Spec.stepExpr env rec' n ctx e s = Spec.stepExpr env rec n ctx e s :=
  C08_only_tokens he rfl (fun b s => by rw [hexpr]) s

/-- special case: `ctx.skipWs` is not consulted -/
theorem C08_only_tokens_flag {env : Env} {rec : SRec} {n : Nat} {ctx : Ctx} {e : Expr} (b b' : Bool)
    (he : isToken e = false) (s : St) :
    Spec.stepExpr env { rec with expr := fun c => rec.expr { c with skipWs := b } } n { ctx with skipWs := b' } e s
      = Spec.stepExpr env rec n { ctx with skipWs := b } e s :=
  C08_only_tokens (rec := rec) (ctx := { ctx with skipWs := b }) (ctx' := { ctx with skipWs := b' })
    he rfl (fun _ _ => rfl) s

/-! ## 2a. the rule-level field list has pairwise distinct names -/

/-- pairwise distinct field names (what `get_fields` produces; needed because the generated sequence code binds
    every filtered rule field once) -/
def UniqueNames (fs : List FieldDesc) : Prop := (fs.map (·.name)).Nodup

/-- `get_fields` never produces two descriptors with the same name -/
theorem uniqueNames_getFields (g : Grammar) (n : Nat) (e : Expr) (fs : List FieldDesc)
    (h : getFields g n e = .ok fs) : UniqueNames fs := getFields_nodup h

/-! ## 2b. one token: `Whitespace` in front = the skipping token -/

theorem bindS_err {α β} {x : SOut α} {k : α → St → SOut β} {e}
    (h : bindS x k = some (.err e)) (hk : ∀ v s, k v s = some (.err e) → e = noErr) : e = noErr := by
  cases x with
  | none => cases h
  | some a =>
    cases a with
    | ok v s1 => exact hk _ _ h
    | err e' => cases h; rfl
    | panic m => cases h

/-- a token whose literal or range compiles is `withSkipWs` around a continuation `K` that does not see the flag; `K`
    fails without payload, and its value (nothing, or the one named field) passes unchanged through the plumbing of a
    sequence whose own fields are the token's -/
theorem token_form {env : Env} {rec : SRec} {n : Nat} {rf : List FieldDesc} {t : Expr}
    (ht : isToken t = true) (hc : compilable t = true) (hu : UniqueNames rf) (hnf : 1 ≤ env.nf) :
    ∃ K : St → SOut Parsed,
      (∀ b s, Spec.stepExpr env rec n ⟨b, rf⟩ t s = Spec.withSkipWs rec ⟨b, rf⟩ s K) ∧
      (∀ s e, K s = some (.err e) → e = noErr) ∧
      ∀ s r s', K s = some (.ok r s') →
        ∃ seen acc, mergePart (filterRuleFields rf (ownFields env t)) [] [] r = .ok (seen, acc) ∧
          project (filterRuleFields rf (ownFields env t)) acc = .ok r := by
  obtain ⟨k, hnfk⟩ : ∃ k, env.nf = k + 1 := ⟨env.nf - 1, by omega⟩
  have hnil : getFields env.g (k + 1) t = .ok [] →
      ∃ seen acc, mergePart (filterRuleFields rf (ownFields env t)) [] [] [] = .ok (seen, acc) ∧
        project (filterRuleFields rf (ownFields env t)) acc = .ok [] := by
    intro h
    unfold ownFields
    rw [hnfk, h, filterRuleFields_nil]
    exact ⟨[], [], rfl, rfl⟩
  match hterm : terminalOf t with
  | some (.ok m) =>
    refine ⟨fun s => some (abs (m s)), fun b s => Spec.stepExpr_terminal hterm s,
      fun s e h => (abs_err (Option.some.inj h)).1, fun s r s' h => ?_⟩
    obtain ⟨s0, hm, _⟩ := abs_ok (Option.some.inj h)
    rw [terminal_val hterm hm]
    refine hnil ?_
    cases t <;> first | rfl | cases hterm
  | some (.error msg) =>
    -- `compilable` says that the terminal has a matcher
    cases t <;> simp only [terminalOf, compilable, tokenCompiles, Option.some.injEq, reduceCtorEq] at hterm hc
    all_goals split at hc <;> simp_all
  | none =>
    cases t <;> simp [isToken] at ht <;> simp [terminalOf] at hterm
    rename_i nm bx typ
    refine ⟨fun s => Spec.stepExpr env rec n ⟨false, rf⟩ (.field nm bx typ) s, fun b s => rfl, fun s e h => ?_,
      fun s r s' h => ?_⟩
    · simp only [Spec.stepExpr, Spec.withSkipWs, Bool.false_eq_true, if_false] at h
      refine bindS_err h fun v s1 hk => ?_
      cases nm with
      | none => cases hk
      | some nm =>
        simp only at hk
        split at hk <;> cases hk
    · simp only [Spec.stepExpr, Spec.withSkipWs, Bool.false_eq_true, if_false] at h
      obtain ⟨v, s1, _, hk⟩ := bindS_ok h
      cases nm with
      | none =>
        simp only [Option.some.injEq, Res.ok.injEq] at hk
        rw [← hk.1]
        exact hnil rfl
      | some nm =>
        simp only at hk
        split at hk
        · rename_i fv hpp
          simp only [Option.some.injEq, Res.ok.injEq] at hk
          obtain ⟨f, hf⟩ : ∃ f, findField rf nm.key = some f := by
            unfold postprocessField at hpp
            split at hpp
            · cases hpp
            · exact ⟨_, ‹_›⟩
          have h2 : f.name = nm.key := by simpa using List.find?_some hf
          have hown : ownFields env (.field (some nm) bx typ) =
              [{ name := nm.key, types := [(typ, bx)], arity := .one }] := by
            unfold ownFields; rw [hnfk]; rfl
          rw [hown, filterRuleFields_singleton hu (List.mem_of_find?_eq_some hf) h2.symm, ← hk.1]
          refine ⟨[f.name], [(f.name, fv)], ?_, ?_⟩
          · simp [mergePart, Parsed.get, Parsed.set, h2]
          · simp [project, Parsed.get, h2]
        · simp at hk

/-- **the token case of the desugaring**: one level above `rec`, the two-part sequence `Whitespace t` evaluated
    without skipping is the token `t` evaluated with skipping -/
theorem token_wrap {env : Env} {rec R : SRec} {n m : Nat} {rf : List FieldDesc} {t : Expr} {s : St}
    (hR : ∀ ctx e s, R.expr ctx e s = Spec.stepExpr env rec n ctx e s)
    (ht : isToken t = true) (hg : GoodE env.nf t) (hu : UniqueNames rf) :
    Spec.stepExpr env R m ⟨false, rf⟩ (.seq [wsCall, t]) s = Spec.stepExpr env rec n ⟨true, rf⟩ t s := by
  have hnf : 2 ≤ env.nf := by have := hg.2.2; rw [token_depth ht] at this; omega
  obtain ⟨K, hK, hKe, hKv⟩ := token_form (env := env) (rec := rec) (n := n) ht hg.2.1 hu (by omega)
  have hws : R.expr ⟨false, rf⟩ wsCall s = bindS (rec.rule "Whitespace" s) (fun _ s' => some (.ok [] s')) := by
    rw [hR]; simp only [wsCall, Spec.stepExpr, Spec.withSkipWs, Bool.false_eq_true, if_false]
  have hown : ownFields env wsCall = [] := by
    unfold ownFields
    obtain ⟨k, hk⟩ : ∃ k, env.nf = k + 1 := ⟨env.nf - 1, by omega⟩
    rw [hk]; rfl
  have hRt : ∀ s', R.expr ⟨false, rf⟩ t s' = K s' := fun s' => by rw [hR, hK]; rfl
  have hwrap : ownFields env (.seq [wsCall, t]) = ownFields env t := by
    rw [← desugarE_token ht]; exact (ownFields_ds rfl true hg).symm
  rw [hK]
  clear hK hR
  simp only [Spec.stepExpr, Spec.evalSeq, Spec.withSkipWs, if_true, hws, hown, filterRuleFields_nil, hRt, hwrap]
  cases hw : rec.rule "Whitespace" s with
  | none => rfl
  | some a =>
    cases a with
    | err e => rfl
    | panic msg => rfl
    | ok v s1 =>
      simp only [bindS, mergePart]
      cases hk : K s1 with
      | none => rfl
      | some a =>
        cases a with
        | err e => rw [hKe _ _ hk]
        | panic msg => rfl
        | ok r s2 =>
          obtain ⟨seen, acc, h1, h2⟩ := hKv _ _ _ hk
          simp only [h1, h2]

/-- a token only talks to `rec.rule` -/
theorem token_transfer {envA envB : Env} {recA recB : SRec} {nA nB : Nat} {ctx : Ctx} {t : Expr} {s : St} {r}
    (ht : isToken t = true) (hR : LeR recA.rule recB.rule)
    (h : Spec.stepExpr envA recA nA ctx t s = some r) : Spec.stepExpr envB recB nB ctx t s = some r := by
  have ht' : hasParts t = false ∧ ∀ name, t ≠ .incl name := by cases t <;> simp [isToken] at ht <;> simp [hasParts]
  exact stepExpr_leaf hR ht'.1 ht'.2 h

/-! ## 2c. one step of the simulation, both directions -/

/-- forward simulation of expressions: skipping (`b = true`) evaluation of `e` is matched by the non-skipping
    evaluation of the desugared `e`; non-skipping (`b = false`) evaluation of `e` by itself -/
def FwdE (nf : Nat) (exA exB : Ctx → Expr → St → SOut Parsed) : Prop :=
  ∀ b rf e s r, GoodE nf e → UniqueNames rf → exA ⟨b, rf⟩ e s = some r → exB ⟨false, rf⟩ (ds b e) s = some r

def RevE (nf : Nat) (exB exA : Ctx → Expr → St → SOut Parsed) : Prop :=
  ∀ b rf e s r, GoodE nf e → UniqueNames rf → exB ⟨false, rf⟩ (ds b e) s = some r → exA ⟨b, rf⟩ e s = some r

theorem fwd_step {envA envB : Env} {recA recB recB' : SRec} {nA nB nB' : Nat}
    (hnf : envA.nf = envB.nf)
    (hE : FwdE envA.nf recA.expr recB.expr) (hR : LeR recA.rule recB.rule)
    (hB' : ∀ ctx e s, recB'.expr ctx e s = Spec.stepExpr envB recB nB ctx e s)
    (hBle : Le recB recB') (hn : nA ≤ nB') :
    FwdE envA.nf (Spec.stepExpr envA recA nA) (Spec.stepExpr envB recB' nB') := by
  intro b rf e s r hg hu h
  by_cases het : isToken e = true
  · cases b
    · simp only [ds, Bool.false_eq_true, if_false]
      exact token_transfer het (fun n s r h => hBle.rule _ _ _ (hR _ _ _ h)) h
    · simp only [ds, if_true]
      rw [desugarE_token het, token_wrap hB' het (hnf ▸ hg) hu]
      exact token_transfer het hR h
  · have het' : isToken e = false := by simpa using het
    refine stepExpr_shape (ctxA := ⟨b, rf⟩) (ctxB := ⟨false, rf⟩) rfl hn ?_
      ((hom_ds b).shape (good_hasParts hg het')) (ownFields_ds hnf b hg) h
    rintro x _ ⟨hx, rfl⟩
    have hgx := good_children hg hx (Nat.le_succ _)
    exact ⟨ownFields_ds hnf b hgx, fun s r h => hBle.expr _ _ _ _ (hE b rf x s r hgx hu h)⟩

theorem rev_step {envA envB : Env} {recA recB recB' : SRec} {m : Nat}
    (hnf : envA.nf = envB.nf)
    (hE : RevE envA.nf recB.expr recA.expr) (hR : LeR recB.rule recA.rule)
    (hB' : ∀ ctx e s, recB'.expr ctx e s = Spec.stepExpr envB recB m ctx e s) (hBle : Le recB recB') :
    RevE envA.nf (Spec.stepExpr envB recB m) (Spec.stepExpr envA recA m) := by
  intro b rf e s r hg hu h
  by_cases het : isToken e = true
  · cases b
    · simp only [ds, Bool.false_eq_true, if_false] at h
      exact token_transfer het hR h
    · simp only [ds, if_true] at h
      -- one level up the parts of the sequence are evaluated by a step, which `token_wrap` reads
      have h' := Spec.stepExpr_le hBle (Nat.le_refl m) _ _ _ _ h
      rw [desugarE_token het, token_wrap hB' het (hnf ▸ hg) hu] at h'
      exact token_transfer het hR h'
  · have het' : isToken e = false := by simpa using het
    refine stepExpr_shape (ctxA := ⟨false, rf⟩) (ctxB := ⟨b, rf⟩) rfl (Nat.le_refl _) ?_
      ((hom_ds b).shape (good_hasParts hg het')).flip (ownFields_ds hnf b hg).symm h
    rintro _ x ⟨hx, rfl⟩
    have hgx := good_children hg hx (Nat.le_succ _)
    exact ⟨(ownFields_ds hnf b hgx).symm, fun s r h => hE b rf x s r hgx hu h⟩

/-! ## 2d. induction on fuel, for a family of evaluators (`ExprChain`), abstract in the simulation of rules -/

theorem fwd_main {envA envB : Env} {ι : Type} {evA evB : Nat → ι → SRec} (hA : ExprChain envA evA)
    (hB : ExprChain envB evB) (hnf : envA.nf = envB.nf)
    (hstepR : ∀ n, (∀ i, FwdE envA.nf (evA n i).expr (evB (2*n) i).expr) →
      (∀ i, LeR (evA n i).rule (evB (2*n) i).rule) → ∀ i, LeR (evA (n+1) i).rule (evB (2*n+1) i).rule) :
    ∀ n i, FwdE envA.nf (evA n i).expr (evB (2*n) i).expr ∧ LeR (evA n i).rule (evB (2*n) i).rule := by
  intro n
  induction n with
  | zero =>
    intro i
    refine ⟨fun _ _ _ _ _ _ _ h => ?_, fun _ _ _ h => ?_⟩
    · rw [hA.zero] at h; cases h
    · rw [hA.zeroR] at h; cases h
  | succ n ih =>
    intro i
    constructor
    · intro b rf e s r hg hu h
      rw [hA.succ] at h
      rw [show 2 * (n + 1) = (2 * n + 1) + 1 by omega, hB.succ]
      exact fwd_step (recB := evB (2*n) i) (nB := 2*n) hnf (ih i).1 (ih i).2 (hB.succ _ i) (hB.le _ i)
        (by omega) b rf e s r hg hu h
    · intro name s r h
      exact (hB.le (2*n+1) i).rule _ _ _ (hstepR n (fun i => (ih i).1) (fun i => (ih i).2) i _ _ _ h)

theorem rev_main {envA envB : Env} {ι : Type} {evA evB : Nat → ι → SRec} (hA : ExprChain envA evA)
    (hB : ExprChain envB evB) (hnf : envA.nf = envB.nf)
    (hstepR : ∀ m, (∀ i, RevE envA.nf (evB m i).expr (evA m i).expr) →
      (∀ i, LeR (evB m i).rule (evA m i).rule) → ∀ i, LeR (evB (m+1) i).rule (evA (m+1) i).rule) :
    ∀ m i, RevE envA.nf (evB m i).expr (evA m i).expr ∧ LeR (evB m i).rule (evA m i).rule := by
  intro m
  induction m with
  | zero =>
    intro i
    refine ⟨fun _ _ _ _ _ _ _ h => ?_, fun _ _ _ h => ?_⟩
    · rw [hB.zero] at h; cases h
    · rw [hB.zeroR] at h; cases h
  | succ m ih =>
    intro i
    refine ⟨?_, hstepR m (fun i => (ih i).1) (fun i => (ih i).2) i⟩
    intro b rf e s r hg hu h
    rw [hB.succ] at h
    rw [hA.succ]
    exact rev_step (recB := evB m i) hnf (ih i).1 (ih i).2 (hB.succ m i) (hB.le m i) b rf e s r hg hu h

/-- evaluating `e` with skipping and `desugarE e` without give the same answers up to fuel, in every family of
    evaluators -/
theorem desugar_expr_chain {env : Env} {ι : Type} {ev : Nat → ι → SRec} (hc : ExprChain env ev) (i : ι) (e : Expr)
    (ctx : Ctx) (s : St) (r : Res Parsed) (hg : GoodE env.nf e) (hu : UniqueNames ctx.ruleFields) :
    (∃ n, (ev n i).expr { ctx with skipWs := true } e s = some r) ↔
    (∃ m, (ev m i).expr { ctx with skipWs := false } (desugarE e) s = some r) := by
  constructor
  · rintro ⟨n, h⟩
    exact ⟨2 * n, (fwd_main hc hc rfl (fun n _ _ i => (hc.mono (by omega) i).rule) n i).1
      true ctx.ruleFields e s r hg hu h⟩
  · rintro ⟨m, h⟩
    exact ⟨m, (rev_main hc hc rfl (fun m _ _ i _ _ _ h => h) m i).1 true ctx.ruleFields e s r hg hu h⟩

/-- **C08, expression level.**  For an include-free expression `e` whose literals compile, a rule-field list with
    distinct names and enough `get_fields` fuel (`GoodE env.nf e`): evaluating `e` *with* whitespace skipping and
    evaluating `desugarE e` (an explicit `Whitespace` call in front of every literal, range, `$`, rule/field
    reference) *without* skipping give the same answers (ok with the same value and position, failure, or the same
    panic), up to fuel. -/
theorem C08_desugar_expr (env : Env) (u : Nat) (e : Expr) (ctx : Ctx) (s : St) (r : Res Parsed)
    (hg : GoodE env.nf e) (hu : UniqueNames ctx.ruleFields) :
    (∃ n, (Spec.eval env u n).expr { ctx with skipWs := true } e s = some r) ↔
    (∃ m, (Spec.eval env u m).expr { ctx with skipWs := false } (desugarE e) s = some r) :=
  desugar_expr_chain (Spec.exprChain env u) () e ctx s r hg hu

/-! ## 2e. grammar level -/

/-- a skipping rule becomes `@no_skip_ws` with a desugared body; a `@no_skip_ws` rule is kept -/
def desugarR (r : Rule) : Rule :=
  if r.flags.noSkipWs then r
  else { directives := r.directives ++ [.noSkipWs], name := r.name, definition := desugarE r.definition }

def desugarEntry : RuleEntry → RuleEntry
  | .rule r => .rule (desugarR r)
  | x => x

/-- every normal rule is `@no_skip_ws` afterwards; char rules and extern rules are untouched -/
def desugarG (g : Grammar) : Grammar := ⟨g.rules.map desugarEntry⟩

/-- the same parser environment over the desugared grammar -/
def desugarEnv (env : Env) : Env := { env with g := desugarG env.g }

/-- side conditions on a grammar: every normal rule's body is `GoodE` -/
def GoodG (nf : Nat) (g : Grammar) : Prop := ∀ r, RuleEntry.rule r ∈ g.rules → GoodE nf r.definition

theorem desugarR_name (r : Rule) : (desugarR r).name = r.name := by
  unfold desugarR; split <;> rfl

theorem desugarR_flags (r : Rule) : (desugarR r).flags = { r.flags with noSkipWs := true } := by
  unfold desugarR
  split
  · rename_i h
    cases hr : r.flags; simp only [hr] at h; simp [h]
  · simp [Rule.flags, List.foldl_append, RuleFlags.add]

theorem desugarR_checks (r : Rule) : (desugarR r).checks = r.checks := by
  unfold desugarR
  split
  · rfl
  · simp [Rule.checks, List.filterMap_append]

theorem desugarR_def (r : Rule) : (desugarR r).definition = ds (!r.flags.noSkipWs) r.definition := by
  unfold desugarR ds
  split
  · rename_i h; simp [h]
  · rename_i h; simp [h]

/-- `desugarG` is the rule-wise edit `Grammar.mapRules desugarR` -/
theorem find_desugarG (g : Grammar) (n : String) : (desugarG g).find n = (g.find n).map desugarEntry :=
  Grammar.find_mapRules desugarR_name g n

/-- the wrapper of the desugared rule is the wrapper of the rule itself over the body evaluator seen through the
    desugaring: asked for the body with the rule's flag, it evaluates the desugared body without skipping -/
theorem ruleBody_desugar {env : Env} {u : Nat} {rec : SRec} {r0 : Rule}
    (hskip : env.settings.skipWhitespace = true) (hg : GoodE env.nf r0.definition) (s : St) :
    Spec.ruleBody (desugarEnv env) u rec (desugarR r0) s =
      Spec.ruleBody env u ⟨fun ctx e => rec.expr ⟨false, ctx.ruleFields⟩ (ds ctx.skipWs e), rec.rule⟩ r0 s := by
  have hrc := runChecks_hooks (envA := env) (envB := { env with g := desugarG env.g }) rfl u
  unfold Spec.ruleBody
  simp only [desugarR_def, desugarR_flags, desugarR_name, desugarR_checks, desugarEnv,
    getFields_ds env.g (desugarG env.g) (!r0.flags.noSkipWs) hg, hrc, hskip, Bool.not_true, Bool.and_false, Bool.true_and]

theorem stepRule_fwd {env : Env} {u : Nat} {recA recB : SRec}
    (hskip : env.settings.skipWhitespace = true) (hG : GoodG env.nf env.g)
    (hE : FwdE env.nf recA.expr recB.expr) (hR : LeR recA.rule recB.rule) :
    LeR (Spec.stepRule env u recA) (Spec.stepRule (desugarEnv env) u recB) := by
  intro name s r h
  unfold Spec.stepRule at h ⊢
  rw [show (desugarEnv env).g.find name = _ from find_desugarG _ _]
  cases hfind : env.g.find name with
  | none => simp only [hfind, Option.map] at h ⊢; exact h
  | some entry =>
    simp only [hfind, Option.map, desugarEntry] at h ⊢
    cases entry with
    | rule r0 =>
      have hg := hG r0 (List.mem_of_find?_eq_some hfind)
      exact (ruleBody_desugar hskip hg s).trans (ruleBody_sim
        (fun fields hf s r h => hE _ fields _ s r hg (uniqueNames_getFields _ _ _ _ hf) h) h)
    | charRule cr => exact charRule_sim (envA := env) (envB := desugarEnv env) rfl hR h
    | externRule er => exact h

theorem stepRule_rev {env : Env} {u : Nat} {recA recB : SRec}
    (hskip : env.settings.skipWhitespace = true) (hG : GoodG env.nf env.g)
    (hE : RevE env.nf recB.expr recA.expr) (hR : LeR recB.rule recA.rule) :
    LeR (Spec.stepRule (desugarEnv env) u recB) (Spec.stepRule env u recA) := by
  intro name s r h
  unfold Spec.stepRule at h ⊢
  rw [show (desugarEnv env).g.find name = _ from find_desugarG _ _] at h
  cases hfind : env.g.find name with
  | none => simp only [hfind, Option.map] at h ⊢; exact h
  | some entry =>
    simp only [hfind, Option.map, desugarEntry] at h ⊢
    cases entry with
    | rule r0 =>
      have hg := hG r0 (List.mem_of_find?_eq_some hfind)
      exact ruleBody_sim (fun fields hf s r h => hE _ fields _ s r hg (uniqueNames_getFields _ _ _ _ hf) h)
        ((ruleBody_desugar hskip hg s).symm.trans h)
    | charRule cr => exact charRule_sim (envA := desugarEnv env) (envB := env) rfl hR h
    | externRule er => exact h

/-- **C08, grammar level.**  `desugarG` marks every skipping rule `@no_skip_ws` and writes the `Whitespace` calls
    explicitly; the reference parser of the desugared grammar answers exactly as the original (same value,
    failure, or panic), for every rule and every input, up to fuel.
    Hypotheses: global skipping is on (`desugarR` goes by the rule's own flag alone: with the global setting off the
    original skips nothing, yet a rule without `@no_skip_ws` still gets its `Whitespace` calls written out, and the
    two grammars differ – `A = 'a'` on `" a"` fails in the original and succeeds in the desugared grammar);
    every normal rule's body is include-free, compiles, and is shallower than the `get_fields` fuel. -/
theorem C08_desugar_grammar (env : Env) (u : Nat) (rule : String) (inp : List UInt8) (r : Res Val)
    (hskip : env.settings.skipWhitespace = true) (hG : GoodG env.nf env.g) :
    (∃ n, Spec.parse env u n rule inp = some r) ↔ (∃ m, Spec.parse (desugarEnv env) u m rule inp = some r) := by
  unfold Spec.parse
  constructor
  · rintro ⟨n, h⟩
    exact ⟨2 * n, (fwd_main (Spec.exprChain env u) (Spec.exprChain (desugarEnv env) u) rfl
      (fun n h1 h2 _ => stepRule_fwd hskip hG (h1 ()) (h2 ())) n ()).2 _ _ _ h⟩
  · rintro ⟨m, h⟩
    exact ⟨m, (rev_main (Spec.exprChain env u) (Spec.exprChain (desugarEnv env) u) rfl
      (fun m h1 h2 _ => stepRule_rev hskip hG (h1 ()) (h2 ())) m ()).2 _ _ _ h⟩

/-- after `desugarG`, every normal rule is `@no_skip_ws` -/
theorem desugarG_all_noSkipWs (g : Grammar) (r : Rule) (h : RuleEntry.rule r ∈ (desugarG g).rules) :
    r.flags.noSkipWs = true := by
  simp only [desugarG, List.mem_map] at h
  obtain ⟨x, _, hx⟩ := h
  cases x with
  | rule r0 => simp only [desugarEntry, RuleEntry.rule.injEq] at hx; subst hx; rw [desugarR_flags]
  | charRule c => simp [desugarEntry] at hx
  | externRule c => simp [desugarEntry] at hx

/-! ## 3. the builtin skipper -/

theorem drop_wsPrefixLen (bs : List UInt8) : bs.drop (wsPrefixLen bs) = bs.dropWhile isAsciiWhitespace := by
  have h := List.drop_left (l₁ := bs.takeWhile isAsciiWhitespace) (l₂ := bs.dropWhile isAsciiWhitespace)
  rwa [List.takeWhile_append_dropWhile, ← wsPrefixLen_eq] at h

theorem take_wsPrefixLen (bs : List UInt8) : bs.take (wsPrefixLen bs) = bs.takeWhile isAsciiWhitespace := by
  have h := List.take_left (l₁ := bs.takeWhile isAsciiWhitespace) (l₂ := bs.dropWhile isAsciiWhitespace)
  rwa [List.takeWhile_append_dropWhile, ← wsPrefixLen_eq] at h

theorem isAsciiWhitespace_iff (b : UInt8) :
    isAsciiWhitespace b = true ↔ b = 0x20 ∨ b = 0x09 ∨ b = 0x0A ∨ b = 0x0C ∨ b = 0x0D := by
  simp [isAsciiWhitespace, or_assoc]

/-- the five characters SPACE, TAB, LF, FF, CR -/
theorem isWsChar_iff (c : Char) :
    isWsChar c = true ↔ c = ' ' ∨ c = '\t' ∨ c = '\n' ∨ c = '\x0c' ∨ c = '\r' := by
  simp [isWsChar, or_assoc]

/-- **C08, builtin skipper (bytes).**  It never fails and consumes exactly the maximal prefix of the remaining
    bytes made of 0x20, 0x09, 0x0A, 0x0C, 0x0D: the skipped bytes are `takeWhile`, the rest is `dropWhile`
    (so the next byte, if any, is not one of the five). -/
theorem C08_builtin (s : St) :
    parseWhitespace s = .ok () { s with rest := s.rest.dropWhile isAsciiWhitespace,
                                        off := s.off + (s.rest.takeWhile isAsciiWhitespace).length } := by
  unfold parseWhitespace
  simp only [wsPrefixLen_eq, ← drop_wsPrefixLen]

theorem C08_builtin_wsPrefixLen (s : St) :
    parseWhitespace s = .ok () { s with rest := s.rest.drop (wsPrefixLen s.rest), off := s.off + wsPrefixLen s.rest } ∧
    wsPrefixLen s.rest = (s.rest.takeWhile isAsciiWhitespace).length ∧
    (∀ b ∈ s.rest.take (wsPrefixLen s.rest), isAsciiWhitespace b = true) ∧
    (∀ b, (s.rest.drop (wsPrefixLen s.rest)).head? = some b → isAsciiWhitespace b = false) := by
  refine ⟨rfl, wsPrefixLen_eq _, ?_, ?_⟩
  · intro b hb
    rw [take_wsPrefixLen] at hb
    exact List.all_eq_true.1 List.all_takeWhile b hb
  · intro b hb
    rw [drop_wsPrefixLen] at hb
    have := List.head?_dropWhile_not isAsciiWhitespace s.rest
    rw [hb] at this
    simpa using this

/-- **C08, builtin skipper (characters).**  On a text (`rest = enc rem`) the skipper consumes exactly the maximal
    prefix of `rem` made of the five characters SPACE, TAB, LF, FF, CR, and never fails. -/
theorem C08_builtin_chars {s : St} {rem : List Char} (h : s.rest = enc rem) :
    parseWhitespace s = .ok () { s with rest := enc (rem.dropWhile isWsChar),
                                        off := s.off + (enc (rem.takeWhile isWsChar)).length } ∧
    wsPrefixLen s.rest = (enc (rem.takeWhile isWsChar)).length :=
  ⟨parseWhitespace_enc h, by rw [h, wsPrefixLen_enc]⟩

/-- U+000B (VT), U+00A0 (NBSP), U+2003 (EM SPACE) are not skipped; the five are -/
theorem C08_builtin_examples :
    isWsChar '\x0b' = false ∧ isWsChar '\u00a0' = false ∧ isWsChar '\u2003' = false ∧
    isWsChar ' ' = true ∧ isWsChar '\t' = true ∧ isWsChar '\n' = true ∧ isWsChar '\x0c' = true ∧
    isWsChar '\r' = true := isWsChar_examples

/-- e.g. on "\u{b} x" nothing is skipped, on " \t\u{a0}x" exactly two bytes are -/
example : wsPrefixLen (enc ['\x0b', ' ', 'x']) = 0 ∧ wsPrefixLen (enc [' ', '\t', '\u00a0', 'x']) = 2 := by
  rw [wsPrefixLen_enc, wsPrefixLen_enc]; decide

/-! ## 4. which `Whitespace` is called; the per-rule flag -/

/-- `Grammar.find` is the first entry with that name -/
theorem find_first (g : Grammar) (name : String) (pre post : List RuleEntry) (x : RuleEntry)
    (hg : g.rules = pre ++ x :: post) (hx : x.name = name) (hpre : ∀ y ∈ pre, y.name ≠ name) :
    g.find name = some x := by
  unfold Grammar.find
  rw [hg, List.find?_append]
  have : pre.find? (fun r => r.name == name) = none := by
    rw [List.find?_eq_none]; intro y hy; simpa using hpre y hy
  simp [this, hx]

/-- **C08, user-defined skipper.**  When the grammar defines an entry named `Whitespace`, the `Whitespace` called
    in front of tokens is that entry (normal rule, char rule or extern rule) and the builtin is not used. -/
theorem C08_custom_rule {env : Env} {u : Nat} {rec : SRec} {r : Rule} (s : St)
    (h : env.g.find "Whitespace" = some (.rule r)) :
    Spec.stepRule env u rec "Whitespace" s = Spec.ruleBody env u rec r s := by
  simp only [Spec.stepRule, h]

theorem C08_custom_charRule {env : Env} {u : Nat} {rec : SRec} {r : CharRule} (s : St)
    (h : env.g.find "Whitespace" = some (.charRule r)) :
    Spec.stepRule env u rec "Whitespace" s = Spec.charRule env rec r s := by
  simp only [Spec.stepRule, h]

theorem C08_custom_externRule {env : Env} {u : Nat} {rec : SRec} {r : ExternRule} (s : St)
    (h : env.g.find "Whitespace" = some (.externRule r)) :
    Spec.stepRule env u rec "Whitespace" s = Spec.externRule env u r s := by
  simp only [Spec.stepRule, h]

/-- when the grammar defines no `Whitespace`, it is the builtin: never fails, skips the maximal prefix of the
    five ASCII whitespace bytes -/
theorem C08_custom_none {env : Env} {u : Nat} {rec : SRec} (s : St)
    (h : env.g.find "Whitespace" = none) :
    Spec.stepRule env u rec "Whitespace" s =
      some (.ok .unit ⟨s.rest.dropWhile isAsciiWhitespace, s.off + (s.rest.takeWhile isAsciiWhitespace).length, none⟩) := by
  simp only [Spec.stepRule, h]
  rw [if_neg (by decide), if_pos (by decide), C08_builtin]
  rfl

/-- skipping off: the token is evaluated in place -/
theorem C08_withSkipWs_false {α} (rec : SRec) (ctx : Ctx) (s : St) (k : St → SOut α) :
    Spec.withSkipWs rec { ctx with skipWs := false } s k = k s := by
  simp [Spec.withSkipWs]

/-- skipping on: `Whitespace` is called at the token's position, the token continues where it stopped; a failure,
    panic or divergence of `Whitespace` is the token's -/
theorem C08_withSkipWs_true {α} (rec : SRec) (ctx : Ctx) (s : St) (k : St → SOut α) :
    Spec.withSkipWs rec { ctx with skipWs := true } s k = bindS (rec.rule "Whitespace" s) (fun _ s' => k s') := by
  simp [Spec.withSkipWs]

/-- the only context a rule wrapper hands to its body is `skipWs := global && !@no_skip_ws` -/
theorem C08_ruleBody_ctx (env : Env) (u : Nat) (rec : SRec) (r : Rule) (s : St) :
    Spec.ruleBody env u rec r s =
      Spec.ruleBody env u
        { rec with expr := fun ctx => rec.expr { ctx with skipWs := env.settings.skipWhitespace && !r.flags.noSkipWs } }
        r s := by
  unfold Spec.ruleBody
  split <;> rfl

/-- **C08, `@no_skip_ws`.**  A `@no_skip_ws` rule evaluates its body with `skipWs = false`, whatever the global
    setting -/
theorem C08_no_skip_ws (env : Env) (u : Nat) (rec : SRec) (r : Rule) (s : St) (h : r.flags.noSkipWs = true) :
    Spec.ruleBody env u rec r s =
      Spec.ruleBody env u { rec with expr := fun ctx => rec.expr { ctx with skipWs := false } } r s := by
  rw [C08_ruleBody_ctx]; simp [h]

/-- … and its result does not depend on the global setting -/
theorem C08_no_skip_ws_global (env : Env) (u : Nat) (rec : SRec) (r : Rule) (s : St) (b : Bool)
    (h : r.flags.noSkipWs = true) :
    Spec.ruleBody { env with settings := { env.settings with skipWhitespace := b } } u rec r s =
      Spec.ruleBody env u rec r s := by
  have hrc := runChecks_hooks (envA := env)
    (envB := { env with settings := { env.settings with skipWhitespace := b } }) rfl u
  unfold Spec.ruleBody
  simp only [h, hrc, Bool.not_true, Bool.and_false]

/-- a rule without `@no_skip_ws` under the (default) global setting evaluates its body with `skipWs = true` -/
theorem C08_skip_ws (env : Env) (u : Nat) (rec : SRec) (r : Rule) (s : St)
    (hg : env.settings.skipWhitespace = true) (h : r.flags.noSkipWs = false) :
    Spec.ruleBody env u rec r s =
      Spec.ruleBody env u { rec with expr := fun ctx => rec.expr { ctx with skipWs := true } } r s := by
  rw [C08_ruleBody_ctx]; simp [h, hg]

/-- **C08, "rules it references keep their own setting".**  A rule/field reference hands no context to the callee
    (`rec.rule : String → St → _`): apart from the `Whitespace` call in front, the reference does not depend on the
    caller's `skipWs`; and the callee, being evaluated by `stepRule` → `ruleBody`, computes its context from its
    own flag (`C08_ruleBody_ctx`). -/
theorem C08_callee_flag (env : Env) (rec : SRec) (n : Nat) (ctx : Ctx) (nm : Option FieldName) (bx : Bool)
    (typ : String) (s : St) :
    Spec.stepExpr env rec n ctx (.field nm bx typ) s =
      Spec.withSkipWs rec ctx s (fun s' => Spec.stepExpr env rec n { ctx with skipWs := false } (.field nm bx typ) s') ∧
    (∀ b s', Spec.stepExpr env rec n { ctx with skipWs := false } (.field nm bx typ) s' =
      Spec.stepExpr env { rec with expr := fun c => rec.expr { c with skipWs := b } } n { ctx with skipWs := false }
        (.field nm bx typ) s') := by
  constructor
  · simp [Spec.stepExpr, Spec.withSkipWs]
  · intro b s'; simp [Spec.stepExpr, Spec.withSkipWs]

/-- the callee of a reference is the rule's own wrapper, one fuel level down -/
theorem C08_callee_is_ruleBody (env : Env) (u n : Nat) (name : String) (r : Rule) (s : St)
    (h : env.g.find name = some (.rule r)) :
    (Spec.eval env u (n+1)).rule name s = Spec.ruleBody env u (Spec.eval env u n) r s := by
  simp only [Spec.eval, Spec.step, Spec.stepRule, h]

/-! ## 5. the hypotheses are satisfiable -/

/-- `A = 'a' x:B $ ;   @no_skip_ws B = 'b' {'0'..'9'} ;` -/
def exG : Grammar := ⟨[
  .rule ⟨[], "A", .choice [.seq [.lit false [.chr 'a'], .field (some (.ident "x")) false "B", .eoi]]⟩,
  .rule ⟨[.noSkipWs], "B", .choice [.seq [.lit false [.chr 'b'], .closure (.range (.chr '0') (.chr '9')) false]]⟩]⟩

def exEnv : Env := ⟨exG, {}, default, 8⟩

example : exEnv.settings.skipWhitespace = true ∧ 2 ≤ exEnv.nf ∧ GoodG exEnv.nf exEnv.g := by
  refine ⟨rfl, by decide, ?_⟩
  intro r hr
  simp only [exEnv, exG, List.mem_cons, RuleEntry.rule.injEq, List.mem_nil_iff, or_false] at hr
  rcases hr with rfl | rfl <;> refine ⟨by decide, by decide, by decide⟩

/-- expression level: the body of `A` with the rule's own field list -/
example : GoodE exEnv.nf (.choice [.seq [.lit false [.chr 'a'], .field (some (.ident "x")) false "B", .eoi]]) ∧
    UniqueNames [{ name := "x", types := [("B", false)], arity := .one }] := by
  refine ⟨⟨by decide, by decide, by decide⟩, by simp [UniqueNames]⟩

/-! ## 6. the hypotheses are needed (concrete counterexamples, checked by evaluation) -/

/-- `@no_skip_ws Whitespace = 'w' ;  A = '\u{110000}'..'z' ;` – the range bound does not compile -/
def cexG : Grammar := ⟨[
  .rule ⟨[.noSkipWs], "Whitespace", .lit false [.chr 'w']⟩,
  .rule ⟨[], "A", .range (.utf8 ['1','1','0','0','0','0']) (.chr 'z')⟩]⟩
def cexEnv : Env := ⟨cexG, {}, default, 8⟩

/-- without `compilable`: the model reports an uncompilable token *before* skipping, the desugared grammar calls
    (the user's, failing) `Whitespace` first -/
example : Spec.parse cexEnv 0 3 "A" [120] = some (.panic "uncompilable: range bound") ∧
    Spec.parse (desugarEnv cexEnv) 0 6 "A" [120] = some (.err Spec.noErr) := ⟨by rfl, by rfl⟩

def cexField : FieldDesc := { name := "x", types := [("B", false)], arity := .one }

/-- without `UniqueNames` (only possible at expression level, with a made-up context: `get_fields` never produces
    duplicates, `uniqueNames_getFields`): the sequence wrapper binds every filtered rule field once -/
example :
    (Spec.eval exEnv 0 6).expr ⟨true, [cexField, cexField]⟩ (.field (some (.ident "x")) false "B") (St.new [32, 98])
      = some (.ok [("x", .node "B" [] none)] ⟨[], 2, none⟩) ∧
    (Spec.eval exEnv 0 8).expr ⟨false, [cexField, cexField]⟩ (desugarE (.field (some (.ident "x")) false "B"))
        (St.new [32, 98])
      = some (.panic "codegen: assertion failed: field.arity == Arity::Multiple") := ⟨by rfl, by rfl⟩

end WS

export WS (C08_builtin C08_builtin_chars C08_builtin_examples C08_builtin_wsPrefixLen C08_callee_flag C08_callee_is_ruleBody C08_custom_charRule C08_custom_externRule C08_custom_none C08_custom_rule C08_desugar_expr C08_desugar_grammar C08_no_skip_ws C08_no_skip_ws_global C08_only_tokens C08_only_tokens_flag C08_only_tokens_rule C08_ruleBody_ctx C08_skip_ws C08_withSkipWs_false C08_withSkipWs_true)

end Peg
