import PegVerif.Proofs.Basics
import PegVerif.Proofs.SpecMono
/-
  The vocabulary of the refinement proof without `@leftrec` (the theorem itself is `eval_ref` in RefineRule.lean):
  `Evt`, the eventually-stable answer of the fuel-indexed reference semantics; the invariant `Good` on the global
  state (the user context is the initial one, every cached entry is the reference answer of that rule at that offset,
  `CacheOk`); the postcondition `Post` (the reference settles on `abs r`, `Good` again, the cursor of a success is
  consistent); and `Ref`, the statement about the recursive calls.  `PureHooks` (user functions do not modify the user
  context) and `NoLeftrec` are the hypotheses of the theorem.  `Det f`: whatever `f` answers at some fuel is its eventual
  answer, which holds of every computation of the reference since it is monotone in the fuel (`Det.of_mono`); by it,
  where the reference of a sub-run answers at all, it answers what the model's sub-run refines to (`caseR_gx`,
  RefineGen.lean).  `Evt`, `Det` and `PureHooks` serve the `@leftrec` refinement (RefineGen, RefineLR) as well.
-/
namespace Peg
open Spec

/-- user functions leave the user context alone -/
def PureHooks (H : Hooks) : Prop :=
  (∀ f bs u, (H.extern f bs u).2 = u) ∧ (∀ f v u, (H.check f v u).2 = u)

def NoLeftrec (g : Grammar) : Prop :=
  ∀ r, RuleEntry.rule r ∈ g.rules → r.flags.leftRecursive = false

/-- eventually-stable answer of a fuel-indexed computation -/
def Evt {α} (f : Nat → SOut α) (r : Res α) : Prop := ∃ m0, ∀ m, m0 ≤ m → f m = some r

theorem Evt.const {α} {r : Res α} : Evt (fun _ => some r) r := ⟨0, fun _ _ => rfl⟩

theorem Evt.exists {α} {f : Nat → SOut α} {r} (h : Evt f r) : ∃ m, f m = some r :=
  let ⟨m0, h0⟩ := h
  ⟨m0, h0 m0 (Nat.le_refl m0)⟩

/-- from the computation one unit of fuel ahead, which is what a lemma about `step` speaks of (so `Post.succ`) -/
theorem Evt.succ {α} {f : Nat → SOut α} {r} (h : Evt (fun m => f (m + 1)) r) : Evt f r := by
  obtain ⟨m0, h⟩ := h
  refine ⟨m0 + 1, fun m hm => ?_⟩
  obtain ⟨m', rfl⟩ : ∃ m', m = m' + 1 := ⟨m - 1, by omega⟩
  exact h m' (by omega)

theorem Evt.pred {α} {f : Nat → SOut α} {r} (h : Evt f r) : Evt (fun m => f (m + 1)) r :=
  let ⟨m0, h0⟩ := h
  ⟨m0, fun m hm => h0 (m + 1) (by omega)⟩

theorem Evt.of_eq {α} {f f' : Nat → SOut α} {r} (h : Evt f r) (he : ∀ m, f m = f' m) : Evt f' r :=
  let ⟨m0, h0⟩ := h
  ⟨m0, fun m hm => he m ▸ h0 m hm⟩

/-- once the sub-computation `fx` has settled on `a`, what is computed from it goes on from `some a` -/
theorem Evt.after {α β} {fx : Nat → SOut α} {a : Res α} (hx : Evt fx a) {F : Nat → SOut α → SOut β}
    {b : Res β} (h : Evt (fun m => F m (some a)) b) : Evt (fun m => F m (fx m)) b :=
  let ⟨m0, h0⟩ := hx
  let ⟨m1, h1⟩ := h
  ⟨max m0 m1, fun m hm => show F m (fx m) = some b from h0 m (by omega) ▸ h1 m (by omega)⟩

/-- the answer of a fuel-indexed reference computation, whenever defined, is its eventual answer -/
def Det {α} (f : Nat → SOut α) : Prop := ∀ M y r, f M = some y → Evt f r → y = r

theorem Det.of_mono {α} {f : Nat → SOut α} (h : ∀ m m' y, m ≤ m' → f m = some y → f m' = some y) : Det f := by
  intro M y r hy ⟨m0, h0⟩
  have e1 := h M (max M m0) y (Nat.le_max_left _ _) hy
  have e2 := h0 (max M m0) (Nat.le_max_right _ _)
  rw [e1] at e2
  exact Option.some.inj e2

theorem Det.const {α} (x : SOut α) : Det (fun _ => x) := Det.of_mono (fun _ _ _ _ h => h)

section
variable (env : Env) (u : Nat) (inp : List UInt8)

/-- every cached entry is the reference answer of that rule at that offset (`⟨inp.drop off, off, none⟩` is `clr s` for
    the consistent cursor `s` at `off`: `clr_eq_of_wf`) -/
def CacheOk (g : Global) : Prop :=
  ∀ name off r, g.lookup (name, off) = some r →
    Evt (fun m => (Spec.eval env u m).rule name ⟨inp.drop off, off, none⟩) (abs r) ∧
    (∀ v s', r = .ok v s' → WfSt inp s')

/-- the invariant of the global object (the user context stays what it was at the start: `PureHooks`) -/
structure Good (g : Global) : Prop where
  uctx : g.uctx = u
  cache : CacheOk env u inp g

/-- what a run that answered `r` and left `g'` establishes, `f` being its reference counterpart by fuel -/
def Post {α} (f : Nat → SOut α) (r : Res α) (g' : Global) : Prop :=
  Evt f (abs r) ∧ Good env u inp g' ∧ (∀ v s', r = .ok v s' → WfSt inp s')

/-- the statement about the recursive calls: every answer from a consistent cursor and a good global object satisfies
    `Post` against `Spec.eval` at the cleared cursor -/
structure Ref (rec : Rec) : Prop where
  expr : ∀ ctx e s g r g', rec.expr ctx e s g = some (r, g') → WfSt inp s → Good env u inp g →
    Post env u inp (fun m => (Spec.eval env u m).expr ctx e (clr s)) r g'
  rule : ∀ name s g r g', rec.rule name s g = some (r, g') → WfSt inp s → Good env u inp g →
    Post env u inp (fun m => (Spec.eval env u m).rule name (clr s)) r g'

variable {env u inp}

/-- `Good` looks at the user context and the cache only -/
theorem Good.congr {g g1 : Global} (h : Good env u inp g) (hu : g1.uctx = g.uctx) (hc : g1.cache = g.cache) :
    Good env u inp g1 :=
  ⟨hu.trans h.uctx, fun n o r hl => h.cache n o r (lookup_of_cache_eq hc _ ▸ hl)⟩

theorem Good.emit {g : Global} (h : Good env u inp g) (e : Ev) : Good env u inp (g.emit e) :=
  h.congr rfl rfl

theorem Good.traceResult' {g : Global} (hg : Good env u inp g) (res : Res Val) :
    Good env u inp (traceResult g res) :=
  hg.congr (traceResult_uctx g res) (traceResult_cache g res)

theorem wf_new (inp : List UInt8) : WfSt inp (St.new inp) := rfl

theorem good_init (env : Env) (u : Nat) (inp : List UInt8) : Good env u inp (Global.init u) :=
  ⟨rfl, fun _ _ _ hl => nomatch hl⟩

theorem Post.succ {α} {f : Nat → SOut α} {r : Res α} {g} (h : Post env u inp (fun m => f (m + 1)) r g) :
    Post env u inp f r g :=
  ⟨h.1.succ, h.2⟩

theorem Post.emit {α} {f : Nat → SOut α} {r : Res α} {g} (h : Post env u inp f r g) (e : Ev) :
    Post env u inp f r (g.emit e) :=
  ⟨h.1, h.2.1.emit e, h.2.2⟩

end
end Peg
