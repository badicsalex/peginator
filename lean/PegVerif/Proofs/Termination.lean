import PegVerif.Proofs.Lengths
import PegVerif.Proofs.WfCheck
import PegVerif.Proofs.Matchers
import PegVerif.Proofs.PegRelation
/-
  Termination of the reference semantics for syntactically well-formed grammars
  (the last clause of property C01: "… and the parse terminates").

  Ford's well-formedness theorem for PEGs, adapted to this model, for the decidable, conservative syntactic
  analysis `wfCheck` of WfCheck.lean: the consumption lemma (a construct that is not
  nullable consumes ≥ 1 byte when it succeeds, nothing ever lengthens the remaining input), by
  induction on the derivations of the relation `Sem` (PegRelation.lean); termination – every
  judgement has a derivation – by induction on the remaining length, then on the rank of the rule in
  the left-call graph, then on the depth of the expression; `Spec.eval_complete_rule` and
  `Spec.eval_complete` turn a derivation into a fuel for `Spec.eval`.  The instance at the extracted
  grammar-of-grammars is TerminationMeta.lean.
-/
namespace Peg

/-! ## 1. The consumption lemma

`Drop b s s'`: going from `s` to `s'` never lengthens the remaining input, and shortens it when `b`. -/

/-- `e` is recognisably not nullable -/
def NN (g : Grammar) (e : Expr) : Prop := ∃ d, nullableE g d e = false
/-- the rule call `name` is recognisably not nullable: `nullableE` looks at nothing else of a rule reference -/
def NNR (g : Grammar) (name : String) : Prop := NN g (.field none false name)

/-- at depth 0 the analysis answers "nullable" -/
theorem NN.succ {g e} (h : NN g e) : ∃ d, nullableE g (d+1) e = false := by
  obtain ⟨d, hd⟩ := h
  cases d with
  | zero => simp [nullableE] at hd
  | succ d => exact ⟨d, hd⟩

/-- one unfolding of `nullableE`, read construct by construct -/
theorem NN.inv {g e} (h : NN g e) : match e with
    | .choice alts => ∀ a ∈ alts, NN g a
    | .seq parts => ∃ p ∈ parts, NN g p
    | .group b => NN g b
    | .closure b plus => plus = true ∧ NN g b
    | .lit ins body => ∀ m, compileLit ins body = .ok m → m.nullable = false
    | .incl r => ∀ rule, g.findRule r = some rule → NN g rule.definition
    | .field _ _ typ => NNR g typ
    | .range _ _ => True
    | .opt _ | .neg _ | .pos _ | .eoi => False := by
  obtain ⟨d, hd⟩ := h.succ
  cases e with
  | choice alts =>
    simp only [nullableE, List.any_eq_false] at hd
    exact fun a ha => ⟨d, by simpa using hd a ha⟩
  | seq parts =>
    simp only [nullableE, List.all_eq_false] at hd
    obtain ⟨p, hp, hn⟩ := hd
    exact ⟨p, hp, d, by simpa using hn⟩
  | group b => exact ⟨d, hd⟩
  | closure b plus =>
    simp only [nullableE] at hd
    split at hd
    · rename_i hp; exact ⟨hp, d, hd⟩
    · cases hd
  | lit ins body => exact fun m hm => by simpa [nullableE, hm] using hd
  | incl r => exact fun rule hf => ⟨d, by simpa [nullableE, hf] using hd⟩
  | field => exact ⟨d + 1, hd⟩
  | range => trivial
  | opt | neg | pos | eoi => cases hd

theorem NN.choice {g alts} (h : NN g (.choice alts)) : ∀ a ∈ alts, NN g a := h.inv

theorem NN.closure {g b plus} (h : NN g (.closure b plus)) : plus = true ∧ NN g b := h.inv

/-- … and of a rule call, by what the name resolves to -/
theorem NNR.inv {g name} (h : NNR g name) : ∀ {x}, g.find name = x → match x with
    | some (.rule r) => NN g r.definition
    | some (.charRule cr) => ∀ id, CharRulePart.ident id ∈ cr.choices → NNR g id
    | some (.externRule _) => False
    | none => name = "char" := by
  obtain ⟨d, hd⟩ := h.succ
  intro x hf
  simp only [nullableE, hf] at hd
  match x with
  | some (.rule r) => exact ⟨d, hd⟩
  | some (.charRule cr) =>
    simp only [List.any_eq_false] at hd
    exact fun id hid => ⟨d, by simpa using hd _ hid⟩
  | some (.externRule _) => cases hd
  | none => simpa using hd

theorem leftCalls_terminal {g : Grammar} {nd d : Nat} {skip : Bool} {e : Expr} {t} (h : terminalOf e = some t) :
    leftCalls g nd (d+1) skip e = if skip then ["Whitespace"] else [] := by
  cases e <;> first | rfl | simp [terminalOf] at h

/-- what a successful outcome `.ok v s'` of a judgement started at `s` says about the input consumed -/
def Consumed (g : Grammar) : (j : Judg) → St → j.Out → St → Prop
  | .expr _ e, s, _, s' => Drop (NN g e) s s'
  | .rule name, s, _, s' => Drop (NNR g name) s s'
  | .parts _ ps _ _, s, _, s' => Drop (∃ p ∈ ps, NN g p) s s'
  | .alts _ _ as, s, _, s' => Drop (∀ a ∈ as, NN g a) s s'
  | .loop _ b _ iters _, s, x, s' => Drop (iters < x.1 ∧ NN g b) s s'
  | .ws _, s, _, s' => s'.rest.length ≤ s.rest.length
  | .checks _ _, s, _, s' => s' = s
  | .charPart p, s, _, s' => Drop (∀ id, p = .ident id → NNR g id) s s'
  | .charParts ps, s, _, s' => Drop (∀ id, CharRulePart.ident id ∈ ps → NNR g id) s s'

theorem plumb_ok {α} {x : Except String α} {s : St} {v s'} (h : plumb x s = .ok v s') : s' = s := by
  cases x <;> cases h
  rfl

/-- **Consumption lemma**: in the reference semantics nothing lengthens the remaining input, and a
    construct / rule call that the analysis classifies as not nullable consumes at least one byte
    whenever it succeeds.  By induction on the derivation; the rules whose outcome is not a success
    have nothing to show. -/
theorem Sem.consumes {env : Env} {u : Nat} {j : Judg} {s : St} {r : Res j.Out} (h : Sem env u j s r)
    {v s'} (hr : r = .ok v s') : Consumed env.g j s v s' := by
  induction h generalizing s' with
  | choice_one _ ih => exact Drop.mono (ih hr) fun hn => hn.choice _ List.mem_cons_self
  | choice _ ih => exact Drop.mono (ih hr) fun hn => hn.choice
  | alts_first _ ih =>
    cases plumb_ok hr
    exact Drop.mono (ih rfl) fun hn => hn _ List.mem_cons_self
  | alts_next _ _ _ ih => exact Drop.mono (ih hr) fun hn a ha => hn a (List.mem_cons_of_mem _ ha)
  | seq_nil =>
    cases hr
    exact Drop.of_eq rfl fun hn => by obtain ⟨p, hp, _⟩ := hn.inv; cases hp
  | seq_one _ ih =>
    refine Drop.mono (ih hr) fun hn => ?_
    obtain ⟨p, hp, hpn⟩ := hn.inv
    exact List.mem_singleton.1 hp ▸ hpn
  | seq _ ih =>
    cases plumb_ok hr
    exact Drop.mono (ih rfl) fun hn => hn.inv
  | parts_nil =>
    cases hr
    exact Drop.of_eq rfl (by simp)
  | parts_cons _ _ _ ih₁ ih₂ =>
    refine Drop.trans (ih₁ rfl) (ih₂ hr) ?_
    rintro ⟨q, hq, hn⟩
    cases hq with
    | head => exact .inl hn
    | tail _ hq => exact .inr ⟨q, hq, hn⟩
  | group _ ih => exact Drop.mono (ih hr) fun hn => hn.inv
  | opt_some _ ih =>
    cases hr
    exact ⟨(ih rfl).1, fun hn => hn.inv.elim⟩
  | opt_none =>
    cases plumb_ok hr
    exact Drop.of_eq rfl fun hn => hn.inv
  | @closure _ _ plus _ _ iters _ _ _ _ hc ih =>
    cases hr
    refine Drop.mono (ih rfl) fun hn => ?_
    obtain ⟨hp, hnb⟩ := hn.closure
    subst hp
    have hi : iters ≠ 0 := fun h0 => by subst h0; simp at hc
    exact ⟨by show 0 < iters; omega, hnb⟩
  | loop_stop =>
    cases hr
    exact Drop.of_eq rfl fun hlt => Nat.lt_irrefl _ hlt.1
  | loop_step _ _ _ ih₁ ih₂ =>
    exact Drop.trans (ih₁ rfl) (ih₂ hr) fun hn => .inl hn.2
  | neg_ok | pos_ok =>
    cases hr
    exact Drop.of_eq rfl fun hn => hn.inv
  | ws_off =>
    cases hr
    exact Nat.le_refl _
  | ws_on _ _ ih =>
    cases hr
    exact (ih rfl).1
  | range _ _ _ ih =>
    obtain ⟨_, s0, hp, hrest, _⟩ := Spec.abs_map_ok hr
    exact (Drop.of_lt (parseCharacterRange_len hp)).after (ih rfl) hrest
  | @lit _ _ _ _ m _ hm _ ih =>
    rw [show litAt m _ = Spec.abs (m.parse _) by cases m <;> rfl] at hr
    obtain ⟨s0, hp, rfl⟩ := Spec.abs_ok hr
    exact ((LitMatcher.parse_len hp).mono fun hn => hn.inv _ hm).after (ih rfl) rfl
  | eoi _ ih =>
    obtain ⟨_, s0, hp, hrest, _⟩ := Spec.abs_map_ok hr
    cases parseEndOfInput_len hp
    exact (Drop.of_eq rfl fun hn => hn.inv).after (ih rfl) hrest
  | incl hf _ ih => exact Drop.mono (ih hr) fun hn => hn.inv _ hf
  | field_anon _ _ ih₁ ih₂ =>
    cases hr
    exact ((ih₂ rfl).mono fun hn => hn.inv).after (ih₁ rfl) rfl
  | field_named _ _ ih₁ ih₂ =>
    obtain ⟨_, h, _⟩ := Res.map_ok_inv hr
    cases plumb_ok h
    exact ((ih₂ rfl).mono fun hn => hn.inv).after (ih₁ rfl) rfl
  | rule_string hfind _ _ _ _ ih₁ ih₂ | rule_override hfind _ _ _ _ _ ih₁ ih₂
  | rule_struct hfind _ _ _ _ _ ih₁ ih₂ =>
    cases ih₂ hr
    exact Drop.mono (ih₁ rfl) fun hn => hn.inv hfind
  | checks_nil =>
    cases hr
    rfl
  | checks_accept _ _ ih => exact ih hr
  | char_rule hfind _ _ ih | char_rule_checked hfind _ _ _ _ ih =>
    exact Drop.mono (ih hr) fun hn => hn.inv hfind
  | part_chr =>
    obtain ⟨_, s0, hp, hrest, _⟩ := Spec.abs_map_ok hr
    exact (Drop.of_lt (parseCharacterLiteral_len hp)).after (Nat.le_refl _) hrest
  | part_range =>
    obtain ⟨_, s0, hp, hrest, _⟩ := Spec.abs_map_ok hr
    exact (Drop.of_lt (parseCharacterRange_len hp)).after (Nat.le_refl _) hrest
  | part_ident _ ih => exact Drop.mono (ih hr) fun hn => hn _ rfl
  | chars_first _ ih =>
    cases hr
    exact Drop.mono (ih rfl) fun hn id hid => hn id (hid ▸ List.mem_cons_self)
  | chars_next _ _ _ ih =>
    exact Drop.mono (ih hr) fun hn id hid => hn id (List.mem_cons_of_mem _ hid)
  | extern_ok hfind _ =>
    obtain ⟨s0, hp, rfl⟩ := Spec.abs_ok hr
    exact ⟨by rw [clr_rest]; exact advanceSafe_len hp, fun hn => (hn.inv hfind).elim⟩
  | builtin_char =>
    obtain ⟨_, s0, hp, hrest, _⟩ := Spec.abs_map_ok hr
    exact Drop.of_lt (by rw [hrest]; exact parseChar_len hp)
  | builtin_ws hfind =>
    obtain ⟨_, s0, hp, hrest, _⟩ := Spec.abs_map_ok hr
    refine ⟨by rw [hrest]; exact isMatcher_parseWhitespace.len_le hp, fun hn => ?_⟩
    exact absurd (show "Whitespace" = "char" from hn.inv hfind) (by decide)
  | seq_abort _ hab _ | parts_abort _ hab _ | closure_abort _ _ hab _ | pos_abort _ hab _ | ws_abort _ _ hab _
  | range_abort _ _ _ hab _ | lit_abort _ _ hab _ | eoi_abort _ hab _ | field_abort _ _ hab _ _
  | field_ws_abort _ hab _ | rule_abort _ _ _ _ hab _ =>
    cases hab <;> cases hr
  | _ =>
    cases hr

/-! ## 2. Termination

  "The judgement has an outcome" is stated on the relation `Sem` (PegRelation.lean): an outcome is
  exhibited by giving the rule of the relation that applies.  Only a terminal, a character or range of a `@char`
  rule, and what a normal rule does after its body, are answered by running the step of `Spec.eval` and going back
  through soundness. -/

namespace Term
open Spec

section Term
variable (env : Env) (u : Nat)

/-- the judgement has an outcome (ok / err / panic) from `s` -/
def Ans (j : Judg) (s : St) : Prop := ∃ r, Sem env u j s r

/-- induction hypothesis of the termination proof: every rule call answers from every state with
    less than `L` remaining bytes, and the rules in `S` also from states with exactly `L` -/
def Av (L : Nat) (S : String → Prop) : Prop :=
  ∀ c s, s.rest.length ≤ L → (s.rest.length < L ∨ S c) → Ans env u (.rule c) s

/-- `j` answers from every state with at most `L` remaining bytes, whenever every rule answers below `L` and the
    rules in `lc` (the left calls of `j`) answer at `L` -/
def AnsIf (lc : List String) (j : Judg) : Prop :=
  ∀ L S, Av env u L S → (∀ c ∈ lc, S c) → ∀ s, s.rest.length ≤ L → Ans env u j s

variable {env u}

theorem Av.lower {L L' : Nat} {S S' : String → Prop} (h : Av env u L S) (hl : L' < L) : Av env u L' S' :=
  fun c s hs _ => h c s (by omega) (.inl (by omega))

/-- a judgement that has an outcome has matched, or has given up and lets the construct around it give up -/
theorem Ans.case {j s β} {P : Prop} (h : Ans env u j s) (hok : ∀ v s', Sem env u j s (.ok v s') → P)
    (hab : ∀ r (r' : Res β), Sem env u j s r → Abort r r' → P) : P := by
  obtain ⟨r, h⟩ := h
  cases r with
  | ok v s' => exact hok v s' h
  | err e => exact hab _ _ h (.err e)
  | panic m => exact hab _ _ h (.panic m)

theorem alts_ans {ctx : Ctx} {fields s} : ∀ alts, (∀ a ∈ alts, Ans env u (.expr ctx a) s) →
    Ans env u (.alts ctx fields alts) s
  | [], _ => ⟨_, .alts_nil⟩
  | a :: as, h => by
    obtain ⟨r1, h1⟩ := h a List.mem_cons_self
    cases r1 with
    | ok r s' => exact ⟨_, .alts_first h1⟩
    | err e =>
      obtain ⟨r2, h2⟩ := alts_ans (fields := fields) as fun b hb => h b (List.mem_cons_of_mem _ hb)
      exact ⟨r2, .alts_next h1 h2⟩
    | panic m => exact ⟨_, .alts_panic h1⟩

theorem parts_ans {ctx : Ctx} {null : Expr → Bool} {lc : Expr → List String}
    (hnull : ∀ p, null p = false → NN env.g p) :
    ∀ parts, (∀ p ∈ parts, AnsIf env u (lc p) (.expr ctx p)) →
      ∀ seen acc, AnsIf env u (leftSeq null lc parts) (.parts ctx parts seen acc) := by
  intro parts
  induction parts with
  | nil => exact fun _ seen acc L S _ _ s _ => ⟨_, .parts_nil⟩
  | cons p ps ih =>
    intro hp seen acc L S hav hS s hs
    have hS1 : ∀ c ∈ lc p, S c := fun c hc => hS c (by
      simp only [leftSeq]; exact List.mem_append_left _ hc)
    refine (hp p List.mem_cons_self L S hav hS1 s hs).case (fun r s1 h1 => ?_) fun _ _ h hab => ⟨_, .parts_abort h hab⟩
    have d : Drop _ s s1 := h1.consumes rfl
    cases hm : mergePart (filterRuleFields ctx.ruleFields (ownFields env p)) seen acc r with
    | error m => exact ⟨_, .parts_bad h1 hm⟩
    | ok sa =>
      obtain ⟨seen', acc'⟩ := sa
      have hps : ∀ q ∈ ps, AnsIf env u (lc q) (.expr ctx q) := fun q hq => hp q (List.mem_cons_of_mem _ hq)
      -- after a part that is not nullable the input is shorter: every rule answers again
      have htail : Ans env u (.parts ctx ps seen' acc') s1 := by
        cases hn : null p with
        | true =>
          refine ih hps seen' acc' L S hav ?_ s1 (Nat.le_trans d.1 hs)
          intro c hc
          apply hS
          simp only [leftSeq, hn, if_true]
          exact List.mem_append_right _ hc
        | false =>
          have hlt := d.2 (hnull p hn)
          exact ih hps seen' acc' s1.rest.length (fun _ => True) (hav.lower (by omega)) (fun _ _ => trivial) s1
            (Nat.le_refl _)
      obtain ⟨r2, h2⟩ := htail
      exact ⟨r2, .parts_cons h1 hm h2⟩

theorem loop_ans {ctx : Ctx} {b : Expr} {fields} {L : Nat}
    (hb : ∀ s, s.rest.length ≤ L → Ans env u (.expr ctx b) s) (hnn : NN env.g b) (s : St) (hsL : s.rest.length ≤ L)
    (iters : Nat) (acc : Parsed) : Ans env u (.loop ctx b fields iters acc) s := by
  obtain ⟨r1, h1⟩ := hb s hsL
  cases r1 with
  | err e => exact ⟨_, .loop_stop h1⟩
  | panic m => exact ⟨_, .loop_panic h1⟩
  | ok r s1 =>
    -- the body is not nullable: the next iteration starts with less input left
    have hlt := (h1.consumes rfl).2 hnn
    cases hx : extendAll fields acc r with
    | error m => exact ⟨_, .loop_bad h1 hx⟩
    | ok acc' =>
      obtain ⟨r2, h2⟩ := loop_ans (fields := fields) hb hnn s1 (by omega) (iters + 1) acc'
      exact ⟨r2, .loop_step h1 hx h2⟩
termination_by s.rest.length

theorem charPart_ans {s : St} (p : CharRulePart) (h : ∀ id, p = .ident id → Ans env u (.rule id) s) :
    Ans env u (.charPart p) s := by
  cases p with
  | ident id => exact (h id rfl).imp fun _ hr => .part_ident hr
  | chr | range =>
    -- a character or a range answers without any call: run it
    refine Exists.imp (fun _ => Holds.sem (n := 0) (j := .charPart _)) ?_
    simp only [Holds, Spec.charPart]
    split <;> exact ⟨_, rfl⟩

theorem charParts_ans {s : St} : ∀ ps, (∀ id, CharRulePart.ident id ∈ ps → Ans env u (.rule id) s) →
    Ans env u (.charParts ps) s
  | [], _ => ⟨_, .chars_nil⟩
  | p :: ps, h => by
    obtain ⟨r1, h1⟩ := charPart_ans p fun id hid => h id (hid ▸ List.mem_cons_self)
    cases r1 with
    | ok v s' => exact ⟨_, .chars_first h1⟩
    | err e =>
      obtain ⟨r2, h2⟩ := charParts_ans ps fun id hid => h id (List.mem_cons_of_mem _ hid)
      exact ⟨r2, .chars_next h1 h2⟩
    | panic m => exact ⟨_, .chars_panic h1⟩

/-- the whitespace skip answers -/
theorem ws_ans {ctx : Ctx} {s : St} {L S} (hav : Av env u L S) (hs : s.rest.length ≤ L)
    (hW : ctx.skipWs = true → S "Whitespace") : Ans env u (.ws ctx) s := by
  cases hsk : ctx.skipWs with
  | false => exact ⟨_, .ws_off hsk⟩
  | true =>
    exact (hav "Whitespace" s hs (.inr (hW hsk))).case (fun _ _ h => ⟨_, .ws_on hsk h⟩)
      fun _ _ h hab => ⟨_, .ws_abort hsk h hab⟩

theorem field_ans {ctx : Ctx} {name boxed typ} {s : St} {L S} (hav : Av env u L S) (hs : s.rest.length ≤ L)
    (hW : ctx.skipWs = true → S "Whitespace") (hT : S typ) :
    Ans env u (.expr ctx (.field name boxed typ)) s := by
  refine (ws_ans hav hs hW).case (fun _ s0 hws => ?_) fun _ _ h hab => ⟨_, .field_ws_abort h hab⟩
  refine (hav typ s0 (Nat.le_trans (hws.consumes rfl) hs) (.inr hT)).case (fun _ _ h2 => ?_)
    fun _ _ h hab => ⟨_, .field_abort hws h hab⟩
  cases name with
  | none => exact ⟨_, .field_anon hws h2⟩
  | some nm => exact ⟨_, .field_named hws h2⟩

/-- **Expressions**: an expression without nullable closure bodies answers, given its left calls -/
theorem expr_ans (nd : Nat) : ∀ d (ctx : Ctx) (e : Expr), closuresOk env.g nd d e = true →
    AnsIf env u (leftCalls env.g nd d ctx.skipWs e) (.expr ctx e) := by
  intro d
  induction d with
  | zero => intro ctx e h; simp [closuresOk] at h
  | succ d ih =>
    intro ctx e hcl L S hav hS s hs
    match hterm : terminalOf e with
    | some (.ok m) =>
      rw [leftCalls_terminal hterm] at hS
      obtain ⟨r0, hws⟩ := ws_ans hav hs (fun (h : ctx.skipWs = true) => hS _ (by simp [h]))
      obtain ⟨n, hn⟩ := hws.holds
      have : ∃ r, Spec.stepExpr env (Spec.eval env u n) n ctx e s = some r := by
        rw [Spec.stepExpr_terminal hterm, Rel.withSkipWs_bind, show Spec.withSkipWs _ _ _ _ = some r0 from hn]
        cases r0 <;> exact ⟨_, rfl⟩
      exact this.imp fun r hr => eval_sound (n := n + 1) hr
    | some (.error msg) => exact ⟨_, eval_sound (n := 1) (Spec.stepExpr_terminal_error hterm s)⟩
    | none =>
    cases e with
    | range | lit | eoi => simp [terminalOf] at hterm
    | choice alts =>
      simp only [closuresOk, List.all_eq_true] at hcl
      simp only [leftCalls, List.mem_flatMap] at hS
      have hall : ∀ a ∈ alts, Ans env u (.expr ctx a) s :=
        fun a ha => ih ctx a (hcl a ha) L S hav (fun c hc => hS c ⟨a, ha, hc⟩) s hs
      match alts with
      | [] => exact ⟨_, .choice_nil⟩
      | [a] => exact (hall a List.mem_cons_self).imp fun _ h => .choice_one h
      | a :: b :: rest => exact (alts_ans _ hall).imp fun _ h => .choice h
    | seq parts =>
      simp only [closuresOk, List.all_eq_true] at hcl
      simp only [leftCalls] at hS
      have hparts : ∀ p ∈ parts, AnsIf env u (leftCalls env.g nd d ctx.skipWs p) (.expr ctx p) :=
        fun p hp => ih ctx p (hcl p hp)
      have hseq := parts_ans (ctx := ctx) (null := nullableE env.g nd) (lc := leftCalls env.g nd d ctx.skipWs)
        (fun p hp => ⟨nd, hp⟩) parts hparts [] [] L S hav hS s hs
      cases parts with
      | nil => exact ⟨_, .seq_nil⟩
      | cons a rest =>
        cases rest with
        | nil =>
          have hS1 : ∀ c ∈ leftCalls env.g nd d ctx.skipWs a, S c := fun c hc => hS c (by
            simp only [leftSeq]; exact List.mem_append_left _ hc)
          exact (hparts a List.mem_cons_self L S hav hS1 s hs).imp fun _ h => .seq_one h
        | cons b rest =>
          exact hseq.case (fun x _ h => ⟨_, .seq (seen := x.1) (acc := x.2) h⟩)
            fun _ _ h hab => ⟨_, .seq_abort h hab⟩
    | group b =>
      simp only [closuresOk] at hcl
      simp only [leftCalls] at hS
      exact (ih ctx b hcl L S hav hS s hs).imp fun _ h => .group h
    | opt b =>
      simp only [closuresOk] at hcl
      simp only [leftCalls] at hS
      obtain ⟨r, h⟩ := ih ctx b hcl L S hav hS s hs
      cases r with
      | ok r s' => exact ⟨_, .opt_some h⟩
      | err e => exact ⟨_, .opt_none h⟩
      | panic m => exact ⟨_, .opt_panic h⟩
    | closure b plus =>
      simp only [closuresOk, Bool.and_eq_true, Bool.not_eq_true'] at hcl
      simp only [leftCalls] at hS
      have hb : ∀ s, s.rest.length ≤ L → Ans env u (.expr ctx b) s := fun s hs => ih ctx b hcl.2 L S hav hS s hs
      cases hci : closureInit (filterRuleFields ctx.ruleFields (ownFields env b)) with
      | error m => exact ⟨_, .closure_bad hci⟩
      | ok init =>
        refine (loop_ans (fields := filterRuleFields ctx.ruleFields (ownFields env b)) hb ⟨nd, hcl.1⟩ s hs 0 init).case
          (fun x _ h => ?_) fun _ _ h hab => ⟨_, .closure_abort hci h hab⟩
        cases hc : (plus && x.1 == 0) with
        | true => exact ⟨_, .closure_none (iters := x.1) (acc := x.2) hci h hc⟩
        | false => exact ⟨_, .closure (iters := x.1) (acc := x.2) hci h hc⟩
    | neg b =>
      simp only [closuresOk] at hcl
      simp only [leftCalls] at hS
      obtain ⟨r, h⟩ := ih ctx b hcl L S hav hS s hs
      cases r with
      | ok r s' => exact ⟨_, .neg_fail h⟩
      | err e => exact ⟨_, .neg_ok h⟩
      | panic m => exact ⟨_, .neg_panic h⟩
    | pos b =>
      simp only [closuresOk] at hcl
      simp only [leftCalls] at hS
      exact (ih ctx b hcl L S hav hS s hs).case (fun _ _ h => ⟨_, .pos_ok h⟩) fun _ _ h hab => ⟨_, .pos_abort h hab⟩
    | incl r0 =>
      cases hf : env.g.findRule r0 with
      | none => exact ⟨_, .incl_missing hf⟩
      | some rule =>
        simp only [closuresOk, hf] at hcl
        simp only [leftCalls, hf] at hS
        exact (ih ctx rule.definition hcl L S hav hS s hs).imp fun _ h => .incl hf h
    | field name boxed typ =>
      simp only [leftCalls] at hS
      exact field_ans hav hs (fun h => hS _ (by simp [h])) (hS _ (by split <;> simp))

/-- a normal rule answers when its body does, whatever the field analysis says the declared fields are: what
    `Spec.ruleBody` does after the body (the value, the `@check` functions) always answers -/
theorem ruleBody_ans {name : String} {r0 : Rule} {s : St} (hf : env.g.find name = some (.rule r0))
    (h : ∀ fields, Ans env u (.expr (ruleCtx env r0 fields) r0.definition) s) : Ans env u (.rule name) s := by
  cases hgf : getFields env.g env.nf r0.definition with
  | err | fuel => exact ⟨_, .rule_fields_bad hf fun fields h' => by rw [hgf] at h'; cases h'⟩
  | ok fields =>
    obtain ⟨r, h1⟩ := h fields
    obtain ⟨n, hn⟩ := h1.holds
    suffices ∃ r, Spec.stepRule env u (Spec.eval env u n) name s = some r from
      this.imp fun _ hr => eval_sound_rule (n := n + 1) hr
    simp only [Spec.stepRule, hf, Spec.ruleBody_eq hgf]
    split
    · exact ⟨_, rfl⟩
    · rw [show (Spec.eval env u n).expr _ _ s = some r from hn]
      cases r with
      | ok p s' =>
        simp only [Spec.bindS]
        cases ruleValue r0 fields s p s' with
        | ok v => simp only [Spec.runChecks_eq]; split <;> exact ⟨_, rfl⟩
        | error m => exact ⟨_, rfl⟩
      | _ => exact ⟨_, rfl⟩

/-- **One rule call**, given the induction hypothesis `Av L S` for its left calls -/
theorem rule_ans {fuel : Nat} {L S} (hav : Av env u L S) {name : String} {s : St} (hs : s.rest.length ≤ L)
    (hcl : ∀ r, env.g.find name = some (.rule r) → closuresOk env.g fuel fuel r.definition = true)
    (hed : ∀ entry, env.g.find name = some entry → ∀ c ∈ edgesOf env.g env.settings fuel entry, S c) :
    Ans env u (.rule name) s := by
  cases hf : env.g.find name with
  | none =>
    by_cases h1 : name = "char"
    · subst h1; exact ⟨_, .builtin_char hf⟩
    · by_cases h2 : name = "Whitespace"
      · subst h2; exact ⟨_, .builtin_ws hf⟩
      · exact ⟨_, .rule_undefined hf h1 h2⟩
  | some entry =>
    cases entry with
    | rule r =>
      exact ruleBody_ans hf fun fields =>
        expr_ans fuel fuel (ruleCtx env r fields) r.definition (hcl r hf) L S hav (hed _ hf) s hs
    | charRule cr =>
      obtain ⟨out, h⟩ := charParts_ans (s := s) cr.choices fun id hid =>
        hav id s hs (.inr (hed _ hf id (by
          simp only [edgesOf, List.mem_filterMap]
          exact ⟨_, hid, rfl⟩)))
      cases hd : cr.directives.isEmpty with
      | true => exact ⟨_, .char_rule hf hd h⟩
      | false =>
        cases hdec : decodeHead s.rest with
        | none => exact ⟨_, .char_rule_eoi hf hd hdec⟩
        | some c =>
          cases hck : charChecksOk env cr.directives c with
          | true => exact ⟨_, .char_rule_checked hf hd hdec hck h⟩
          | false => exact ⟨_, .char_rule_rejected hf hd hdec hck⟩
    | externRule er =>
      cases hx : (env.hooks.extern ("::".intercalate er.function) s.rest u).1 with
      | ok p => exact ⟨_, .extern_ok (v := p.1) (adv := p.2) hf hx⟩
      | error msg => exact ⟨_, .extern_fail hf hx⟩

end Term

end Term

/-! ## 3. The theorems -/

theorem allClosuresOk_mem {g : Grammar} {fuel : Nat} (h : allClosuresOk g fuel = true) {r : Rule}
    (hm : RuleEntry.rule r ∈ g.rules) : closuresOk g fuel fuel r.definition = true := by
  simpa using List.all_eq_true.1 h _ hm

/-- every rule call has an outcome, given a rank witness.  By recursion on the remaining length, then on the rank:
    the calls `Term.rule_ans` makes through `Av` are at a state with less input left, or with as much and at a rule
    of smaller rank. -/
theorem Term.rule_total {env : Env} {u fuel : Nat} (hcl : allClosuresOk env.g fuel = true) (rank : String → Nat)
    (hrank : ∀ e ∈ env.g.rules, ∀ c ∈ edgesOf env.g env.settings fuel e, rank c < rank e.name)
    (name : String) (s : St) : Term.Ans env u (.rule name) s :=
  Term.rule_ans (fuel := fuel) (L := s.rest.length) (S := fun c => rank c < rank name)
    (fun c s' _ _ => Term.rule_total hcl rank hrank c s') (Nat.le_refl _)
    (fun r hf => allClosuresOk_mem hcl (List.mem_of_find?_eq_some hf))
    (fun entry hf c hc => (find_mem hf).2 ▸ hrank entry (find_mem hf).1 c hc)
termination_by (s.rest.length, rank name)
decreasing_by
  simp only [Prod.lex_def]
  omega

/-- **Termination from a rank witness**: if no closure body is
    nullable and some function on rule names strictly decreases along every left-call edge, every rule
    call answers from every state with enough fuel. -/
theorem C01_terminates_partial (env : Env) (u fuel : Nat) (hcl : allClosuresOk env.g fuel = true)
    (rank : String → Nat)
    (hrank : ∀ e ∈ env.g.rules, ∀ c ∈ edgesOf env.g env.settings fuel e, rank c < rank e.name) :
    ∀ (rule : String) (s : St), ∃ n r, (Spec.eval env u n).rule rule s = some r := fun rule s =>
  (Term.rule_total hcl rank hrank rule s).elim fun r h => (Spec.eval_complete_rule h).imp fun _ hn => ⟨r, hn⟩

/-- the rank computed by `wfTermN` is a rank witness -/
theorem rankOk_sound {g : Grammar} {st : Settings} {fuel : Nat} (h : noLeftRecursion g st fuel = true) :
    ∀ e ∈ g.rules, ∀ c ∈ edgesOf g st fuel e,
      rankOf (rankTable (edgeTable g st fuel)) c < rankOf (rankTable (edgeTable g st fuel)) e.name := by
  intro e he c hc
  simp only [noLeftRecursion, rankOk, List.all_eq_true] at h
  have hm : (e.name, edgesOf g st fuel e) ∈ edgeTable g st fuel := by
    unfold edgeTable
    exact List.mem_map.mpr ⟨e, he, rfl⟩
  have := h _ hm c hc
  simpa using this

theorem wfTermN_parts {fuel : Nat} {g : Grammar} {st : Settings} (h : wfTermN fuel g st = true) :
    allClosuresOk g fuel = true ∧ noLeftRecursion g st fuel = true := by
  simpa [wfTermN] using h

theorem wfCheckN_term {fuel : Nat} {g : Grammar} {st : Settings} (h : wfCheckN fuel g st = true) :
    wfTermN fuel g st = true := by
  simp only [wfCheckN, Bool.and_eq_true] at h
  exact h.2

/-- **Every rule call terminates** for a grammar that passes the termination part of the
    well-formedness check: from every state, with enough fuel, the reference semantics answers. -/
theorem C01_terminates_rule (env : Env) (u fuel : Nat) (hwf : wfTermN fuel env.g env.settings = true) :
    ∀ (rule : String) (s : St), ∃ n r, (Spec.eval env u n).rule rule s = some r :=
  C01_terminates_partial env u fuel (wfTermN_parts hwf).1 _ (rankOk_sound (wfTermN_parts hwf).2)

/-- **Every expression terminates** (general form): any expression without nullable closure bodies,
    in any generation context, from any state. -/
theorem C01_terminates_expr (env : Env) (u fuel : Nat) (hwf : wfTermN fuel env.g env.settings = true)
    (ctx : Ctx) (e : Expr) (nd d : Nat) (he : closuresOk env.g nd d e = true) (s : St) :
    ∃ n r, (Spec.eval env u n).expr ctx e s = some r := by
  obtain ⟨r, h⟩ := Term.expr_ans nd d ctx e he s.rest.length (fun _ => True)
    (fun c s' _ _ => Term.rule_total (wfTermN_parts hwf).1 _ (rankOk_sound (wfTermN_parts hwf).2) c s')
    (fun _ _ => trivial) s (Nat.le_refl _)
  exact (Spec.eval_complete h).imp fun n hn => ⟨r, hn⟩

/-- … in particular the definition of every rule of the grammar -/
theorem C01_terminates_def (env : Env) (u fuel : Nat) (hwf : wfTermN fuel env.g env.settings = true)
    (ctx : Ctx) (r : Rule) (hr : RuleEntry.rule r ∈ env.g.rules) (s : St) :
    ∃ n r', (Spec.eval env u n).expr ctx r.definition s = some r' :=
  C01_terminates_expr env u fuel hwf ctx r.definition fuel fuel (allClosuresOk_mem (wfTermN_parts hwf).1 hr) s

/-- **C01, last clause: the parse terminates.**  For a well-formed grammar the reference semantics
    answers (ok / err / panic) on every rule and every input, with enough fuel.
    (No hypothesis on `env.nf` or on `rule` being defined is needed: a failing field analysis and an
    undefined rule are panics, which are answers.) -/
theorem C01_terminates (env : Env) (u : Nat) (hwf : wfCheck env.g env.settings = true) :
    ∀ (rule : String) (inp : List UInt8), ∃ n r, Spec.parse env u n rule inp = some r :=
  fun rule inp => C01_terminates_rule env u 64 (wfCheckN_term hwf) rule (St.new inp)

/-- C01 (properties.jsonl) asks this for defined rules only; the hypothesis is not needed -/
theorem C01_terminates' (env : Env) (u : Nat) (hwf : wfCheck env.g env.settings = true) :
    ∀ (rule : String) (inp : List UInt8), (env.g.find rule).isSome = true →
      ∃ n r, Spec.parse env u n rule inp = some r :=
  fun rule inp _ => C01_terminates env u hwf rule inp

/-! ### a small hand-written grammar that passes, and three that are correctly rejected -/

namespace TermExamples

def x : Expr := .lit false [.chr 'x']
def y : Expr := .lit false [.chr 'y']
def call (r : String) : Expr := .field none false r

/-- `@export Sum = Num {'+' Num} $;  @string @no_skip_ws Num = {Digit}+;  @char Digit = '0'..'9';` -/
def sumGrammar : Grammar := ⟨[
  .rule ⟨[.export], "Sum", .choice [.seq [.field (some (.ident "first")) false "Num",
    .closure (.choice [.seq [.lit false [.chr '+'], .field (some (.ident "rest")) false "Num"]]) false, .eoi]]⟩,
  .rule ⟨[.string, .noSkipWs], "Num", .choice [.seq [.closure (.choice [.seq [call "Digit"]]) true]]⟩,
  .charRule ⟨[], "Digit", [.range (.chr '0') (.chr '9')]⟩]⟩

theorem sumGrammar_wf : wfCheck sumGrammar {} = true := by decide +kernel

/-- hence it terminates on every input, whatever the hooks and the field-analysis fuel -/
example (hooks : Hooks) (nf u : Nat) (inp : List UInt8) :
    ∃ n r, Spec.parse { g := sumGrammar, settings := {}, hooks := hooks, nf := nf } u n "Sum" inp = some r :=
  C01_terminates { g := sumGrammar, settings := {}, hooks := hooks, nf := nf } u sumGrammar_wf "Sum" inp

/-- the rank hypothesis of `C01_terminates_partial` is satisfiable -/
example : ∃ rank : String → Nat, ∀ e ∈ sumGrammar.rules, ∀ c ∈ edgesOf sumGrammar {} 64 e, rank c < rank e.name :=
  ⟨_, rankOk_sound (wfTermN_parts (wfCheckN_term sumGrammar_wf)).2⟩

/-- `A = A 'x' | 'y';` – direct left recursion -/
def leftRec : Grammar := ⟨[.rule ⟨[], "A", .choice [.seq [call "A", x], .seq [y]]⟩]⟩
example : wfCheck leftRec {} = false := by decide +kernel
example : noLeftRecursion leftRec {} 64 = false := by decide +kernel
example : allClosuresOk leftRec 64 = true := by decide +kernel
/-- … also rejected when whitespace is not skipped, and when the rule is marked `@leftrec` -/
example : wfCheck leftRec { skipWhitespace := false } = false := by decide +kernel
example : wfCheck ⟨[.rule ⟨[.leftrec], "A", .choice [.seq [call "A", x], .seq [y]]⟩]⟩ {} = false := by
  decide +kernel

/-- `A = {['x']};` – closure with a nullable body -/
def nullableClosure : Grammar :=
  ⟨[.rule ⟨[], "A", .choice [.seq [.closure (.choice [.seq [.opt (.choice [.seq [x]])]]) false]]⟩]⟩
example : wfCheck nullableClosure {} = false := by decide +kernel
example : allClosuresOk nullableClosure 64 = false := by decide +kernel
example : noLeftRecursion nullableClosure {} 64 = true := by decide +kernel

/-- `A = B 'x'; B = ['y'] A;` – indirect left recursion through a nullable prefix -/
def indirect : Grammar := ⟨[
  .rule ⟨[], "A", .choice [.seq [call "B", x]]⟩,
  .rule ⟨[], "B", .choice [.seq [.opt (.choice [.seq [y]]), call "A"]]⟩]⟩
example : wfCheck indirect {} = false := by decide +kernel
example : noLeftRecursion indirect {} 64 = false := by decide +kernel
/-- the same with a consuming prefix is fine: `A = B 'x' | 'x'; B = 'y' A;` -/
example : wfCheck ⟨[
  .rule ⟨[], "A", .choice [.seq [call "B", x], .seq [x]]⟩,
  .rule ⟨[], "B", .choice [.seq [y, call "A"]]⟩]⟩ {} = true := by decide +kernel

/-- a skipping `Whitespace` rule calls itself before consuming: rejected -/
example : wfCheck ⟨[.rule ⟨[], "Whitespace", .choice [.seq [.closure (.choice [.seq [.lit false [.chr ' ']]]) false]]⟩]⟩ {}
    = false := by decide +kernel
/-- an `@extern` rule may return length 0: a closure over it is rejected -/
example : wfCheck ⟨[.rule ⟨[], "A", .choice [.seq [.closure (.choice [.seq [call "E"]]) false]]⟩,
    .externRule ⟨["f"], none, "E"⟩]⟩ {} = false := by decide +kernel
/-- an include cycle is rejected (the depth fuel runs out) -/
example : wfTermN 64 ⟨[.rule ⟨[], "A", .choice [.seq [x, .incl "A"]]⟩]⟩ {} = false := by decide +kernel
/-- an undefined reference is rejected by `wfCheck` (but harmless for termination: it panics) -/
example : wfCheck ⟨[.rule ⟨[], "A", .choice [.seq [x, call "Nope"]]⟩]⟩ {} = false := by decide +kernel
example : wfTermN 64 ⟨[.rule ⟨[], "A", .choice [.seq [x, call "Nope"]]⟩]⟩ {} = true := by decide +kernel

end TermExamples

end Peg
