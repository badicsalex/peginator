import PegVerif.Proofs.Refine
/-
  Non-vacuity support: reusable concrete grammars / environments and small generic lemmas that turn
  the side conditions of the property theorems (`PureHooks`, `NoLeftrec`, …)
  into Bool checks the kernel can evaluate on a concrete grammar, and Bool-valued observations of a
  run into the existential premises the property theorems take.  The runs of the shared grammars that several
  properties are instantiated at are evaluated here, once (`env0_run`, `env0_spec`, `envHM_*`).
-/
namespace Peg

/-- Bool form of `NoLeftrec` -/
def noLeftrecB (g : Grammar) : Bool :=
  g.rules.all fun e => match e with
    | .rule r => !r.flags.leftRecursive
    | _ => true

end Peg

namespace Peg.NV
open Peg

/-! ### generic helpers -/

theorem noLeftrec_of {g : Grammar} (h : noLeftrecB g = true) : NoLeftrec g := by
  intro r hr
  have := (List.all_eq_true.mp h) _ hr
  simpa using this

/-- Bool form of `NoMemoG` -/
def noMemoB (g : Grammar) : Bool :=
  g.rules.all fun e => match e with
    | .rule r => !r.flags.memoize && !r.flags.leftRecursive
    | _ => true

/- `NoMemoG` is defined in Proofs/Attempts.lean, which this file does not import: `noMemoB g = true → NoMemoG g` is
   `noMemoG_of` in Props/C10.lean. -/

theorem pure_default : PureHooks (default : Hooks) := ⟨fun _ _ _ => rfl, fun _ _ _ => rfl⟩

/-- the run answered (not out of fuel): name its result and final global -/
theorem run_eq {α} {o : Out α} (h : o.isSome = true) : o = some ((o.get h).1, (o.get h).2) := by
  cases o with
  | none => cases h
  | some x => rfl

/-- a Bool observation of a successful run gives the premise `o = some (.ok v s, g)` -/
theorem ok_of {α} {o : Out α} (p : α → St → Global → Bool)
    (h : (match o with | some (.ok v s, g) => p v s g | _ => false) = true) :
    ∃ v s g, o = some (.ok v s, g) ∧ p v s g = true := by
  match o, h with
  | some (.ok v s, g), h => exact ⟨v, s, g, rfl, h⟩

/-- a Bool observation of a failed run gives the premise `o = some (.err e, g)` -/
theorem err_of {α} {o : Out α} (p : PErr → Global → Bool)
    (h : (match o with | some (.err e, g) => p e g | _ => false) = true) :
    ∃ e g, o = some (.err e, g) ∧ p e g = true := by
  match o, h with
  | some (.err e, g), h => exact ⟨e, g, rfl, h⟩

/-- the same for the reference semantics -/
theorem sok_of {α} {o : Spec.SOut α} (p : α → St → Bool)
    (h : (match o with | some (.ok v s) => p v s | _ => false) = true) :
    ∃ v s, o = some (.ok v s) ∧ p v s = true := by
  match o, h with
  | some (.ok v s), h => exact ⟨v, s, rfl, h⟩

/-- a failing reference run -/
theorem serr_of {α} {o : Spec.SOut α}
    (h : (match o with | some (.err e) => e == Spec.noErr | _ => false) = true) : o = some (.err Spec.noErr) := by
  match o, h with
  | some (.err e), h => simp at h; subst h; rfl

/-- `getFields` answered: it answered `ownFields` (a `List FieldDesc`, which has decidable equality) -/
theorem getFields_ok_of {env : Env} {e : Expr}
    (h : (match getFields env.g env.nf e with | .ok _ => true | _ => false) = true) :
    getFields env.g env.nf e = .ok (ownFields env e) := by
  unfold ownFields
  split <;> simp_all

/-! ### the running example

  ```
  @export S = first:Num { '+' rest:Num } | word:Word ;
  @string Num  = {'0'..'9'}+ ;
  @string Word = {'a'..'z'}+ ;
  ```
  two alternatives, a closure, three fields (arities Optional / Multiple / Optional), two `@string`
  rules; whitespace skipping on (so `"1 + 2"` has whitespace between tokens).  `ds`/`dn` are extra
  directives put on `S` / `Num` by the properties that need them (`@memoize`, `@position`, `@check`).
-/

def lit (c : Char) : Expr := .lit false [.chr c]
def digit : Expr := .range (.chr '0') (.chr '9')
def lower : Expr := .range (.chr 'a') (.chr 'z')

def ruleNum (dn : List Directive) : Rule :=
  ⟨.string :: dn, "Num", .choice [.seq [.closure (.choice [.seq [digit]]) true]]⟩
def ruleWord : Rule :=
  ⟨[.string], "Word", .choice [.seq [.closure (.choice [.seq [lower]]) true]]⟩
def ruleS (ds : List Directive) : Rule :=
  ⟨.export :: ds, "S",
    .choice [.seq [.field (some (.ident "first")) false "Num",
                   .closure (.choice [.seq [lit '+', .field (some (.ident "rest")) false "Num"]]) false],
             .seq [.field (some (.ident "word")) false "Word"]]⟩

def gram (ds dn : List Directive) : Grammar := ⟨[.rule (ruleS ds), .rule (ruleNum dn), .rule ruleWord]⟩

def envWith (ds dn : List Directive) (hooks : Hooks) : Env :=
  { g := gram ds dn, settings := {}, hooks := hooks, nf := 10 }

/-- the plain instance: no extra directives, default (pure) hooks -/
def env0 : Env := envWith [] [] default

/-- `"1 + 23"` (whitespace around the operator) -/
def inp1 : List UInt8 := [49, 32, 43, 32, 50, 51]
/-- `"1+"`: the closure body fails at offset 2 after `'+'` matched; the parse succeeds with 1 byte -/
def inp2 : List UInt8 := [49, 43]
/-- `"?"`: both alternatives fail at offset 0 -/
def inp3 : List UInt8 := [63]

theorem env0_pure : PureHooks env0.hooks := pure_default
theorem env0_noLeftrec : NoLeftrec env0.g := noLeftrec_of (by decide +kernel)

/-- the model and the reference semantics answer `"1 + 23"` with fuel 20 -/
theorem env0_run : (parseAdvanced env0 20 "S" inp1 0).isSome = true := by decide +kernel
theorem env0_spec : (Spec.parse env0 0 20 "S" inp1).isSome = true := by decide +kernel

/-- rendering of the tree of a successful run together with the end offset -/
def show' (o : Out Val) : Option (String × Nat) :=
  match o with
  | some (.ok v s, _) => some (v.render, s.off)
  | _ => none

/-- the reported error of a failed run -/
def reported (o : Out Val) : Option PErr :=
  match o with
  | some (.err e, _) => some e
  | _ => none

/-! ### a grammar that reaches one rule twice at the same offset

  ```
  @export S = a:Num '+' b:Num | a:Num '-' b:Num | w:Word ;
  @string Num = {'0'..'9'}+ ;   (directives `dn`, e.g. `@memoize`, `@position`)
  @string Word = {'a'..'z'}+ ;
  ```
  on `"1-2"` the first alternative matches `Num` at 0 and fails on `'+'`; the second alternative asks for `Num` at
  offset 0 again – with `@memoize Num` that is a cache hit. -/

def fld (n t : String) : Expr := .field (some (.ident n)) false t

def ruleH : Rule :=
  ⟨[.export], "S",
    .choice [.seq [fld "a" "Num", lit '+', fld "b" "Num"],
             .seq [fld "a" "Num", lit '-', fld "b" "Num"],
             .seq [fld "w" "Word"]]⟩

def envH (dn : List Directive) : Env :=
  { g := ⟨[.rule ruleH, .rule (ruleNum dn), .rule ruleWord]⟩, settings := {}, hooks := default, nf := 10 }

/-- `"1-2"` -/
def inpH : List UInt8 := [49, 45, 50]

/-! with `@memoize Num`: the whole parse; `Num` at offset 0 from the fresh global; `S` from the global that call left -/
theorem envHM_noLeftrec : NoLeftrec (envH [.memoize]).g := noLeftrec_of (by decide +kernel)
theorem envHM_run : (parseAdvanced (envH [.memoize]) 20 "S" inpH 0).isSome = true := by decide +kernel
theorem envHM_first : ((eval (envH [.memoize]) 20).rule "Num" (St.new inpH) (Global.init 0)).isSome = true := by
  decide +kernel
theorem envHM_second : ((eval (envH [.memoize]) 20).rule "S" (St.new inpH)
    (((eval (envH [.memoize]) 20).rule "Num" (St.new inpH) (Global.init 0)).get envHM_first).2).isSome = true := by
  decide +kernel

/-- number of `Cache hit` messages in a log -/
def hits (l : List Ev) : Nat := (l.filter fun e => match e with | .info "Cache hit" => true | _ => false).length

/-- number of body evaluations of `(name, off)` recorded in a log -/
def bodyEvals (l : List Ev) (name : String) (off : Nat) : Nat :=
  (l.filter fun e => match e with | .bodyEval n o => n == name && o == off | _ => false).length

end Peg.NV

/-! ### user functions that really reject something

  The instance of property C14 (Props/C14.lean) and of its `LROk` version (LiftLR.lean).
  ```
  @export S = first:Num {'+' rest:Num} [v:Vowel] [x:Any] | word:Word ;
  @string @check(small) @check(m::odd) Num = {'0'..'9'}+ ;     -- at most one digit, and an odd one
  @char @check(vowel) Vowel = 'a'..'z' ;                         -- a lowercase letter that is a vowel
  @extern(any) Any ;                                             -- one byte of anything
  @string Word = {'a'..'z'}+ ;
  ```
  `ctr = true` makes every check increment the user context (for `C14_context_threaded`). -/

namespace Peg.Props.C14_nv
open Peg Peg.NV

def hooksU (ctr : Bool) : Hooks :=
  { extern := fun f bs u =>
      if f == "any" then (match bs with | b :: _ => (.ok (.ext "any" b.toNat, 1), u) | [] => (.error "eof", u))
      else (.error "no such extern", u)
    check := fun f v u =>
      ((match v with
        | .str bs => if f == "small" then decide (bs.length ≤ 1) else if f == "m::odd" then bs.all (fun b => b % 2 == 1) else true
        | _ => true), if ctr then u + 1 else u)
    charCheck := fun f c => f == "vowel" && ['a', 'e', 'i', 'o', 'u'].contains c }

def numChecks : List Directive := [.check ["small"], .check ["m", "odd"]]
def ruleSU : Rule := ⟨[.export], "S",
  .choice [.seq [fld "first" "Num", .closure (.choice [.seq [lit '+', fld "rest" "Num"]]) false,
                 .opt (.choice [.seq [fld "v" "Vowel"]]), .opt (.choice [.seq [fld "x" "Any"]])],
           .seq [fld "word" "Word"]]⟩
def vowel : CharRule := ⟨[["vowel"]], "Vowel", [.range (.chr 'a') (.chr 'z')]⟩
def anyR : ExternRule := ⟨["any"], none, "Any"⟩
def envU (ctr : Bool) : Env :=
  { g := ⟨[.rule ruleSU, .rule (ruleNum numChecks), .charRule vowel, .externRule anyR, .rule ruleWord]⟩,
    settings := {}, hooks := hooksU ctr, nf := 10 }

/-- `"?x"` at offset 6 -/
def s6 : St := ⟨[63, 120], 6, none⟩

theorem hp : PureHooks (envU false).hooks :=
  ⟨fun f bs u => by
    simp only [envU, hooksU]
    split
    · split <;> rfl
    · rfl, fun _ _ _ => rfl⟩

end Peg.Props.C14_nv
