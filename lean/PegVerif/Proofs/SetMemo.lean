import PegVerif.Proofs.Flags
import PegVerif.Proofs.MapRules
import PegVerif.Proofs.RefineRule
/-
  "The reference semantics does not look at `@memoize`."

  `Grammar.setMemo M g` marks exactly the rules selected by `M` with `@memoize`.  Nothing the
  reference semantics consults changes (`Spec.eval_setMemo`), hence – by the refinement theorem –
  any two choices of memoized rules give the same answer (`memo_transparent`).
-/
namespace Peg
open Spec

/-- replace the @memoize marker of a rule -/
def Rule.setMemo (b : Bool) (r : Rule) : Rule :=
  { r with directives := r.directives.filter (fun d => d != .memoize) ++ (if b then [.memoize] else []) }

/-- mark exactly the rules selected by `M` (by name) with @memoize -/
def Grammar.setMemo (M : String → Bool) (g : Grammar) : Grammar :=
  { rules := g.rules.map fun e => match e with | .rule r => .rule (r.setMemo (M r.name)) | e => e }

def Env.setMemo (M : String → Bool) (env : Env) : Env := { env with g := env.g.setMemo M }

@[simp] theorem Env.setMemo_g (M : String → Bool) (env : Env) : (env.setMemo M).g = env.g.setMemo M := rfl
@[simp] theorem Env.setMemo_hooks (M : String → Bool) (env : Env) : (env.setMemo M).hooks = env.hooks := rfl
@[simp] theorem Env.setMemo_settings (M : String → Bool) (env : Env) :
    (env.setMemo M).settings = env.settings := rfl
@[simp] theorem Env.setMemo_nf (M : String → Bool) (env : Env) : (env.setMemo M).nf = env.nf := rfl

/-! ### basic facts about `Rule.setMemo` -/

@[simp] theorem Rule.setMemo_name (b : Bool) (r : Rule) : (r.setMemo b).name = r.name := rfl
@[simp] theorem Rule.setMemo_definition (b : Bool) (r : Rule) : (r.setMemo b).definition = r.definition := rfl

@[simp] theorem Rule.setMemo_checks (b : Bool) (r : Rule) : (r.setMemo b).checks = r.checks := by
  rw [← r.checks_filter (p := fun d => d != .memoize) fun _ => rfl]
  unfold Rule.checks Rule.setMemo
  cases b <;> simp

theorem Rule.setMemo_flags (b : Bool) (r : Rule) : (r.setMemo b).flags = { r.flags with memoize := b } := by
  simp only [Rule.flags_eq, Rule.setMemo]
  cases b <;> simp

@[simp] theorem Rule.setMemo_flags_noSkipWs (b : Bool) (r : Rule) :
    (r.setMemo b).flags.noSkipWs = r.flags.noSkipWs := by rw [Rule.setMemo_flags]
@[simp] theorem Rule.setMemo_flags_exported (b : Bool) (r : Rule) :
    (r.setMemo b).flags.exported = r.flags.exported := by rw [Rule.setMemo_flags]
@[simp] theorem Rule.setMemo_flags_string (b : Bool) (r : Rule) :
    (r.setMemo b).flags.string = r.flags.string := by rw [Rule.setMemo_flags]
@[simp] theorem Rule.setMemo_flags_position (b : Bool) (r : Rule) :
    (r.setMemo b).flags.position = r.flags.position := by rw [Rule.setMemo_flags]
@[simp] theorem Rule.setMemo_flags_leftRecursive (b : Bool) (r : Rule) :
    (r.setMemo b).flags.leftRecursive = r.flags.leftRecursive := by rw [Rule.setMemo_flags]
@[simp] theorem Rule.setMemo_flags_memoize (b : Bool) (r : Rule) : (r.setMemo b).flags.memoize = b := by
  rw [Rule.setMemo_flags]

/-! ### `setMemo` is a rule-wise edit that the field analysis and the reference semantics cannot see -/

theorem sameRef_setMemo (B : Rule → Bool) : SameRef (fun r => r.setMemo (B r)) :=
  ⟨fun _ => rfl, fun _ => rfl, fun r => Rule.setMemo_checks _ r, fun r => Rule.setMemo_flags_noSkipWs _ r,
   fun r => Rule.setMemo_flags_string _ r, fun r => Rule.setMemo_flags_position _ r⟩

theorem Grammar.setMemo_eq (M : String → Bool) (g : Grammar) :
    g.setMemo M = g.mapRules (fun r => r.setMemo (M r.name)) := by
  unfold Grammar.setMemo Grammar.mapRules
  congr 2

theorem Env.setMemo_eq (M : String → Bool) (env : Env) :
    env.setMemo M = env.mapRules (fun r => r.setMemo (M r.name)) := by
  unfold Env.setMemo Env.mapRules
  rw [Grammar.setMemo_eq]

theorem Grammar.findRule_setMemo (M : String → Bool) (g : Grammar) (n : String) :
    (g.setMemo M).findRule n = (g.findRule n).map (fun r => r.setMemo (M r.name)) := by
  rw [Grammar.setMemo_eq]
  exact Grammar.findRule_map _ (sameRef_setMemo _).name g n

theorem getFields_setMemo (M : String → Bool) (g : Grammar) (n : Nat) (e : Expr) :
    getFields (g.setMemo M) n e = getFields g n e := by
  rw [Grammar.setMemo_eq, getFields_mapRules (sameRef_setMemo _)]

namespace Spec

theorem externRule_setMemo (env : Env) (M : String → Bool) (u : Nat) (r : ExternRule) (s : St) :
    externRule (env.setMemo M) u r s = externRule env u r s := rfl

theorem eval_setMemo (env : Env) (M : String → Bool) (u : Nat) :
    ∀ n, Spec.eval (env.setMemo M) u n = Spec.eval env u n := by
  rw [Env.setMemo_eq]
  exact eval_mapRules (sameRef_setMemo _) env u

theorem parse_setMemo (env : Env) (M : String → Bool) (u fuel : Nat) (rule : String) (inp : List UInt8) :
    Spec.parse (env.setMemo M) u fuel rule inp = Spec.parse env u fuel rule inp := by
  simp only [parse, eval_setMemo]

end Spec

/-! ### `@leftrec` is untouched -/

/-- a rule-wise edit that keeps the `@leftrec` flags keeps `NoLeftrec` -/
theorem NoLeftrec_mapRules_iff {f : Rule → Rule} (hlr : ∀ r, (f r).flags.leftRecursive = r.flags.leftRecursive)
    (g : Grammar) : NoLeftrec (g.mapRules f) ↔ NoLeftrec g := by
  constructor
  · intro h r hr
    rw [← hlr]
    exact h _ (List.mem_map.2 ⟨.rule r, hr, rfl⟩)
  · intro h r hr
    obtain ⟨e, he, heq⟩ := List.mem_map.1 hr
    cases e with
    | rule r0 => cases heq; rw [hlr]; exact h r0 he
    | charRule _ | externRule _ => cases heq

theorem NoLeftrec_setMemo_iff {g : Grammar} (M : String → Bool) : NoLeftrec (g.setMemo M) ↔ NoLeftrec g := by
  rw [Grammar.setMemo_eq]
  exact NoLeftrec_mapRules_iff (fun r => Rule.setMemo_flags_leftRecursive _ r) g

/-! ### `@memoize` transparency -/

/-- the memoized model, with any set of memoized rules, refines the reference semantics of the
    grammar as written: it refines that of the marked grammar, which is the same -/
theorem memo_refines_spec (env : Env) (M : String → Bool) (hp : PureHooks env.hooks) (hnl : NoLeftrec env.g)
    (rule : String) (inp : List UInt8) (u n : Nat) {r g}
    (h : parseAdvanced (env.setMemo M) n rule inp u = some (r, g)) :
    ∃ m, Spec.parse env u m rule inp = some (Spec.abs r) := by
  obtain ⟨m, hm⟩ := parse_sound (env.setMemo M) hp ((NoLeftrec_setMemo_iff M).2 hnl) rule inp u n h
  exact ⟨m, Spec.parse_setMemo env M u m rule inp ▸ hm⟩

/-- @memoize transparency: any two choices of memoized rules give the same answer (acceptance, tree, consumed bytes; only
    the error payload may differ), for every input, whenever both runs finish. -/
theorem memo_transparent (env : Env) (M M' : String → Bool) (hp : PureHooks env.hooks) (hnl : NoLeftrec env.g)
    (rule : String) (inp : List UInt8) (u n n' : Nat) {r r' g g'}
    (h : parseAdvanced (env.setMemo M) n rule inp u = some (r, g))
    (h' : parseAdvanced (env.setMemo M') n' rule inp u = some (r', g')) :
    Spec.abs r = Spec.abs r' := by
  obtain ⟨m, hm⟩ := memo_refines_spec env M hp hnl rule inp u n h
  obtain ⟨m', hm'⟩ := memo_refines_spec env M' hp hnl rule inp u n' h'
  exact Spec.eval_rule_det env u hm hm'

end Peg
