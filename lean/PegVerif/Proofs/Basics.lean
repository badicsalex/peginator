import PegVerif.Proofs.Matchers
import PegVerif.Proofs.SpecLemmas
/-
  Facts about the model that the proofs share (the refinement proofs, and Trace, Positions, Boundary, Attempts, LeftRec,
  Sentinel): states and `clr`/`abs`; the cursor invariant `WfSt` (`rest = inp.drop off`), which every matcher and
  `advanceSafe` keep; the cache lookup/insert/emit algebra; `Cached R g`, every cached answer
  satisfies `R` of its key, the form of most invariants of the cache, with what an empty cache, an untouched cache
  and an insertion do to it; the checks of rules in closed form; the branches of `memoBody` and the inversion of a rule
  call; the body of a normal rule in one shape; the shape `caseR`/`caseS` shared by every node of the two evaluators that
  looks at the outcome of a sub-computation, with one `_step` equation per such node (the iteration of the grow loop and
  the `@memoize` miss among them) and `caseR_inv`, `Spec.caseS_ok_inv` for what an answer of such a node means; what
  holds of any predicate on functions (`congr_pred`, `ite_pred`); the induction on fuel (`eval_induction`) and what monotonicity in the fuel
  gives (`fuel_mono`, `fuel_det`); and what a success of `bindR`, `evalSeq`, `evalLoop` tells about its parts.
-/
namespace Peg
open Spec

/-- the cursor is consistent with the input: the remaining bytes are the input from `off` on -/
def WfSt (inp : List UInt8) (s : St) : Prop := s.rest = inp.drop s.off

@[simp] theorem clr_rest (s : St) : (clr s).rest = s.rest := rfl
@[simp] theorem clr_off (s : St) : (clr s).off = s.off := rfl
@[simp] theorem clr_far (s : St) : (clr s).far = none := rfl
@[simp] theorem clr_clr (s : St) : clr (clr s) = clr s := rfl

@[simp] theorem recordError_rest (s : St) (e : PErr) : (s.recordError e).rest = s.rest := by
  unfold St.recordError; split <;> (try split) <;> rfl
@[simp] theorem recordError_off (s : St) (e : PErr) : (s.recordError e).off = s.off := by
  unfold St.recordError; split <;> (try split) <;> rfl
@[simp] theorem clr_recordError (s : St) (e : PErr) : clr (s.recordError e) = clr s := by
  unfold St.recordError; split <;> (try split) <;> rfl

theorem wf_clr {inp s} : WfSt inp (clr s) ↔ WfSt inp s := Iff.rfl
theorem wf_recordError {inp s e} : WfSt inp (s.recordError e) ↔ WfSt inp s := by
  unfold WfSt; simp

theorem clr_eq_of_wf {inp s} (h : WfSt inp s) : clr s = ⟨inp.drop s.off, s.off, none⟩ := by
  unfold WfSt at h; cases s; simp_all [clr]

@[simp] theorem sliceUntil_clr (s s' : St) : (clr s).sliceUntil (clr s') = s.sliceUntil s' := rfl

@[simp] theorem abs_abs {α} (r : Res α) : abs (abs r) = abs r := by cases r <;> rfl
theorem abs_map {α β} (f : α → β) (r : Res α) : abs (r.map f) = (abs r).map f := by cases r <;> rfl

theorem map_ok {α β} {f : α → β} {r : Res α} {v s} (h : r.map f = .ok v s) : ∃ v0, r = .ok v0 s :=
  (Res.map_ok_inv h).imp fun _ h => h.1

/-- whether a run ended in a panic: the index of `Tr` (Trace.lean) and of `Rider.X` (RefineGen.lean), which say less of a
    run that a panic cut short -/
def Res.isPanic {α} : Res α → Bool
  | .panic _ => true
  | _ => false

/-! ### stepping over input: `advanceSafe` and the matchers; both keep the cursor consistent with the input -/

theorem abs_advanceSafe {α} (s : St) (n : Nat) (v : α) :
    abs ((clr s).advanceSafe n v) = abs (s.advanceSafe n v) := by
  unfold St.advanceSafe
  by_cases h : n > s.rest.length <;> by_cases h2 : isCharBoundary s.rest n <;> simp [h, h2, abs, clr]

/-- stepping over remaining bytes keeps the cursor consistent with the input -/
theorem wf_adv {inp} {s : St} (n : Nat) (hw : WfSt inp s) :
    WfSt inp { s with rest := s.rest.drop n, off := s.off + n } := by
  unfold WfSt at *; simp [hw, List.drop_drop]

theorem wf_advanceSafe {α inp} {s s' : St} {n : Nat} {v v' : α} (hw : WfSt inp s)
    (h : s.advanceSafe n v = .ok v' s') : WfSt inp s' := by
  obtain ⟨-, -, rfl⟩ := advanceSafe_ok_inv h
  exact wf_adv n hw

/-- a matcher keeps the cursor consistent with the input -/
theorem IsMatcher.wf {α} {m : St → Res α} (h : IsMatcher m) {inp s v s'} (hw : WfSt inp s)
    (hm : m s = .ok v s') : WfSt inp s' := by
  obtain ⟨n, -, rfl⟩ := h.ok_inv hm
  exact wf_adv n hw

/-! ### the global object: events, cache lookup and insertion, `Cached` -/

@[simp] theorem emit_cache (g : Global) (e : Ev) : (g.emit e).cache = g.cache := rfl
@[simp] theorem emit_uctx (g : Global) (e : Ev) : (g.emit e).uctx = g.uctx := rfl
@[simp] theorem emit_log (g : Global) (e : Ev) : (g.emit e).log = e :: g.log := rfl
@[simp] theorem emit_lookup (g : Global) (e : Ev) (k) : (g.emit e).lookup k = g.lookup k := rfl
@[simp] theorem insert_uctx (g : Global) (k v) : (g.insert k v).uctx = g.uctx := rfl
@[simp] theorem insert_log (g : Global) (k v) : (g.insert k v).log = g.log := rfl

theorem lookup_insert (g : Global) (k k' : String × Nat) (v : Res Val) :
    (g.insert k v).lookup k' = if k == k' then some v else g.lookup k' := by
  unfold Global.insert Global.lookup
  simp only [List.find?_cons]
  split <;> rename_i h
  · simp [h]
  · simp [h]

theorem LR.lookup_insert_self (g : Global) (k : String × Nat) (v : Res Val) :
    (g.insert k v).lookup k = some v := by
  rw [lookup_insert]; simp

theorem LR.lookup_insert_ne (g : Global) {k key : String × Nat} (x : Res Val) (h : k ≠ key) :
    (g.insert key x).lookup k = g.lookup k := by
  rw [lookup_insert]
  have : (key == k) = false := by
    apply Bool.eq_false_iff.2
    intro hb
    exact h (eq_of_beq hb).symm
  simp [this]

theorem lookup_of_cache_eq {g g' : Global} (h : g'.cache = g.cache) (k : String × Nat) :
    g'.lookup k = g.lookup k := by
  unfold Global.lookup; rw [h]

/-- every cached answer satisfies `R` of its key: the form of most invariants of the cache -/
def Cached (R : String × Nat → Res Val → Prop) (g : Global) : Prop := ∀ k r, g.lookup k = some r → R k r

namespace Cached
variable {R R' : String × Nat → Res Val → Prop} {g g' : Global}

theorem init (u : Nat) : Cached R (Global.init u) := fun _ _ h => nomatch h

/-- such an invariant does not see the log or the user context -/
theorem of_cache (hc : g'.cache = g.cache) (h : Cached R g) : Cached R g' :=
  fun k r hl => h k r (lookup_of_cache_eq hc k ▸ hl)

theorem insert {k : String × Nat} {r : Res Val} (h : Cached R g) (hr : R k r) : Cached R (g.insert k r) := by
  intro k' r' hl
  rw [lookup_insert] at hl
  split at hl
  · cases hl; exact eq_of_beq ‹_› ▸ hr
  · exact h k' r' hl

theorem mono (himp : ∀ k r, R k r → R' k r) (h : Cached R g) : Cached R' g := fun k r hl => himp k r (h k r hl)

/-- the form most invariants of the cache are written in: a condition on the cached successes -/
theorem ok_iff (Q : String × Nat → Val → St → Prop) :
    (∀ k v s', g.lookup k = some (.ok v s') → Q k v s') ↔ Cached (fun k r => ∀ v s', r = .ok v s' → Q k v s') g :=
  ⟨fun h k _ hl v s' hr => h k v s' (hr ▸ hl), fun h k v s' hl => h k _ hl v s' rfl⟩

/-- the same with name and offset of the key taken apart -/
theorem ok_iff₂ (Q : String → Nat → Val → St → Prop) :
    (∀ name off v s', g.lookup (name, off) = some (.ok v s') → Q name off v s') ↔
      Cached (fun k r => ∀ v s', r = .ok v s' → Q k.1 k.2 v s') g :=
  ⟨fun h k _ hl v s' hr => h k.1 k.2 v s' (hr ▸ hl), fun h n o v s' hl => h (n, o) _ hl v s' rfl⟩

end Cached

theorem traceResult_cache (g : Global) (r : Res Val) : (traceResult g r).cache = g.cache := by
  cases r <;> rfl
theorem traceResult_uctx (g : Global) (r : Res Val) : (traceResult g r).uctx = g.uctx := by
  cases r <;> rfl
theorem traceResult_lookup (g : Global) (r : Res Val) (k) : (traceResult g r).lookup k = g.lookup k := by
  cases r <;> rfl

/-! ### the checks of rules -/

/-- `@char` checks read the hooks only: their verdict is `Spec.charChecksOk`, a failing one reports the class at
    the cursor, and all they do to the global object is log the calls `l` made, a list that does not depend on it -/
theorem charChecks_eq (env : Env) (name : String) : ∀ fs c, ∃ l : List Ev, (∀ e ∈ l, ∃ f, e = Ev.charCheckCall f c) ∧
    ∀ s g, charChecks env name fs c s g =
      (if charChecksOk env fs c then none else some (s.reportError (.expectedCharacterClass name)),
        { g with log := l ++ g.log })
  | [], _ => ⟨[], nofun, fun _ _ => rfl⟩
  | f :: fs, c => by
    obtain ⟨l, hl, h⟩ := charChecks_eq env name fs c
    cases hb : env.hooks.charCheck ("::".intercalate f) c with
    | false =>
      exact ⟨[.charCheckCall ("::".intercalate f) c], fun e he => ⟨_, List.mem_singleton.1 he⟩, fun s g => by
        simp only [charChecks, charChecksOk, hb]; rfl⟩
    | true =>
      refine ⟨l ++ [.charCheckCall ("::".intercalate f) c], fun e he => ?_, fun s g => ?_⟩
      · rcases List.mem_append.1 he with he | he
        · exact hl e he
        · exact ⟨_, List.mem_singleton.1 he⟩
      · simp [charChecks, charChecksOk, hb, h, Global.emit]

/-- what a caller reads off the `@char` checks: their verdict; cache and user context are as before -/
theorem charChecks_inv {env : Env} {name : String} {fs c s} {g : Global} {o g'}
    (h : charChecks env name fs c s g = (o, g')) :
    (o.isNone = Spec.charChecksOk env fs c) ∧ g'.cache = g.cache ∧ g'.uctx = g.uctx := by
  obtain ⟨l, -, he⟩ := charChecks_eq env name fs c
  rw [he] at h
  cases h
  exact ⟨by cases Spec.charChecksOk env fs c <;> rfl, rfl, rfl⟩

/-- the `@check`s read the environment through its hooks only (of the reference: `Spec.runChecks_hooks`,
    `Spec.charChecksOk_hooks`; under `open Spec` the two pairs cannot share their names) -/
theorem runChecks_congr_hooks {envA envB : Env} (hh : envB.hooks = envA.hooks) : runChecks envB = runChecks envA := by
  funext fs
  induction fs with
  | nil => rfl
  | cons f fs ih => funext v s g; simp only [runChecks, hh, ih]

theorem charChecks_congr_hooks {envA envB : Env} (hh : envB.hooks = envA.hooks) (name : String) :
    charChecks envB name = charChecks envA name := by
  funext fs
  induction fs with
  | nil => rfl
  | cons f fs ih => funext c s g; simp only [charChecks, hh, ih]

/-! ### the branches of `memoBody`

  Three handles on the rule wrapper.  To compute what it answers: one equation per branch, below (`memoBody_hit`,
  `memoBody_miss` with `missGlobal`, `memoBody_plain`, `memoBody_lr_hit`, `memoBody_lr_miss`).  To show that a predicate on
  computations holds of it (those of EvalLogic.lean; `memoBody_log` of Trace.lean): `memoBody_step`, the whole function
  with its `@memoize` miss in the shape `caseR`, further down with the other `_step` equations.  To take a finished call
  apart: `MemoRun` and `memoBody_run` of GrowRun.lean, by named cases and without the fuel. -/

/-- the global state after a `@memoize` miss: non-panic results are inserted -/
def missGlobal (key : String × Nat) (res : Res Val) (g' : Global) : Global :=
  match res with
  | .panic _ => g'
  | _ => g'.insert key res

theorem missGlobal_log (key res g') : (missGlobal key res g').log = g'.log := by
  cases res <;> rfl

theorem missGlobal_lookup_ne {k key} (res g') (h : k ≠ key) : (missGlobal key res g').lookup k = g'.lookup k := by
  cases res with
  | panic m => rfl
  | _ => exact LR.lookup_insert_ne _ _ h

theorem missGlobal_of_ne_panic (key) {res} (g') (hnp : ∀ m, res ≠ .panic m) :
    missGlobal key res g' = g'.insert key res := by
  cases res with
  | panic m => exact absurd rfl (hnp m)
  | _ => rfl

theorem Cached.miss {R key res g'} (h : Cached R g') (hr : R key res) : Cached R (missGlobal key res g') := by
  cases res with
  | panic m => exact h
  | _ => exact h.insert hr

theorem memoBody_miss {flags : RuleFlags} {name : String} {body : St → Global → Out Val} {n : Nat}
    {s : St} {g : Global} {res : Res Val} {g' : Global}
    (hlr : flags.leftRecursive = false) (hm : flags.memoize = true)
    (hl : g.lookup (name, s.off) = none)
    (hb : body s (g.emit (.bodyEval name s.off)) = some (res, g')) :
    memoBody flags name body n s g = some (res, missGlobal (name, s.off) res g') := by
  unfold memoBody
  simp only [hlr, Bool.false_eq_true, if_false, hm, if_true, hl, hb]
  cases res <;> rfl

theorem memoBody_hit {flags : RuleFlags} {name : String} {body : St → Global → Out Val} {n : Nat}
    {s : St} {g : Global} {cached : Res Val}
    (hlr : flags.leftRecursive = false) (hm : flags.memoize = true)
    (hl : g.lookup (name, s.off) = some cached) :
    memoBody flags name body n s g = some (cached, g.emit (.info "Cache hit")) := by
  unfold memoBody
  simp only [hlr, Bool.false_eq_true, if_false, hm, if_true, hl]

theorem memoBody_plain {flags : RuleFlags} {name : String} {body : St → Global → Out Val} {n : Nat}
    {s : St} {g : Global}
    (hlr : flags.leftRecursive = false) (hm : ¬ flags.memoize = true) :
    memoBody flags name body n s g = body s g := by
  unfold memoBody
  simp only [hlr, Bool.false_eq_true, if_false, hm]

theorem memoBody_lr_hit {flags : RuleFlags} {name : String} {body : St → Global → Out Val} {n : Nat}
    {s : St} {g : Global} {cached : Res Val}
    (hlr : flags.leftRecursive = true) (hl : g.lookup (name, s.off) = some cached) :
    memoBody flags name body n s g = some (cached, g.emit (.info "Cache hit (left recursive)")) := by
  unfold memoBody
  simp only [hlr, if_true, hl]

theorem memoBody_lr_miss {flags : RuleFlags} {name : String} {body : St → Global → Out Val} {n : Nat}
    {s : St} {g : Global}
    (hlr : flags.leftRecursive = true) (hl : g.lookup (name, s.off) = none) :
    memoBody flags name body n s g =
      growLoop body (name, s.off) s n (.err (s.reportError .leftRecursionSentinel))
        (g.insert (name, s.off) (.err (s.reportError .leftRecursionSentinel))) := by
  unfold memoBody
  simp only [hlr, if_true, hl]

/-! ### a rule call: the lookup in the grammar, `normalRule` -/

theorem find_mem {g : Grammar} {name : String} {e : RuleEntry} (hf : g.find name = some e) :
    e ∈ g.rules ∧ e.name = name := by
  refine ⟨List.mem_of_find?_eq_some hf, ?_⟩
  have := List.find?_some hf
  simpa using this

theorem find_rule_name {g : Grammar} {name : String} {r : Rule} (h : g.find name = some (.rule r)) :
    r.name = name :=
  (find_mem h).2

/-- a call of a rule that the grammar defines as a normal rule is a `normalRule` -/
theorem eval_rule_normal {env : Env} {n : Nat} {name : String} {r0 : Rule} {s : St} {g : Global} {o}
    (hf : env.g.find name = some (.rule r0)) (h : (eval env n).rule name s g = some o) :
    ∃ n', normalRule env (eval env n') n' r0 s g = some o := by
  cases n with
  | zero => simp [eval] at h
  | succ n => exact ⟨n, by simpa only [eval, step, stepRule, hf] using h⟩

/-- a call of `stepRule` is a `normalRule`, or the name is no normal rule of the grammar -/
theorem stepRule_cases {env : Env} {rec n name s g o} (h : stepRule env rec n name s g = some o) :
    (∃ r0, env.g.find name = some (.rule r0) ∧ normalRule env rec n r0 s g = some o) ∨
      ∀ r0, env.g.find name ≠ some (.rule r0) := by
  by_cases hn : ∃ r0, env.g.find name = some (.rule r0)
  · obtain ⟨r0, hf⟩ := hn
    exact .inl ⟨r0, hf, by simpa only [stepRule, hf] using h⟩
  · exact .inr fun r0 he => hn ⟨r0, he⟩

/-- an answer of a normal rule is an answer of its (memoized) body after the start event, with the result traced -/
theorem normalRule_eq_some {env : Env} {rec : Rec} {n : Nat} {r : Rule} {s : St} {g g' : Global} {res : Res Val}
    (h : normalRule env rec n r s g = some (res, g')) :
    ∃ g1, memoBody r.flags r.name (ruleBody env rec r) n s (g.emit (.traceStart r.name s.off)) = some (res, g1) ∧
      g' = traceResult g1 res := by
  simp only [normalRule] at h
  split at h
  · cases h
  · next res1 g1 hx =>
    cases h
    exact ⟨g1, hx, rfl⟩

/-! ### the body of a normal rule, in one shape

  Model and reference build the value of a rule in the same way (`ruleShape`, `ruleValue`, SpecLemmas.lean); `ruleBody_eq`
  and `Spec.ruleBody_eq` present both bodies as: the field analysis, the refusal of mixed fields, the definition, the
  value, the checks. -/

theorem ruleBody_eq {env : Env} {rec : Rec} {r : Rule} {fields s g}
    (hf : getFields env.g env.nf r.definition = .ok fields) :
    ruleBody env rec r s g =
      if ruleShape r fields = .mixed then
        some (.panic "uncompilable: Mixing simple and override fields is not allowed.", g)
      else
        bindR (rec.expr (ruleCtx env r fields) r.definition s g) fun p s' g' =>
          match ruleValue r fields s p s' with
          | .ok v => runChecks env r.checks v s' g'
          | .error m => some (.panic m, g') := by
  unfold ruleBody
  simp only [hf, ruleValue, ruleShape, stringVal, structVal, ruleCtx]
  split
  · rfl
  · split
    · simp only [reduceCtorEq, if_false]
      congr 1; funext p s' g'
      cases p.get "_override" <;> rfl
    · split
      · rfl
      · simp only [reduceCtorEq, if_false]
        congr 1; funext p s' g'
        cases project fields p <;> rfl

/-! ### the outcome of a sub-computation

  Wherever an evaluator looks at the outcome of a sub-computation it does the same thing: running out
  of fuel and a panic propagate, a success continues one way, a failure another.  `caseR` (model) and
  `caseS` (reference) name that shape; the `_step` lemmas present each such node of the evaluators
  through it, so that an invariant is proved for the shape once. -/

def caseR {α β} (x : Out α) (ok : α → St → Global → Out β) (err : PErr → Global → Out β) : Out β :=
  match x with
  | none => none
  | some (.ok v s, g) => ok v s g
  | some (.err e, g) => err e g
  | some (.panic m, g) => some (.panic m, g)

def Spec.caseS {α β} (x : SOut α) (ok : α → St → SOut β) (err : SOut β) : SOut β :=
  match x with
  | none => none
  | some (.ok v s) => ok v s
  | some (.err _) => err
  | some (.panic m) => some (.panic m)

theorem bindR_eq_caseR {α β} (x : Out α) (k : α → St → Global → Out β) :
    bindR x k = caseR x k fun e g => some (.err e, g) := rfl

theorem bindR_caseR {α β γ} (x : Out α) (ok : α → St → Global → Out β) (err : PErr → Global → Out β)
    (K : β → St → Global → Out γ) :
    bindR (caseR x ok err) K = caseR x (fun v s g => bindR (ok v s g) K) fun e g => bindR (err e g) K := by
  unfold caseR
  split <;> rfl

/-- an answer of a node comes from the `ok` branch after a success of the sub-run, from the `err` branch after a
    failure, or is the sub-run's panic -/
theorem caseR_inv {α β} {x : Out α} {ok : α → St → Global → Out β} {err : PErr → Global → Out β} {r : Res β}
    {g' : Global} (h : caseR x ok err = some (r, g')) :
    (∃ v s g1, x = some (.ok v s, g1) ∧ ok v s g1 = some (r, g')) ∨
    (∃ e g1, x = some (.err e, g1) ∧ err e g1 = some (r, g')) ∨
    ∃ m, x = some (.panic m, g') ∧ r = .panic m := by
  rcases x with _ | ⟨_ | _ | _, g1⟩
  · cases h
  · exact .inl ⟨_, _, _, rfl, h⟩
  · exact .inr (.inl ⟨_, _, rfl, h⟩)
  · cases h; exact .inr (.inr ⟨_, rfl, rfl⟩)

theorem Spec.bindS_eq_caseS {α β} (x : SOut α) (k : α → St → SOut β) :
    bindS x k = caseS x k (some (.err noErr)) := rfl

/-- a success of `caseS` came through one of the two continuations -/
theorem Spec.caseS_ok_inv {α β} {x : SOut α} {ok : α → St → SOut β} {err : SOut β} {v : β} {s : St}
    (h : caseS x ok err = some (.ok v s)) :
    (∃ a s1, x = some (.ok a s1) ∧ ok a s1 = some (.ok v s)) ∨ err = some (.ok v s) := by
  match x, h with
  | some (.ok a s1), h => exact .inl ⟨a, s1, rfl, h⟩
  | some (.err _), h => exact .inr h

section
variable (env : Env) (ctx : Ctx) (fields : List FieldDesc)

theorem evalAlts_step (rec : Rec) (a : Expr) (as : List Expr) (s : St) (g : Global) :
    evalAlts env rec ctx fields (a :: as) s g =
      caseR (rec.expr ctx a s g)
        (fun r s' g' => match convertArm fields (ownFields env a) r with
          | .ok p => some (.ok p s', g')
          | .error m => some (.panic ("codegen: " ++ m), g'))
        fun e g' => evalAlts env rec ctx fields as (s.recordError e) g' := by
  rw [evalAlts]; unfold caseR
  split <;> simp only [*] <;> rfl

theorem Spec.evalAlts_step (rec : SRec) (a : Expr) (as : List Expr) (s : St) :
    Spec.evalAlts env rec ctx fields (a :: as) s =
      caseS (rec.expr ctx a s)
        (fun r s' => match convertArm fields (ownFields env a) r with
          | .ok p => some (.ok p s')
          | .error m => some (.panic ("codegen: " ++ m)))
        (Spec.evalAlts env rec ctx fields as s) := by
  rw [Spec.evalAlts]; unfold caseS
  split <;> simp only [*] <;> rfl

theorem evalLoop_step (body : St → Global → Out Parsed) (k iters : Nat) (acc : Parsed) (s : St) (g : Global) :
    evalLoop body fields (k + 1) iters acc s g =
      caseR (body s g)
        (fun r s' g' => match extendAll fields acc r with
          | .ok acc' => evalLoop body fields k (iters + 1) acc' s' g'
          | .error m => some (.panic ("codegen: " ++ m), g'))
        fun e g' => some (.ok (iters, acc) (s.recordError e), g') := by
  rw [evalLoop]; unfold caseR
  split <;> simp only [*] <;> rfl

theorem Spec.evalLoop_step (body : St → SOut Parsed) (k iters : Nat) (acc : Parsed) (s : St) :
    Spec.evalLoop body fields (k + 1) iters acc s =
      caseS (body s)
        (fun r s' => match extendAll fields acc r with
          | .ok acc' => Spec.evalLoop body fields k (iters + 1) acc' s'
          | .error m => some (.panic ("codegen: " ++ m)))
        (some (.ok (iters, acc) s)) := by
  rw [Spec.evalLoop]; unfold caseS
  split <;> simp only [*] <;> rfl

theorem opt_step (rec : Rec) (n : Nat) (b : Expr) (s : St) (g : Global) :
    stepExpr env rec n ctx (.opt b) s g =
      caseR (rec.expr ctx b s g) (fun r s' g' => some (.ok r s', g'))
        fun e g' => match defaults (filterRuleFields ctx.ruleFields (ownFields env b)) with
          | .ok p => some (.ok p (s.recordError e), g')
          | .error m => some (.panic ("codegen: " ++ m), g') := by
  rw [stepExpr]; unfold caseR
  split <;> simp only [*] <;> rfl

theorem Spec.opt_step (rec : SRec) (n : Nat) (b : Expr) (s : St) :
    Spec.stepExpr env rec n ctx (.opt b) s =
      caseS (rec.expr ctx b s) (fun r s' => some (.ok r s'))
        (match defaults (filterRuleFields ctx.ruleFields (ownFields env b)) with
          | .ok p => some (.ok p s)
          | .error m => some (.panic ("codegen: " ++ m))) := by
  rw [Spec.stepExpr]; unfold caseS
  split <;> simp only [*] <;> rfl

theorem neg_step (rec : Rec) (n : Nat) (b : Expr) (s : St) (g : Global) :
    stepExpr env rec n ctx (.neg b) s g =
      caseR (rec.expr ctx b s g) (fun _ _ g' => some (.err (s.reportError .negativeLookaheadFailed), g'))
        fun _ g' => some (.ok [] s, g') := by
  rw [stepExpr]; unfold caseR
  split <;> simp only [*] <;> rfl

theorem Spec.neg_step (rec : SRec) (n : Nat) (b : Expr) (s : St) :
    Spec.stepExpr env rec n ctx (.neg b) s =
      caseS (rec.expr ctx b s) (fun _ _ => some (.err noErr)) (some (.ok [] s)) := by
  rw [Spec.stepExpr]; unfold caseS
  split <;> simp only [*] <;> rfl

end

theorem charParts_step (rec : Rec) (name : String) (p : CharRulePart) (ps : List CharRulePart) (s : St)
    (g : Global) :
    charParts rec name (p :: ps) s g =
      caseR (match p with
        | .chr item => (match item.toChar with
          | .ok c => some ((parseCharacterLiteral s c).map .chr, g)
          | _ => some (.panic "uncompilable: char rule literal", g))
        | .range lo hi => (match lo.toChar, hi.toChar with
          | .ok lo, .ok hi => some ((parseCharacterRange s lo hi).map .chr, g)
          | _, _ => some (.panic "uncompilable: char rule range", g))
        | .ident id => rec.rule id s g)
        (fun v s' g' => some (.ok v s', g')) fun _ g' => charParts rec name ps s g' := by
  cases p with
  | chr item =>
    rw [charParts]; dsimp only
    cases item.toChar <;> dsimp only <;> try rfl
    cases parseCharacterLiteral s _ <;> rfl
  | range lo hi =>
    rw [charParts]; dsimp only
    cases lo.toChar <;> cases hi.toChar <;> dsimp only <;> try rfl
    cases parseCharacterRange s _ _ <;> rfl
  | ident id =>
    rw [charParts]; dsimp only
    rcases rec.rule id s g with _ | ⟨_ | _ | _, _⟩ <;> rfl

theorem Spec.charParts_step (rec : SRec) (p : CharRulePart) (ps : List CharRulePart) (s : St) :
    Spec.charParts rec (p :: ps) s =
      caseS (match p with
        | .chr item => (match item.toChar with
          | .ok c => some (abs ((parseCharacterLiteral s c).map .chr))
          | _ => some (.panic "uncompilable: char rule literal"))
        | .range lo hi => (match lo.toChar, hi.toChar with
          | .ok lo, .ok hi => some (abs ((parseCharacterRange s lo hi).map .chr))
          | _, _ => some (.panic "uncompilable: char rule range"))
        | .ident id => rec.rule id s)
        (fun v s' => some (.ok v s')) (Spec.charParts rec ps s) := by
  cases p with
  | chr item =>
    rw [Spec.charParts]; dsimp only
    cases item.toChar <;> dsimp only <;> try rfl
    cases parseCharacterLiteral s _ <;> rfl
  | range lo hi =>
    rw [Spec.charParts]; dsimp only
    cases lo.toChar <;> cases hi.toChar <;> dsimp only <;> try rfl
    cases parseCharacterRange s _ _ <;> rfl
  | ident id =>
    rw [Spec.charParts]; dsimp only
    rcases rec.rule id s with _ | _ | _ | _ <;> rfl

/-- the grow loop goes on after a success that ends further than `best` (or when there is no success yet) -/
def improves (best : Res Val) (ns : St) : Bool :=
  match best with
  | .ok _ bs => ns.isFurtherThan bs
  | _ => true

/-- what the loop does to the global object before it calls the body -/
def growPre (key : String × Nat) (g : Global) : Global :=
  (g.emit (.info "Starting new left recursive loop")).emit (.bodyEval key.1 key.2)

@[simp] theorem growPre_lookup (key k : String × Nat) (g : Global) :
    (growPre key g).lookup k = g.lookup k := rfl
@[simp] theorem growPre_cache (key : String × Nat) (g : Global) : (growPre key g).cache = g.cache := rfl
@[simp] theorem growPre_uctx (key : String × Nat) (g : Global) : (growPre key g).uctx = g.uctx := rfl

/-- one iteration of the grow loop: the body runs after the two events; a success that improves on `best` is
    entered and the loop goes on, the first failure is entered, anything else ends the loop with `best`.  For predicates
    on computations and, with `caseR_inv`, to take an answer apart -/
theorem growLoop_step (body : St → Global → Out Val) (key : String × Nat) (s : St) (k : Nat) (best : Res Val)
    (g : Global) :
    growLoop body key s (k + 1) best g =
      caseR (body s (growPre key g))
        (fun v ns g' =>
          if improves best ns then
            growLoop body key s k (.ok v ns) (g'.insert key (.ok v ns))
          else some (best, g'))
        fun e g' => match best with
          | .ok _ _ => some (best, g')
          | _ => some (.err e, g'.insert key (.err e)) := by
  rw [growLoop]; unfold caseR improves growPre
  split <;> simp only [*]
  · cases best <;> simp
  · cases best <;> rfl

/-- `memoBody` with its `@memoize` miss in the shape `caseR`: the body runs after the ghost event, its result is
    entered unless it is a panic -/
theorem memoBody_step (flags : RuleFlags) (name : String) (body : St → Global → Out Val) (n : Nat) (s : St)
    (g : Global) :
    memoBody flags name body n s g =
      if flags.leftRecursive then
        match g.lookup (name, s.off) with
        | some cached => some (cached, g.emit (.info "Cache hit (left recursive)"))
        | none =>
          growLoop body (name, s.off) s n (.err (s.reportError .leftRecursionSentinel))
            (g.insert (name, s.off) (.err (s.reportError .leftRecursionSentinel)))
      else if flags.memoize then
        match g.lookup (name, s.off) with
        | some cached => some (cached, g.emit (.info "Cache hit"))
        | none =>
          caseR (body s (g.emit (.bodyEval name s.off)))
            (fun v s' g' => some (.ok v s', g'.insert (name, s.off) (.ok v s')))
            fun e g' => some (.err e, g'.insert (name, s.off) (.err e))
      else body s g := by
  unfold memoBody caseR
  dsimp only
  split
  · rfl
  · split
    · cases g.lookup (name, s.off) with
      | some c => rfl
      | none =>
        dsimp only
        split <;> simp only [*]
        rename_i r _ _ _
        cases r <;> simp_all
    · rfl

/-! ### what holds of any predicate on functions, and of any fuel-indexed computation -/

/-- a predicate on functions respects pointwise equality -/
theorem congr_pred {α β} {p : (α → β) → Prop} {f f' : α → β} (he : ∀ g, f g = f' g) (h : p f') : p f :=
  funext he ▸ h

/-- a predicate on functions passes through a test that does not look at the argument -/
theorem ite_pred {α β} {p : (α → β) → Prop} {c : Prop} [Decidable c] {f f' : α → β} (h1 : p f) (h2 : p f') :
    p fun g => if c then f g else f' g := by
  split
  · exact h1
  · exact h2

/-- of any fuel-indexed partial computation `f`: an answer that, once given, stays is the answer at every larger fuel -/
theorem fuel_mono {α} {f : Nat → Option α} (hs : ∀ n r, f n = some r → f (n + 1) = some r) {n m : Nat} (h : n ≤ m)
    {r} (hn : f n = some r) : f m = some r := by
  induction h with
  | refl => exact hn
  | step _ ih => exact hs _ _ ih

/-- two fuels that both answer give the same answer -/
theorem fuel_det {α} {f : Nat → Option α} (hs : ∀ n r, f n = some r → f (n + 1) = some r) {n m : Nat} {r r'}
    (h : f n = some r) (h' : f m = some r') : r = r' :=
  Option.some.inj ((fuel_mono hs (Nat.le_max_left n m) h).symm.trans (fuel_mono hs (Nat.le_max_right n m) h'))

/-- what holds of the evaluator without fuel and is kept by one more unit of fuel holds at every fuel -/
theorem eval_induction {env : Env} {R : Rec → Prop} (h0 : R ⟨fun _ _ _ _ => none, fun _ _ _ => none⟩)
    (hstep : ∀ rec n, R rec → R (step env rec n)) : ∀ n, R (eval env n)
  | 0 => h0
  | n + 1 => hstep _ n (eval_induction h0 hstep n)

/-! ### what a success of `bindR`, `withSkipWs`, `evalSeq`, `evalLoop` tells about its parts -/

theorem bindR_ok_inv {α β} {x : Out α} {k : α → St → Global → Out β} {w s' g'}
    (h : bindR x k = some (.ok w s', g')) : ∃ v s g, x = some (.ok v s, g) ∧ k v s g = some (.ok w s', g') := by
  unfold bindR at h
  split at h
  · cases h
  · exact ⟨_, _, _, rfl, h⟩
  · cases h
  · cases h

/-- a success under the whitespace skip is a success of the continuation, from where the skip ended -/
theorem withSkipWs_ok_inv {α} {rec : Rec} {ctx : Ctx} {s : St} {g : Global} {k : St → Global → Out α} {v s' g'}
    (h : withSkipWs rec ctx s g k = some (.ok v s', g')) : ∃ s1 g1, k s1 g1 = some (.ok v s', g') := by
  unfold withSkipWs at h
  split at h
  · obtain ⟨_, s1, g1, -, h⟩ := bindR_ok_inv h
    exact ⟨s1, g1, h⟩
  · exact ⟨s, g, h⟩

/-- a successful sequence: its first part succeeds, its fields are merged, the rest runs from there -/
theorem evalSeq_cons_ok {env : Env} {rec : Rec} {ctx : Ctx} {p ps seen acc s g x s' g'}
    (h : evalSeq env rec ctx (p :: ps) seen acc s g = some (.ok x s', g')) :
    ∃ r s1 g1 seen1 acc1, rec.expr ctx p s g = some (.ok r s1, g1) ∧
      mergePart (filterRuleFields ctx.ruleFields (ownFields env p)) seen acc r = .ok (seen1, acc1) ∧
      evalSeq env rec ctx ps seen1 acc1 s1 g1 = some (.ok x s', g') := by
  rw [evalSeq] at h
  obtain ⟨r, s1, g1, hx, h⟩ := bindR_ok_inv h
  cases hm : mergePart (filterRuleFields ctx.ruleFields (ownFields env p)) seen acc r with
  | error m => simp [hm] at h
  | ok y =>
    obtain ⟨seen1, acc1⟩ := y
    simp only [hm] at h
    exact ⟨r, s1, g1, seen1, acc1, hx, hm, h⟩

/-- a successful closure run: the body fails and the run ends there, or it succeeds, its fields are appended and the
    rest runs from there -/
theorem evalLoop_succ_ok {body : St → Global → Out Parsed} {fields : List FieldDesc} {k iters acc s g x s' g'}
    (h : evalLoop body fields (k + 1) iters acc s g = some (.ok x s', g')) :
    (∃ e, body s g = some (.err e, g') ∧ x = (iters, acc) ∧ s' = s.recordError e) ∨
    ∃ r s1 g1 acc1, body s g = some (.ok r s1, g1) ∧ extendAll fields acc r = .ok acc1 ∧
      evalLoop body fields k (iters + 1) acc1 s1 g1 = some (.ok x s', g') := by
  rw [evalLoop_step] at h
  rcases caseR_inv h with ⟨r, s1, g1, hx, h⟩ | ⟨e, g1, hx, h⟩ | ⟨m, hx, hr⟩
  · split at h
    · next acc1 hacc1 => exact .inr ⟨r, s1, g1, acc1, hx, hacc1, h⟩
    · cases h
  · cases h
    exact .inl ⟨e, hx, rfl, rfl⟩
  · cases hr

end Peg
