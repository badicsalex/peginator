import PegVerif.Proofs.Refine
/-
  One traversal of `stepExpr` / `ruleBody` / `charParts` / the rules that are not normal rules against
  their reference counterparts, over a family `ev m σ` of reference evaluators and for an abstract
  invariant `RefSys`.  It serves both reference semantics because `Spec.eval` and `SpecLR.eval` are
  built from the same `Spec.stepExpr` and `Spec.ruleBody` (`SpecLR.step` changes the rule function
  only).  The refinement without left recursion is the instance with one evaluator and an invariant
  that ignores positions (`plainSys`, RefineExpr.lean), the refinement with left recursion the instance with
  heads and seed environments (`lrSys`, RefineLR.lean).

  Names: `G…` and `…_gx` are general in the invariant (`GPost` for `Post`, `GRef` for `Ref` of Refine.lean; `x`: with
  the rider), `RefSys` is the system of invariants a refinement is an instance of, `fr`/`frE` are frames: what a sub-run
  keeps between its two ends.  An instance supplies `RefSys.Laws` and, with the hypothesis on the recursive calls
  (`GRef`), one fact about runs that is not a closure property of the invariant: the step from a sequence to its tail
  (`seqTail`); the wrapper of a normal rule (tracing, `memoBody`) is each instance's own.

  Besides the refinement (`GPost`) the traversal carries a `Rider`: a relation between the global states before
  and after a run that composes along the run.  With `Rider.triv` the lemmas say what `GPost` says; with the rider
  of PackratLRPure.lean (`PLR.count`: packrat transition and convergence of the rules started) they are the counting
  pass of C06, at both instances (PackratLRPure.lean, Packrat.lean).
-/
namespace Peg
open Spec

/-- what the traversal needs to know about the invariant.  `Sd` indexes the family of reference evaluators `ev m σ`
    (`Unit` for `Spec.eval`, `Seeds` for `SpecLR.eval`); `ev` itself is a parameter of `GRef`, not of `RefSys`.
    `safe` is the precondition on the model side, in which no `σ` occurs; `C` selects the `σ` for which the
    conclusion is claimed -/
structure RefSys (Sd : Type) where
  /-- positions in the grammar -/
  Pos : Type
  /-- the positions of an expression, a rule reference, a sequence of parts, a list of alternatives,
      the parts of a `@char` rule; the flag says whether whitespace is skipped -/
  pe : Bool → Expr → Pos
  pr : String → Pos
  pseq : Bool → List Expr → Pos
  palts : Bool → List Expr → Pos
  pparts : List CharRulePart → Pos
  /-- what is admissible at the first position is admissible at the second, at the same offset -/
  imp : Pos → Pos → Prop
  /-- cursor and global state before a run -/
  inv : St → Global → Prop
  /-- the global state after a failure -/
  invG : Global → Prop
  /-- the global state after a panic -/
  invP : Global → Prop
  /-- the position is admissible at this offset -/
  safe : Nat → Pos → Prop
  /-- the reference evaluators a run from this global state, offset and position answers for -/
  C : Global → Nat → Pos → Sd → Prop
  /-- the relation between cursor and global state before and after a successful sub-run that `Laws.next`
      may use (`lrSys`: the offset has not decreased and every cache entry is kept, `LR.Keeps`; `plainSys`: `True`) -/
  fr : St → Global → St → Global → Prop
  /-- the same for a failed sub-run, between the two global states -/
  frE : Global → Global → Prop

variable {Sd : Type}

/-- the invariant that goes with the outcome of a run -/
def RefSys.After (S : RefSys Sd) {α} (r : Res α) (g' : Global) : Prop :=
  match r with
  | .ok _ s' => S.inv s' g'
  | .err _ => S.invG g'
  | .panic _ => S.invP g'

/-- the postcondition: every `σ` of the set `C` (not the field `RefSys.C`, which supplies such sets) eventually
    answers `abs r`, and the invariant that goes with the outcome holds of the global state after the run -/
def GPost (S : RefSys Sd) (C : Sd → Prop) {α} (F : Sd → Nat → SOut α) (r : Res α) (g' : Global) : Prop :=
  (∀ σ, C σ → Evt (F σ) (abs r)) ∧ S.After r g'

/-- the frame of a sub-run: `fr` or `frE` between its two ends, by outcome; nothing after a panic -/
def RefSys.Frame (S : RefSys Sd) (s : St) (g : Global) {α} (r : Res α) (g' : Global) : Prop :=
  match r with
  | .ok _ s' => S.fr s g s' g'
  | .err _ => S.frE g g'
  | .panic _ => True

/-- `GPost` and `Frame`: what the recursive calls supply (`GRef`).  The lemmas below prove `GPost` (with the rider:
    `GPostX`) only: no node asks for the frame of a helper run (`evalSeq`, `evalLoop`) -/
def GFull (S : RefSys Sd) (s : St) (g : Global) (C : Sd → Prop) {α} (F : Sd → Nat → SOut α) (r : Res α)
    (g' : Global) : Prop :=
  GPost S C F r g' ∧ S.Frame s g r g'

/-- what `GFull` says of the model side alone: the invariant that goes with the outcome, and the frame -/
def RefSys.Out (S : RefSys Sd) (s : St) (g : Global) {α} (r : Res α) (g' : Global) : Prop :=
  S.After r g' ∧ S.Frame s g r g'

theorem GFull.out {S : RefSys Sd} {s g} {C : Sd → Prop} {α} {F : Sd → Nat → SOut α} {r : Res α} {g'}
    (h : GFull S s g C F r g') : S.Out s g r g' := ⟨h.1.2, h.2⟩

theorem GFull.evt {S : RefSys Sd} {s g} {C : Sd → Prop} {α} {F : Sd → Nat → SOut α} {r : Res α} {g'}
    (h : GFull S s g C F r g') {σ : Sd} (hσ : C σ) : Evt (F σ) (abs r) := h.1.1 σ hσ

/-- what is admissible at offset `p` and position `P` from the global state `g` is admissible at `p1`, `P'` from `g1`:
    the precondition, and every reference evaluator answered for -/
def RefSys.Moves (S : RefSys Sd) (g : Global) (p : Nat) (P : S.Pos) (g1 : Global) (p1 : Nat) (P' : S.Pos) : Prop :=
  (S.safe p P → S.safe p1 P') ∧ ∀ σ, S.C g p P σ → S.C g1 p1 P' σ

/-- the closure properties the traversal uses.  `next`: after a sub-run the position may
    change to one that follows from the one before *in case no input was consumed*; once input is consumed
    any position will do; a change of position at the same cursor is the case of a run of no steps (`moves_imp`
    below).  `fr_of_frE`: a failed sub-run keeps what a successful one that ends where it began keeps.  `inv_global`: same
    cursor, a later global state.  From `terminal_ws` on, one law per edge of
    the traversal: the position of the parent `imp` that of the child.  Only `uctx` mentions `u`: every instance fixes
    the user context, which `PureHooks` lets the user functions keep and `Spec.runChecks`/`Spec.externRule` take as a
    parameter.  Only `incl` mentions `env` -/
structure RefSys.Laws (S : RefSys Sd) (env : Env) (u : Nat) : Prop where
  invG_of_inv : ∀ {s g}, S.inv s g → S.invG g
  invP_of_invG : ∀ {g}, S.invG g → S.invP g
  inv_global : ∀ {s g g1}, S.inv s g → S.invG g1 → S.inv s g1
  inv_recErr : ∀ {s g} (e : PErr), S.inv s g → S.inv (s.recordError e) g
  inv_matcher : ∀ {α} {mt : St → Res α} {s g v s'}, IsMatcher mt → S.inv s g → mt s = .ok v s' → S.inv s' g
  frE_of_cache : ∀ {g g'}, g'.cache = g.cache → S.frE g g'
  fr_of_frE : ∀ {s g g'}, S.frE g g' → S.fr s g s g'
  uctx : ∀ {g}, S.invG g → g.uctx = u
  invG_congr : ∀ {g g'}, S.invG g → g'.cache = g.cache → g'.uctx = g.uctx → S.invG g'
  next : ∀ {s g s1 g1 P P'}, S.inv s g → S.fr s g s1 g1 → (s1.off = s.off → S.imp P P') →
    S.Moves g s.off P g1 s1.off P'
  imp_refl : ∀ P, S.imp P P
  terminal_ws : ∀ {w e t}, terminalOf e = some t → w = true → S.imp (S.pe w e) (S.pr "Whitespace")
  choice_alts : ∀ {w as}, S.imp (S.pe w (.choice as)) (S.palts w as)
  alts_head : ∀ {w a as}, S.imp (S.palts w (a :: as)) (S.pe w a)
  alts_tail : ∀ {w a as}, S.imp (S.palts w (a :: as)) (S.palts w as)
  seq_parts : ∀ {w ps}, S.imp (S.pe w (.seq ps)) (S.pseq w ps)
  parts_head : ∀ {w p ps}, S.imp (S.pseq w (p :: ps)) (S.pe w p)
  group : ∀ {w b}, S.imp (S.pe w (.group b)) (S.pe w b)
  opt : ∀ {w b}, S.imp (S.pe w (.opt b)) (S.pe w b)
  closure : ∀ {w b plus}, S.imp (S.pe w (.closure b plus)) (S.pe w b)
  neg : ∀ {w b}, S.imp (S.pe w (.neg b)) (S.pe w b)
  pos : ∀ {w b}, S.imp (S.pe w (.pos b)) (S.pe w b)
  incl : ∀ {w r rule}, env.g.findRule r = some rule → S.imp (S.pe w (.incl r)) (S.pe w rule.definition)
  field_ws : ∀ {w nm bx typ}, w = true → S.imp (S.pe w (.field nm bx typ)) (S.pr "Whitespace")
  field_typ : ∀ {w nm bx typ}, S.imp (S.pe w (.field nm bx typ)) (S.pr typ)
  char_head : ∀ {id ps}, S.imp (S.pparts (.ident id :: ps)) (S.pr id)
  char_tail : ∀ {p ps}, S.imp (S.pparts (p :: ps)) (S.pparts ps)

/-- what rides on the refinement traversal: a relation `X conv g b g'` between the global states before and after a
    run (`b`: the run ended in a panic), indexed by the set `conv` of fuels with which the reference computation of
    that run answers.  It composes along a run (`refl`, `weaken`, `seq`) and says what the three leaves that touch
    the global state do.  For the refinement alone it is trivial (`Rider.triv`); for the counting form of C06 it is
    the packrat transition together with the convergence of every rule started (`PLR.count`, PackratLRPure.lean). -/
structure Rider (env : Env) where
  X : (Nat → Prop) → Global → Bool → Global → Prop
  refl : ∀ conv g b, X conv g b g
  weaken : ∀ {conv conv' g b g'}, X conv g b g' → (∀ M, conv' M → conv M) → X conv' g b g'
  seq : ∀ {conv conv1 conv2 g g1 g2 b}, X conv1 g false g1 → X conv2 g1 b g2 →
    (∀ M, conv M → conv1 M ∧ conv2 M) → X conv g b g2
  runChecks : ∀ {conv fs v s g r g'}, Peg.runChecks env fs v s g = some (r, g') → X conv g r.isPanic g'
  charChecks : ∀ {conv name fs c s g o g'}, Peg.charChecks env name fs c s g = (o, g') → X conv g false g'
  extern : ∀ {conv r s g res g'}, externRule env r s g = some (res, g') → X conv g res.isPanic g'

def Rider.triv (env : Env) : Rider env where
  X _ _ _ _ := True
  refl _ _ _ := trivial
  weaken _ _ := trivial
  seq _ _ _ := trivial
  runChecks _ := trivial
  charChecks _ := trivial
  extern _ := trivial

/-- the fuels with which the reference computation `F` answers under some `σ` of the set `C` -/
def Conv (C : Sd → Prop) {α} (F : Sd → Nat → SOut α) : Nat → Prop := fun M => ∃ σ, C σ ∧ F σ M ≠ none

/-- `GPost` with the rider, for a run from the global state `g` -/
def GPostX {env : Env} (R : Rider env) (S : RefSys Sd) (g : Global) (C : Sd → Prop) {α} (F : Sd → Nat → SOut α)
    (r : Res α) (g' : Global) : Prop :=
  GPost S C F r g' ∧ R.X (Conv C F) g r.isPanic g'

/-- the hypothesis on the recursive calls: from `inv` and `safe` at the position of the expression or rule, `GFull`
    against the evaluators `ev m σ`, a family that grows with the fuel (`Spec.ExprChain`), and the rider (`exprX`,
    `ruleX`: the fields a counting pass adds to the hypothesis of the refinement) -/
structure GRef {env : Env} (R : Rider env) (S : RefSys Sd) (ev : Nat → Sd → SRec) (rec : Rec) :
    Prop where
  chain : Spec.ExprChain env ev
  expr : ∀ ctx e s g r g', rec.expr ctx e s g = some (r, g') → S.inv s g → S.safe s.off (S.pe ctx.skipWs e) →
    GFull S s g (S.C g s.off (S.pe ctx.skipWs e)) (fun σ m => (ev m σ).expr ctx e (clr s)) r g'
  rule : ∀ name s g r g', rec.rule name s g = some (r, g') → S.inv s g → S.safe s.off (S.pr name) →
    GFull S s g (S.C g s.off (S.pr name)) (fun σ m => (ev m σ).rule name (clr s)) r g'
  exprX : ∀ ctx e s g r g', rec.expr ctx e s g = some (r, g') → S.inv s g → S.safe s.off (S.pe ctx.skipWs e) →
    R.X (Conv (S.C g s.off (S.pe ctx.skipWs e)) fun σ m => (ev m σ).expr ctx e (clr s)) g r.isPanic g'
  ruleX : ∀ name s g r g', rec.rule name s g = some (r, g') → S.inv s g → S.safe s.off (S.pr name) →
    R.X (Conv (S.C g s.off (S.pr name)) fun σ m => (ev m σ).rule name (clr s)) g r.isPanic g'
  /-- the edge from a sequence to its tail (a part that certainly consumes input ends the constraint on the rest).
      Not a law of `S` like the other edges: whether `p` consumes input is a fact about its runs (progress), not about
      positions -/
  seqTail : ∀ ctx p ps s g v s1 g1, rec.expr ctx p s g = some (.ok v s1, g1) → S.inv s g → s1.off = s.off →
    S.imp (S.pseq ctx.skipWs (p :: ps)) (S.pseq ctx.skipWs ps)

section
variable {S : RefSys Sd} {env : Env} {u : Nat}

/-- a leaf: the run returns `r0` without touching the global state, the reference answers `abs r0` at every fuel.
    Where `r0` is a constructor application `ha` is `S.inv s' g0`, `S.invG g0` or `S.invP g0` -/
theorem GPost.leaf {C : Sd → Prop} {α} {F : Sd → Nat → SOut α} {r0 r : Res α} {g0 g'}
    (h : some (r0, g0) = some (r, g')) (hf : ∀ σ m, F σ m = some (abs r0)) (ha : S.After r0 g0) :
    GPost S C F r g' := by
  cases h
  exact ⟨fun σ _ => ⟨0, fun m _ => hf σ m⟩, ha⟩

variable {R : Rider env}

theorem GPostX.leaf {C : Sd → Prop} {α} {F : Sd → Nat → SOut α} {r0 r : Res α} {g0 g'}
    (h : some (r0, g0) = some (r, g')) (hf : ∀ σ m, F σ m = some (abs r0)) (ha : S.After r0 g0) :
    GPostX R S g0 C F r g' := by
  cases h
  exact ⟨.leaf rfl hf ha, R.refl _ _ _⟩

theorem GPostX.mono {g : Global} {C C' : Sd → Prop} {α} {F : Sd → Nat → SOut α} {r : Res α} {g'}
    (h : GPostX R S g C' F r g') (hc : ∀ σ, C σ → C' σ) : GPostX R S g C F r g' :=
  ⟨⟨fun σ hσ => h.1.1 σ (hc σ hσ), h.1.2⟩, R.weaken h.2 fun _ ⟨σ, hσ, hne⟩ => ⟨σ, hc σ hσ, hne⟩⟩

theorem GPostX.of_eq {g : Global} {C : Sd → Prop} {α} {F F' : Sd → Nat → SOut α} {r : Res α} {g'}
    (h : GPostX R S g C F r g') (he : ∀ σ m, F σ m = F' σ m) : GPostX R S g C F' r g' :=
  ⟨⟨fun σ hσ => (h.1.1 σ hσ).of_eq (he σ), h.1.2⟩, R.weaken h.2 fun _ ⟨σ, hσ, hne⟩ => ⟨σ, hσ, he σ _ ▸ hne⟩⟩

/-- `F'` is `F` from fuel `d` on and does not answer below -/
theorem GPostX.of_eq_from {g : Global} {C : Sd → Prop} {α} {F F' : Sd → Nat → SOut α} {r : Res α} {g'} (d : Nat)
    (h : GPostX R S g C F r g') (he : ∀ σ m, d ≤ m → F' σ m = F σ m) (hnone : ∀ σ m, m < d → F' σ m = none) :
    GPostX R S g C F' r g' := by
  refine ⟨⟨fun σ hσ => ?_, h.1.2⟩, R.weaken h.2 fun M ⟨σ, hσ, hne⟩ => ⟨σ, hσ, ?_⟩⟩
  · obtain ⟨m0, h0⟩ := h.1.1 σ hσ
    exact ⟨max m0 d, fun m hm => (he σ m (by omega)).trans (h0 m (by omega))⟩
  · by_cases hM : M < d
    · exact absurd (hnone σ M hM) hne
    · rwa [← he σ M (by omega)]

/-- a step of the model that the reference does not see, before the run: it has no reference computation whose fuels
    could index its rider, so `hx` is asked at all fuels -/
theorem GPostX.after {g g1 : Global} {C : Sd → Prop} {α} {F : Sd → Nat → SOut α} {r : Res α} {g'}
    (hx : R.X (fun _ => True) g false g1) (h : GPostX R S g1 C F r g') : GPostX R S g C F r g' :=
  ⟨h.1, R.seq hx h.2 fun _ hc => ⟨trivial, hc⟩⟩

/-- a sub-computation `x` and its reference counterparts `fx σ`: a success continues with `ok`/`sok` from
    where it ended, a failure with `err`/`serr`; the riders of the two parts compose, since the reference of the whole
    answers only if that of the sub-run does (`hfirst`) and then goes on from its answer (`hnext`, by `hdet`).
    `Fr` is what else the caller knows of the sub-run and its continuations need: the frame `S.Frame s g` where `x` is
    a recursive call (`GRef.expr_imp`, `GRef.rule_imp`), the frame of a failure at a part of a `@char` rule, nothing
    where `x` is a run of `evalSeq`/`evalLoop` -/
theorem caseR_gx {α β} {g : Global} {C : Sd → Prop} {x : Out α} {Fr : Res α → Global → Prop}
    {ok : α → St → Global → Out β} {err : PErr → Global → Out β} {r : Res β} {g' : Global}
    {fx : Sd → Nat → SOut α} {sok : Sd → Nat → α → St → SOut β} {serr : Sd → Nat → SOut β}
    (h : caseR x ok err = some (r, g'))
    (hx : ∀ rx gx, x = some (rx, gx) → GPostX R S g C fx rx gx ∧ Fr rx gx)
    (hdet : ∀ σ, Det (fx σ))
    (hok : ∀ v s1 g1, x = some (.ok v s1, g1) → ok v s1 g1 = some (r, g') → S.inv s1 g1 → Fr (.ok v s1) g1 →
      GPostX R S g1 C (fun σ m => sok σ m v (clr s1)) r g')
    (herr : ∀ e g1, err e g1 = some (r, g') → S.invG g1 → Fr (.err e) g1 → GPostX R S g1 C serr r g') :
    GPostX R S g C (fun σ m => caseS (fx σ m) (sok σ m) (serr σ m)) r g' := by
  match x, h, hx, hok with
  | some (rx, gx), h, hx, hok =>
    obtain ⟨⟨⟨hev, hinv⟩, hX⟩, hfr⟩ := hx rx gx rfl
    -- the reference of the whole answers only if that of the sub-run does, and then goes on from its answer
    have hfirst : ∀ M, Conv C (fun σ m => caseS (fx σ m) (sok σ m) (serr σ m)) M → Conv C fx M :=
      fun M ⟨σ, hσ, hc⟩ => ⟨σ, hσ, fun h0 => hc (by simp only [h0]; rfl)⟩
    have hnext : ∀ M, Conv C (fun σ m => caseS (fx σ m) (sok σ m) (serr σ m)) M →
        Conv C (fun σ m => caseS (some (abs rx)) (sok σ m) (serr σ m)) M := by
      rintro M ⟨σ, hσ, hc⟩
      refine ⟨σ, hσ, ?_⟩
      cases hfx : fx σ M with
      | none => exact absurd (by simp only [hfx]; rfl) hc
      | some y => simp only [hfx, hdet σ M y _ hfx (hev σ hσ)] at hc; exact hc
    suffices hpost : GPostX R S gx C (fun σ m => caseS (some (abs rx)) (sok σ m) (serr σ m)) r g' ∨
        (∃ m, rx = .panic m ∧ r = .panic m ∧ g' = gx) by
      rcases hpost with hpost | ⟨m, rfl, rfl, rfl⟩
      · refine ⟨⟨fun σ hσ => (hev σ hσ).after (F := fun m y => caseS y (sok σ m) (serr σ m)) (hpost.1.1 σ hσ),
          hpost.1.2⟩, ?_⟩
        cases rx with
        | panic m => cases h; exact R.weaken hX hfirst
        | _ => exact R.seq hX hpost.2 fun M hc => ⟨hfirst M hc, hnext M hc⟩
      · exact ⟨⟨fun σ hσ => (hev σ hσ).after (F := fun m y => caseS y (sok σ m) (serr σ m))
          ⟨0, fun _ _ => rfl⟩, hinv⟩, R.weaken hX hfirst⟩
    cases rx with
    | ok v s1 => exact .inl (hok v s1 gx rfl h hinv hfr)
    | err e => exact .inl (herr e gx h hinv hfr)
    | panic m => cases h; exact .inr ⟨m, rfl, rfl, rfl⟩

theorem bindR_gx {α β} {g : Global} {C : Sd → Prop} {x : Out α} {Fr : Res α → Global → Prop}
    {k : α → St → Global → Out β} {r : Res β} {g' : Global}
    {fx : Sd → Nat → SOut α} {fk : Sd → Nat → α → St → SOut β}
    (h : bindR x k = some (r, g'))
    (hx : ∀ rx gx, x = some (rx, gx) → GPostX R S g C fx rx gx ∧ Fr rx gx)
    (hdet : ∀ σ, Det (fx σ))
    (hk : ∀ v s1 g1, x = some (.ok v s1, g1) → k v s1 g1 = some (r, g') → S.inv s1 g1 → Fr (.ok v s1) g1 →
      GPostX R S g1 C (fun σ m => fk σ m v (clr s1)) r g') :
    GPostX R S g C (fun σ m => bindS (fx σ m) (fk σ m)) r g' :=
  caseR_gx (serr := fun _ _ => some (.err noErr)) h hx hdet hk
    fun _ _ h hg _ => .leaf h (fun _ _ => rfl) hg

variable {ev : Nat → Sd → SRec}

theorem GRef.le {rec : Rec} (h : GRef R S ev rec) (σ : Sd) {m m' : Nat} (hm : m ≤ m') :
    Spec.Le (ev m σ) (ev m' σ) :=
  h.chain.mono hm σ

theorem GRef.detE {rec : Rec} (hrec : GRef R S ev rec) (σ : Sd) (ctx : Ctx) (e : Expr) (st : St) :
    Det (fun m => (ev m σ).expr ctx e st) :=
  .of_mono fun _ _ _ hm h => (hrec.le σ hm).expr _ _ _ _ h

theorem GRef.detR {rec : Rec} (hrec : GRef R S ev rec) (σ : Sd) (name : String) (st : St) :
    Det (fun m => (ev m σ).rule name st) :=
  .of_mono fun _ _ _ hm h => (hrec.le σ hm).rule _ _ _ h

variable (hS : S.Laws env u)
include hS

theorem RefSys.Laws.invP_of_inv {s g} (hi : S.inv s g) : S.invP g := hS.invP_of_invG (hS.invG_of_inv hi)

theorem RefSys.Laws.fr_refl {s g} : S.fr s g s g := hS.fr_of_frE (hS.frE_of_cache rfl)

/-- the step of an `@extern` rule is that of a matcher -/
theorem RefSys.Laws.inv_advanceSafe {α} {s g n} {v v' : α} {s'} (hi : S.inv s g)
    (h : s.advanceSafe n v = .ok v' s') : S.inv s' g := by
  obtain ⟨rfl, hn, rfl⟩ := advanceSafe_ok_inv h
  exact hS.inv_matcher (.advance n v') hi (St.advance_of_le hn v')

theorem RefSys.Laws.moves_imp {s g} {P P' : S.Pos} (hi : S.inv s g) (himp : S.imp P P') :
    S.Moves g s.off P g s.off P' :=
  hS.next hi hS.fr_refl fun _ => himp

/-- after a failed sub-run, at the same offset -/
theorem RefSys.Laws.moves_err {s s' : St} {g g1} {P P' : S.Pos} (hi : S.inv s g) (hfr : S.frE g g1) (himp : S.imp P P')
    (hoff : s'.off = s.off) : S.Moves g s.off P g1 s'.off P' :=
  hoff.symm ▸ hS.next hi (hS.fr_of_frE hfr) fun _ => himp

theorem RefSys.Laws.after_of {α} {r : Res α} {g} (hg : S.invG g) (hok : ∀ v s', r = .ok v s' → S.inv s' g) :
    S.After r g := by
  cases r with
  | ok v s' => exact hok v s' rfl
  | err e => exact hg
  | panic m => exact hS.invP_of_invG hg

/-- a matcher call, on both sides -/
theorem GPostX.matcher {α} {mt : St → Res α} (hm : IsMatcher mt) {s : St} {g g' : Global} {r : Res α}
    {C : Sd → Prop} (h : some (mt s, g) = some (r, g')) (hi : S.inv s g) :
    GPostX R S g C (fun _ _ => some (abs (mt (clr s)))) r g' :=
  .leaf h (fun _ _ => by rw [hm.abs_clr]) (hS.after_of (hS.invG_of_inv hi) fun _ _ => hS.inv_matcher hm hi)

omit hS in
/-- what holds of a run from where the position has moved to holds of it from where it moved from -/
theorem GPostX.moves {g g1 g0 : Global} {p p1 : Nat} {P P' : S.Pos} {α} {F : Sd → Nat → SOut α} {r : Res α} {g'}
    (hm : S.Moves g p P g1 p1 P') (hs : S.safe p P)
    (h : S.safe p1 P' → GPostX R S g0 (S.C g1 p1 P') F r g') : GPostX R S g0 (S.C g p P) F r g' :=
  (h (hm.1 hs)).mono hm.2

variable {rec : Rec} (hrec : GRef R S ev rec)
include hrec


/-- a sub-expression evaluated at the same cursor, at a position that follows from the current one -/
theorem GRef.expr_imp {ctx : Ctx} {e : Expr} {s g r g'} {P : S.Pos} (himp : S.imp P (S.pe ctx.skipWs e))
    (hx : rec.expr ctx e s g = some (r, g')) (hi : S.inv s g) (hs : S.safe s.off P) :
    GPostX R S g (S.C g s.off P) (fun σ m => (ev m σ).expr ctx e (clr s)) r g' ∧ S.Frame s g r g' :=
  have hm := hS.moves_imp hi himp
  have h0 := hrec.expr _ _ _ _ _ _ hx hi (hm.1 hs)
  ⟨GPostX.mono ⟨h0.1, hrec.exprX _ _ _ _ _ _ hx hi (hm.1 hs)⟩ hm.2, h0.2⟩

theorem evalAlts_gx {ctx : Ctx} {fields} :
    ∀ as s g r g', evalAlts env rec ctx fields as s g = some (r, g') →
      S.inv s g → S.safe s.off (S.palts ctx.skipWs as) →
      GPostX R S g (S.C g s.off (S.palts ctx.skipWs as))
        (fun σ m => Spec.evalAlts env (ev m σ) ctx fields as (clr s)) r g' := by
  intro as
  induction as with
  | nil => exact fun s g r g' h hi _ => .leaf h (fun _ _ => rfl) (hS.invG_of_inv hi)
  | cons a as ih =>
    intro s g r g' h hi hs
    rw [evalAlts_step] at h
    simp only [Spec.evalAlts_step]
    refine caseR_gx h (fun _ _ hx => hrec.expr_imp hS hS.alts_head hx hi hs) (fun σ => hrec.detE σ _ _ _)
      (fun v s1 g1 _ h hi1 _ => ?_) fun e g1 h hg1 hfr => ?_
    · split at h
      · exact .leaf h (fun _ _ => by simp only [*, abs]) hi1
      · exact .leaf h (fun _ _ => by simp only [*, abs]) (hS.invP_of_inv hi1)
    · exact (GPostX.moves (hS.moves_err hi hfr hS.alts_tail (recordError_off s e)) hs
        (ih _ _ _ _ h (hS.inv_global (hS.inv_recErr e hi) hg1))).of_eq fun _ _ => by rw [clr_recordError]

/-- the closure loop.  The reference loop counts down from the fuel; after `d` iterations of the model it stands
    at `m - d` -/
theorem evalLoop_gx {ctx : Ctx} {b : Expr} {fields} :
    ∀ k d iters acc s g r g', evalLoop (rec.expr ctx b) fields k iters acc s g = some (r, g') →
      S.inv s g → S.safe s.off (S.pe ctx.skipWs b) →
      GPostX R S g (S.C g s.off (S.pe ctx.skipWs b))
        (fun σ m => Spec.evalLoop ((ev m σ).expr ctx b) fields (m - d) iters acc (clr s)) r g' := by
  intro k
  induction k with
  | zero => exact fun d iters acc s g r g' h => nomatch h
  | succ k ih =>
    intro d iters acc s g r g' h hi hs
    rw [evalLoop_step] at h
    refine GPostX.of_eq_from (d + 1) (caseR_gx
      (sok := fun σ m r s' => match extendAll fields acc r with
        | .ok acc' => Spec.evalLoop ((ev m σ).expr ctx b) fields (m - (d + 1)) (iters + 1) acc' s'
        | .error msg => some (.panic ("codegen: " ++ msg)))
      (serr := fun _ _ => some (.ok (iters, acc) (clr s)))
      h (fun _ _ hx => hrec.expr_imp hS (hS.imp_refl _) hx hi hs) (fun σ => hrec.detE σ _ _ _)
      (fun v s1 g1 _ h hi1 hfr => ?_)
      fun e g1 h hg1 _ => .leaf h (fun _ _ => by simp only [abs, clr_recordError])
        (hS.inv_global (hS.inv_recErr e hi) hg1))
      (fun σ m hm => ?_) fun σ m hm => ?_
    · split at h
      · rename_i acc' hacc
        exact (GPostX.moves (hS.next hi hfr fun _ => hS.imp_refl _) hs (ih (d + 1) _ _ _ _ _ _ h hi1)).of_eq
          fun _ _ => by simp only [hacc]
      · exact .leaf h (fun _ _ => by simp only [*, abs]) (hS.invP_of_inv hi1)
    · obtain ⟨c, hc⟩ : ∃ c, m - d = c + 1 := ⟨m - d - 1, by omega⟩
      obtain rfl : c = m - (d + 1) := by omega
      rw [hc, Spec.evalLoop_step]; rfl
    · obtain hz : m - d = 0 := by omega
      rw [hz]; rfl


theorem GRef.rule_imp {name : String} {s g r g'} {P : S.Pos} (himp : S.imp P (S.pr name))
    (hx : rec.rule name s g = some (r, g')) (hi : S.inv s g) (hs : S.safe s.off P) :
    GPostX R S g (S.C g s.off P) (fun σ m => (ev m σ).rule name (clr s)) r g' ∧ S.Frame s g r g' :=
  have hm := hS.moves_imp hi himp
  have h0 := hrec.rule _ _ _ _ _ hx hi (hm.1 hs)
  ⟨GPostX.mono ⟨h0.1, hrec.ruleX _ _ _ _ _ hx hi (hm.1 hs)⟩ hm.2, h0.2⟩

theorem withSkipWs_gx {α} {ctx : Ctx} {s : St} {g : Global} {P : S.Pos}
    {k : St → Global → Out α} {fk : Sd → Nat → St → SOut α} {r : Res α} {g' : Global}
    (h : Peg.withSkipWs rec ctx s g k = some (r, g')) (hi : S.inv s g) (hs : S.safe s.off P)
    (himp : ctx.skipWs = true → S.imp P (S.pr "Whitespace"))
    (hk : ∀ s1 g1, k s1 g1 = some (r, g') → S.inv s1 g1 → S.fr s g s1 g1 →
      GPostX R S g1 (S.C g s.off P) (fun σ m => fk σ m (clr s1)) r g') :
    GPostX R S g (S.C g s.off P) (fun σ m => Spec.withSkipWs (ev m σ) ctx (clr s) (fk σ m)) r g' := by
  unfold Peg.withSkipWs at h
  unfold Spec.withSkipWs
  split at h
  · simp only [if_pos ‹_ = true›]
    exact bindR_gx h (fun _ _ hx => hrec.rule_imp hS (himp ‹_›) hx hi hs) (fun σ => hrec.detR σ _ _)
      fun _ _ _ _ => hk _ _
  · simp only [if_neg ‹¬_›]
    exact hk _ _ h hi hS.fr_refl

theorem evalSeq_gx {ctx : Ctx} :
    ∀ ps seen acc s g r g', evalSeq env rec ctx ps seen acc s g = some (r, g') →
      S.inv s g → S.safe s.off (S.pseq ctx.skipWs ps) →
      GPostX R S g (S.C g s.off (S.pseq ctx.skipWs ps))
        (fun σ m => Spec.evalSeq env (ev m σ) ctx ps seen acc (clr s)) r g' := by
  intro ps
  induction ps with
  | nil => exact fun seen acc s g r g' h hi _ => .leaf h (fun _ _ => rfl) hi
  | cons p ps ih =>
    intro seen acc s g r g' h hi hs
    refine bindR_gx h (fun _ _ hx => hrec.expr_imp hS hS.parts_head hx hi hs) (fun σ => hrec.detE σ _ _ _)
      fun v s1 g1 hx h hi1 hfr => ?_
    simp only at h ⊢
    split at h
    · exact .leaf h (fun _ _ => by simp only [*, abs]) (hS.invP_of_inv hi1)
    · simp only [*]
      exact .moves (hS.next hi hfr (hrec.seqTail ctx p ps s g v s1 g1 hx hi)) hs (ih _ _ _ _ _ _ h hi1)

theorem stepExpr_gx (n : Nat) {ctx e s g r g'} (h : stepExpr env rec n ctx e s g = some (r, g'))
    (hi : S.inv s g) (hs : S.safe s.off (S.pe ctx.skipWs e)) :
    GPostX R S g (S.C g s.off (S.pe ctx.skipWs e)) (fun σ m => Spec.stepExpr env (ev m σ) m ctx e (clr s)) r g' := by
  match hterm : terminalOf e with
  | some (.ok mt) =>
    rw [stepExpr_terminal hterm] at h
    simp only [Spec.stepExpr_terminal hterm]
    exact withSkipWs_gx hS hrec h hi hs (hS.terminal_ws hterm)
      fun s1 g1 h hi1 _ => .matcher hS (isMatcher_of_terminalOf hterm) h hi1
  | some (.error msg) =>
    rw [stepExpr_terminal_error hterm] at h
    exact .leaf h (fun _ _ => Spec.stepExpr_terminal_error hterm _) (hS.invP_of_inv hi)
  | none =>
    cases e with
    | range | lit | eoi => simp [terminalOf] at hterm
    | choice alts =>
      match alts with
      | [] => exact .leaf h (fun _ _ => rfl) (hS.invP_of_inv hi)
      | [a] =>
        exact .moves (hS.moves_imp hi hS.choice_alts) hs fun hs => (hrec.expr_imp hS hS.alts_head h hi hs).1
      | a :: b :: rest =>
        exact .moves (hS.moves_imp hi hS.choice_alts) hs (evalAlts_gx hS hrec _ _ _ _ _ h hi)
    | seq parts =>
      match parts with
      | [] => exact .leaf h (fun _ _ => rfl) hi
      | [a] =>
        exact .moves (hS.moves_imp hi hS.seq_parts) hs fun hs => (hrec.expr_imp hS hS.parts_head h hi hs).1
      | a :: b :: rest =>
        refine bindR_gx h (fun _ _ hx =>
            ⟨.moves (hS.moves_imp hi hS.seq_parts) hs (evalSeq_gx hS hrec _ _ _ _ _ _ _ hx hi), trivial⟩)
          (fun σ => .of_mono fun _ _ _ hm h => Spec.evalSeq_le (hrec.le σ hm) _ _ _ _ _ h)
          fun (_, acc) s1 g1 _ h hi1 _ => ?_
        simp only at h ⊢
        split at h
        · exact .leaf h (fun _ _ => by simp only [*, abs]) hi1
        · exact .leaf h (fun _ _ => by simp only [*, abs]) (hS.invP_of_inv hi1)
    | group b =>
      exact (hrec.expr_imp hS hS.group h hi hs).1
    | opt b =>
      rw [opt_step] at h
      simp only [Spec.opt_step]
      refine caseR_gx h (fun _ _ hx => hrec.expr_imp hS hS.opt hx hi hs) (fun σ => hrec.detE σ _ _ _)
        (fun v s1 g1 _ h hi1 _ => .leaf h (fun _ _ => rfl) hi1) fun e g1 h hg1 _ => ?_
      split at h
      · exact .leaf h (fun _ _ => by simp only [*, abs, clr_recordError])
          (hS.inv_global (hS.inv_recErr e hi) hg1)
      · exact .leaf h (fun _ _ => by simp only [*, abs]) (hS.invP_of_invG hg1)
    | closure b plus =>
      simp only [stepExpr] at h
      simp only [Spec.stepExpr]
      split at h
      · exact .leaf h (fun _ _ => by simp only [*, abs]) (hS.invP_of_inv hi)
      · simp only [*]
        refine bindR_gx h (fun _ _ hx =>
            ⟨.moves (hS.moves_imp hi hS.closure) hs (evalLoop_gx hS hrec _ 0 _ _ _ _ _ _ hx hi), trivial⟩)
          (fun σ => .of_mono fun m m' _ hm h =>
            Spec.evalLoop_le ((hrec.le σ hm).expr ctx b) _ _ _ _ _ _ hm h)
          fun v s1 g1 _ h hi1 _ => ?_
        split at h
        · exact .leaf h (fun _ _ => if_pos ‹_›) (hS.invG_of_inv hi1)
        · exact .leaf h (fun _ _ => if_neg ‹_›) hi1
    | neg b =>
      rw [neg_step] at h
      simp only [Spec.neg_step]
      exact caseR_gx h (fun _ _ hx => hrec.expr_imp hS hS.neg hx hi hs) (fun σ => hrec.detE σ _ _ _)
        (fun _ _ g1 _ h hi1 _ => .leaf h (fun _ _ => rfl) (hS.invG_of_inv hi1))
        fun _ g1 h hg1 _ => .leaf h (fun _ _ => rfl) (hS.inv_global hi hg1)
    | pos b =>
      exact bindR_gx h (fun _ _ hx => hrec.expr_imp hS hS.pos hx hi hs) (fun σ => hrec.detE σ _ _ _)
        fun _ _ g1 _ h hi1 _ => .leaf h (fun _ _ => rfl) (hS.inv_global hi (hS.invG_of_inv hi1))
    | incl r0 =>
      simp only [stepExpr] at h
      simp only [Spec.stepExpr]
      split at h
      · exact .leaf h (fun _ _ => by simp only [*, abs]) (hS.invP_of_inv hi)
      · simp only [*]
        exact (hrec.expr_imp hS (hS.incl ‹_›) h hi hs).1
    | field name boxed typ =>
      refine withSkipWs_gx hS hrec h hi hs hS.field_ws fun s1 g1 h hi1 hfr1 => ?_
      refine .moves (hS.next hi hfr1 fun _ => hS.field_typ) hs fun hs1 =>
        bindR_gx h (fun _ _ hx => hrec.rule_imp hS (hS.imp_refl _) hx hi1 hs1) (fun σ => hrec.detR σ _ _)
          fun v s2 g2 _ h hi2 _ => ?_
      cases name with
      | none => exact .leaf h (fun _ _ => rfl) hi2
      | some nm =>
        simp only at h ⊢
        split at h
        · exact .leaf h (fun _ _ => by simp only [*, abs]) hi2
        · exact .leaf h (fun _ _ => by simp only [*, abs]) (hS.invP_of_inv hi2)

/-! ### the body of a normal rule, `@char` rules, `@extern` rules, builtins -/

omit hrec in
theorem runChecks_gpost (hp : PureHooks env.hooks) {C : Sd → Prop} :
    ∀ fs v s g r g', runChecks env fs v s g = some (r, g') → S.inv s g →
      GPost S C (fun _ _ => Spec.runChecks env u fs v (clr s)) r g' := by
  intro fs
  induction fs with
  | nil => exact fun v s g r g' h hi => .leaf h (fun _ _ => rfl) hi
  | cons f fs ih =>
    intro v s g r g' h hi
    obtain rfl := hS.uctx (hS.invG_of_inv hi)
    have hg1 := hS.invG_congr (hS.invG_of_inv hi)
      (g' := { g with uctx := (env.hooks.check ("::".intercalate f) v g.uctx).2 }.emit
        (.checkCall ("::".intercalate f) v.render g.uctx)) rfl (hp.2 _ _ _)
    simp only [runChecks] at h
    simp only [Spec.runChecks]
    split at h
    · exact .leaf h (fun _ _ => if_pos ‹_›) hg1
    · rw [if_neg ‹_›]
      exact ih _ _ _ _ _ h (hS.inv_global hi hg1)

theorem ruleBody_gx (hp : PureHooks env.hooks) {r0 : Rule} {s g r g'}
    (h : ruleBody env rec r0 s g = some (r, g')) (hi : S.inv s g)
    (hs : S.safe s.off (S.pe (env.settings.skipWhitespace && !r0.flags.noSkipWs) r0.definition)) :
    GPostX R S g (S.C g s.off (S.pe (env.settings.skipWhitespace && !r0.flags.noSkipWs) r0.definition))
      (fun σ m => Spec.ruleBody env u (ev m σ) r0 (clr s)) r g' := by
  cases hf : getFields env.g env.nf r0.definition with
  | ok fields =>
    rw [ruleBody_eq hf] at h
    simp only [Spec.ruleBody_eq hf]
    split at h
    · exact .leaf h (fun _ _ => if_pos ‹_›) (hS.invP_of_inv hi)
    · simp only [if_neg ‹¬_›]
      refine bindR_gx h (fun _ _ hx => hrec.expr_imp hS (hS.imp_refl _) hx hi hs) (fun σ => hrec.detE σ _ _ _)
        fun v s1 g1 _ h hi1 _ => ?_
      simp only [ruleValue_clr]
      cases hv : ruleValue r0 fields s v s1 <;> simp only [hv] at h ⊢
      · exact .leaf h (fun _ _ => rfl) (hS.invP_of_inv hi1)
      · exact ⟨runChecks_gpost hS hp _ _ _ _ _ _ h hi1, R.runChecks h⟩
  | err | fuel =>
    simp only [ruleBody, hf] at h
    exact .leaf h (fun _ _ => by simp only [Spec.ruleBody, hf, abs]) (hS.invP_of_inv hi)

theorem charParts_gx (name : String) :
    ∀ ps s g r g', charParts rec name ps s g = some (r, g') → S.inv s g → S.safe s.off (S.pparts ps) →
      GPostX R S g (S.C g s.off (S.pparts ps)) (fun σ m => Spec.charParts (ev m σ) ps (clr s)) r g' := by
  intro ps
  induction ps with
  | nil => exact fun s g r g' h hi _ => .leaf h (fun _ _ => rfl) (hS.invG_of_inv hi)
  | cons p ps ih =>
    intro s g r g' h hi hs
    rw [charParts_step] at h
    simp only [Spec.charParts_step]
    -- of a part only the frame of its failure is asked for: the remaining parts run from the same cursor
    have part : ∀ {F : Sd → Nat → SOut Val} {x rx : Res Val} {gx}, some (x, g) = some (rx, gx) →
        GPostX R S g (S.C g s.off (S.pparts (p :: ps))) F rx gx →
        GPostX R S g (S.C g s.off (S.pparts (p :: ps))) F rx gx ∧ ∀ e, rx = .err e → S.frE g gx :=
      fun hx hf => ⟨hf, by cases hx; exact fun _ _ => hS.frE_of_cache rfl⟩
    refine caseR_gx (Fr := fun rx gx => ∀ e, rx = .err e → S.frE g gx) h (fun rx gx hx => ?_) (fun σ => ?_)
      (fun v s1 g1 _ h hi1 _ => .leaf h (fun _ _ => rfl) hi1)
      fun e g1 h hg1 hfr => .moves (hS.moves_err hi (hfr e rfl) hS.char_tail rfl) hs
        (ih _ _ _ _ h (hS.inv_global hi hg1))
    · cases p with
      | chr item =>
        cases hi' : item.toChar <;> simp only [hi'] at hx ⊢
        · exact part hx (.matcher hS ((isMatcher_parseCharacterLiteral _).map _) hx hi)
        all_goals exact part hx (.leaf hx (fun _ _ => rfl) (hS.invP_of_inv hi))
      | range lo hi' =>
        cases hlo : lo.toChar <;> cases hhi : hi'.toChar <;> simp only [hlo, hhi] at hx ⊢
        · exact part hx (.matcher hS ((isMatcher_parseCharacterRange _ _).map _) hx hi)
        all_goals exact part hx (.leaf hx (fun _ _ => rfl) (hS.invP_of_inv hi))
      | ident id =>
        have hf := hrec.rule_imp hS hS.char_head hx hi hs
        exact ⟨hf.1, fun e he => by subst he; exact hf.2⟩
    · cases p with
      | chr item => dsimp only; cases item.toChar <;> exact Det.const _
      | range lo hi => dsimp only; cases lo.toChar <;> cases hi.toChar <;> exact Det.const _
      | ident id => exact hrec.detR σ _ _

/-- a name that is not a normal rule: a `@char` rule, an `@extern` rule or a builtin -/
theorem stepRule_other_gx (hp : PureHooks env.hooks) (n : Nat) {name s g r g'} {P : S.Pos}
    (hf : ∀ r0, env.g.find name ≠ some (.rule r0))
    (h : stepRule env rec n name s g = some (r, g')) (hi : S.inv s g) (hs : S.safe s.off P)
    (himp : ∀ cr, env.g.find name = some (.charRule cr) → S.imp P (S.pparts cr.choices)) :
    GPostX R S g (S.C g s.off P) (fun σ m => Spec.stepRule env u (ev m σ) name (clr s)) r g' := by
  have hg := hS.invG_of_inv hi
  unfold stepRule at h
  unfold Spec.stepRule
  split at h
  · exact absurd ‹_› (hf _)
  · rename_i cr hfind
    simp only [hfind]
    unfold charRule at h
    unfold Spec.charRule
    split at h
    · simp only [if_pos ‹_ = true›]
      exact .moves (hS.moves_imp hi (himp cr hfind)) hs (charParts_gx hS hrec _ _ _ _ _ _ h hi)
    · simp only [if_neg ‹¬_›, clr_rest]
      split at h
      · exact .leaf h (fun _ _ => by simp only [*, abs]) hg
      · rename_i c hd
        simp only [hd]
        split at h
        · rename_i e g1 hcc
          obtain ⟨h1, h2, h3⟩ := charChecks_inv hcc
          have hck : Spec.charChecksOk env cr.directives c = false := by simpa using h1.symm
          refine ⟨.leaf h (fun _ _ => by simp only [hck]; rfl) (hS.invG_congr hg h2 h3), ?_⟩
          cases h
          exact R.charChecks hcc
        · rename_i g1 hcc
          obtain ⟨h1, h2, h3⟩ := charChecks_inv hcc
          have hck : Spec.charChecksOk env cr.directives c = true := by simpa using h1.symm
          simp only [hck, if_true]
          exact .after (R.charChecks hcc) (.moves (hS.moves_err hi (hS.frE_of_cache h2) (himp cr hfind) rfl) hs
            (charParts_gx hS hrec _ _ _ _ _ _ h (hS.inv_global hi (hS.invG_congr hg h2 h3))))
  · rename_i er hfind
    simp only [hfind]
    have hX := R.extern (conv := Conv (S.C g s.off P) fun _ _ => Spec.externRule env u er (clr s)) h
    obtain rfl := hS.uctx hg
    have hg1 := hS.invG_congr hg
      (g' := { g with uctx := (env.hooks.extern ("::".intercalate er.function) s.rest g.uctx).2 }.emit
        (.externCall ("::".intercalate er.function) s.off g.uctx)) rfl (hp.1 _ _ _)
    unfold externRule at h
    unfold Spec.externRule at hX ⊢
    simp only [clr_rest] at h hX ⊢
    split at h
    · exact ⟨.leaf h (fun _ _ => by simp only [*, abs_advanceSafe])
        (hS.after_of hg1 fun _ _ e => hS.inv_advanceSafe (hS.inv_global hi hg1) e), hX⟩
    · exact ⟨.leaf h (fun _ _ => by simp only [*, abs]) hg1, hX⟩
  · simp only [*]
    split at h
    · simp only [if_pos ‹_ = true›]
      exact .matcher hS (isMatcher_parseChar.map _) h hi
    · simp only [if_neg ‹¬_›]
      split at h
      · simp only [if_pos ‹_ = true›]
        exact .matcher hS (isMatcher_parseWhitespace.map _) h hi
      · exact .leaf h (fun _ _ => by simp only [*]; rfl) (hS.invP_of_inv hi)


end
end Peg
