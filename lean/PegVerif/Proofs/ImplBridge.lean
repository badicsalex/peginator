import PegVerif.Proofs.Termination
import PegVerif.Proofs.Complete
/-
  With Termination.lean, the implementation model terminates on well-formed grammars: `parse_complete` applied to
  the answer of the reference semantics that `C01_terminates` gives.
-/
namespace Peg
open Spec

/-- the *implementation model* (the generated parser) terminates too, for grammars without
    `@leftrec` rules and user functions that do not modify the user context (through `parse_complete`),
    and its answer abstracts to the reference answer -/
theorem C01_terminates_impl (env : Env) (hp : PureHooks env.hooks) (hnl : NoLeftrec env.g)
    (hwf : wfCheck env.g env.settings = true) (rule : String) (inp : List UInt8) (u : Nat) :
    ∃ n r' g', parseAdvanced env n rule inp u = some (r', g') ∧
      ∃ m, Spec.parse env u m rule inp = some (Spec.abs r') := by
  obtain ⟨m, r, h⟩ := C01_terminates env u hwf rule inp
  obtain ⟨n, r', g', h', ha⟩ := parse_complete env hp hnl rule inp u m h
  exact ⟨n, r', g', h', m, by rw [ha]; exact h⟩

end Peg
