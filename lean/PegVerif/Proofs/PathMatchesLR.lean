import PegVerif.Proofs.PathMatches
import PegVerif.Proofs.CompleteLR
/-
  C02 ("the returned tree holds exactly the matches on the successful path, in order") for grammars
  WITH `@leftrec` rules of the class `LROk`.

  `PMLR.eval` is to `PM.eval` (PathMatches.lean: the reference evaluator without field plumbing – every
  construct returns the list of field matches on its successful path, a rule shapes the list once)
  what `SpecLR.eval` is to `Spec.eval`: the same evaluator, with a seed environment `σ` and the grow
  loop for `@leftrec` rules (`SpecLR.growLoop`, literally).  The recursive field of an extension step of a
  growth holds the seed, i.e. the tree of the previous step: the left-nested tree is, node by node, the
  shaping of the matches on the successful path of the LAST body evaluation that improved.

  The simulation and monotonicity lemmas of PathMatches.lean are stated for open recursion and are
  reused as they are; what is added to them is the grow loop, which is the same function on both sides
  (`SpecLR.growLoop_le`).  No hypothesis on the grammar is needed up to `C02_ruleLR`; the model of the
  generated parser comes in through `eval_refLR` and `parse_completeLR` (`PureHooks`, `LROk`).
-/
namespace Peg
open Spec SpecLR

namespace PMLR

/-- a path-match evaluator for every seed environment -/
abbrev PRecLR := Seeds → PM.PRec

def stepRule (env : Env) (u : Nat) (rec : PRecLR) (n : Nat) (σ : Seeds) (name : String) (s : St) :
    SOut Val :=
  match lrRule env name with
  | some r =>
    (match seedOf σ (r.name, s.off) with
     | some seed => some seed
     | none =>
       SpecLR.growLoop (fun seed => PM.ruleBody env u (rec (((r.name, s.off), seed) :: σ)) r s) n
         (.err noErr))
  | none => PM.stepRule env u (rec σ) name s

def step (env : Env) (u : Nat) (rec : PRecLR) (n : Nat) : PRecLR := fun σ =>
  { expr := PM.stepExpr env (rec σ) n, rule := stepRule env u rec n σ }

def eval (env : Env) (u : Nat) : Nat → PRecLR
  | 0 => fun _ => { expr := fun _ _ _ => none, rule := fun _ _ => none }
  | n+1 => step env u (eval env u n) n

/-- the path-match answer for an exported rule on an input: no head is growing -/
def parse (env : Env) (u : Nat) (fuel : Nat) (rule : String) (inp : List UInt8) : SOut Val :=
  (eval env u fuel []).rule rule (St.new inp)

/-! ### simulation -/

theorem stepRule_sim {env : Env} {u : Nat} {srec : SRecLR} {prec : PRecLR}
    (hsim : ∀ σ, PM.Sim env (srec σ) (prec σ)) (n : Nat) (σ : Seeds) :
    Spec.LeR (SpecLR.stepRule env u srec n σ) (stepRule env u prec n σ) := by
  intro name s r h
  unfold SpecLR.stepRule at h
  unfold stepRule
  cases hlr : lrRule env name with
  | some r0 =>
    simp only [hlr] at h ⊢
    cases hs : seedOf σ (r0.name, s.off) with
    | some seed => simp only [hs] at h ⊢; exact h
    | none =>
      simp only [hs] at h ⊢
      exact SpecLR.growLoop_le (fun seed r hx => PM.ruleBody_sim (hsim _) hx) _ _ _ _ (Nat.le_refl n) h
  | none =>
    simp only [hlr] at h ⊢
    exact PM.stepRule_sim (hsim σ) _ _ _ h

theorem eval_pgood (env : Env) (u : Nat) : ∀ n σ, PM.PGoodE env (eval env u n σ).expr := by
  intro n
  induction n with
  | zero => exact fun _ _ _ _ _ _ _ _ h => nomatch h
  | succ n ih => exact fun σ => PM.stepExpr_pgood (ih σ) n

/-- **the two reference semantics with left recursion are in simulation**, fuel by fuel, under every
    seed environment; no hypothesis on the grammar -/
theorem eval_sim (env : Env) (u : Nat) : ∀ n σ, PM.Sim env (SpecLR.eval env u n σ) (eval env u n σ) := by
  intro n
  induction n with
  | zero => exact fun _ => ⟨fun _ _ _ _ _ _ _ _ h => (nomatch h), fun _ _ _ h => (nomatch h)⟩
  | succ n ih => exact fun σ => ⟨PM.stepExpr_sim (ih σ) (eval_pgood env u n σ) n, stepRule_sim ih n σ⟩

/-! ### fuel monotonicity, uniqueness -/

def LeLR (a b : PRecLR) : Prop := ∀ σ, PM.Le (a σ) (b σ)

theorem stepRule_le {env u} {rec rec' : PRecLR} (hle : LeLR rec rec') {n m : Nat} (hnm : n ≤ m)
    (σ : Seeds) : Spec.LeR (stepRule env u rec n σ) (stepRule env u rec' m σ) := by
  intro name s r h
  unfold stepRule at h ⊢
  split at h
  · split at h
    · exact h
    · exact SpecLR.growLoop_le (fun seed r hx => PM.ruleBody_le (hle _) hx) _ _ _ _ hnm h
  · exact PM.stepRule_le (hle σ) _ _ _ h

theorem step_le {env u} {rec rec' : PRecLR} (hle : LeLR rec rec') {n m : Nat} (hnm : n ≤ m) :
    LeLR (step env u rec n) (step env u rec' m) :=
  fun σ => ⟨PM.stepExpr_le (hle σ) hnm, stepRule_le hle hnm σ⟩

theorem eval_le_succ (env : Env) (u : Nat) : ∀ n, LeLR (eval env u n) (eval env u (n + 1)) := by
  intro n
  induction n with
  | zero => exact fun _ => ⟨fun _ _ _ _ h => (nomatch h), fun _ _ _ h => (nomatch h)⟩
  | succ n ih => exact step_le ih (Nat.le_succ n)

theorem eval_rule_det (env : Env) (u : Nat) {n m : Nat} {σ name s r r'}
    (h : (eval env u n σ).rule name s = some r) (h' : (eval env u m σ).rule name s = some r') : r = r' :=
  fuel_det (f := fun n => (eval env u n σ).rule name s) (fun n r => (eval_le_succ env u n σ).rule name s r) h h'

/-- conservativity: without `@leftrec` rules, `PMLR.eval` is `PM.eval` -/
theorem eval_eq_pm {env : Env} (hnl : NoLeftrec env.g) (u : Nat) :
    ∀ n σ, eval env u n σ = PM.eval env u n := by
  intro n
  induction n with
  | zero => intro σ; rfl
  | succ n ih =>
    intro σ
    show step env u (eval env u n) n σ = PM.step env u (PM.eval env u n) n
    unfold step PM.step
    congr 1
    · rw [ih]
    · funext name s
      unfold stepRule
      rw [SpecLR.lrRule_none_of_noLeftrec hnl, ih]

end PMLR

/-! ## C02 with left recursion -/

/-- **C02, expression level, with left recursion.**  Under every seed environment: a successful
    evaluation of `e` by the reference semantics with the generated field plumbing returns exactly the
    shaping of the field matches `PMLR.eval` collects along the successful path (a recursive reference
    answered by a seed contributes ONE match: the seed's tree). -/
theorem C02_treeLR (env : Env) (u n : Nat) (σ : Seeds) {ctx : Ctx} {e : Expr} {own : List FieldDesc}
    {s s' : St} {p : Parsed}
    (hn : (ctx.ruleFields.map (·.name)).Nodup)
    (hget : getFields env.g env.nf e = .ok own)
    (hsub : SubFields own ctx.ruleFields)
    (h : (SpecLR.eval env u n σ).expr ctx e s = some (.ok p s')) :
    ∃ ms, (PMLR.eval env u n σ).expr ctx e s = some (.ok ms s') ∧
      shapeParsed ctx.ruleFields (filterRuleFields ctx.ruleFields own) ms = some p ∧
      PathOk own ms := by
  obtain ⟨ms, hms, hv⟩ := (PMLR.eval_sim env u n σ).expr ctx e own s hn hget hsub _ h
  exact ⟨ms, hms, shapeParsed_entries.mpr hv, PMLR.eval_pgood env u n σ _ _ _ _ _ _ hget hms⟩

/-- **C02, rule level, with left recursion.**  No hypothesis on the grammar. -/
theorem C02_ruleLR (env : Env) (u n : Nat) (σ : Seeds) {name : String} {s : St} {r : Res Val}
    (h : (SpecLR.eval env u n σ).rule name s = some r) : (PMLR.eval env u n σ).rule name s = some r :=
  (PMLR.eval_sim env u n σ).rule name s r h

theorem C02_parse_specLR (env : Env) (u n : Nat) {rule : String} {inp : List UInt8} {r : Res Val}
    (h : SpecLR.parse env u n rule inp = some r) : PMLR.parse env u n rule inp = some r :=
  C02_ruleLR env u n [] h

/-- **C02 for the model of the generated parser, with `@leftrec` rules.**  Whatever `parse_advanced`
    answers (grammar in the class `LROk`, any set of memoized rules outside the cycles, pure user
    functions) is the answer of `PMLR.eval`. -/
theorem C02_parse_resLR (env : Env) (hp : PureHooks env.hooks) (hok : LROk env.g env.settings)
    (rule : String) (inp : List UInt8) (u n : Nat) {r : Res Val} {g : Global}
    (h : parseAdvanced env n rule inp u = some (r, g)) :
    ∃ m, PMLR.parse env u m rule inp = some (abs r) := by
  obtain ⟨m, hm⟩ := eval_refLR env hp hok h
  exact ⟨m, C02_parse_specLR env u m hm⟩

/-- since the `PMLR` answer is unique, *every* answer of `PMLR` is the answer of the generated parser -/
theorem C02_parse_uniqueLR (env : Env) (hp : PureHooks env.hooks) (hok : LROk env.g env.settings)
    (rule : String) (inp : List UInt8) (u n m : Nat) {r r' : Res Val} {g : Global}
    (h : parseAdvanced env n rule inp u = some (r, g))
    (h' : PMLR.parse env u m rule inp = some r') : r' = abs r := by
  obtain ⟨m0, h0⟩ := C02_parse_resLR env hp hok rule inp u n h
  exact PMLR.eval_rule_det env u h' h0

/-- the converse through `parse_completeLR`: whenever the reference semantics with left recursion
    answers, the generated parser answers, and `PMLR` answers the same -/
theorem C02_parse_completeLR (env : Env) (hp : PureHooks env.hooks) (hok : LROk env.g env.settings)
    (rule : String) (inp : List UInt8) (u m : Nat) {r : Res Val}
    (h : SpecLR.parse env u m rule inp = some r) :
    PMLR.parse env u m rule inp = some r ∧
      ∃ n r' g', parseAdvanced env n rule inp u = some (r', g') ∧ abs r' = r :=
  ⟨C02_parse_specLR env u m h, parse_completeLR env hp hok rule inp u m h⟩

/-! ## non-vacuity -/

namespace PathLRExample
open LeftRecExample LRExample

/-- `@export @leftrec E = l:*E '+' r:Num | b:Num; @string Num = {'0'..'9'}+;` on `"1+2+3"`: the theorem
    applied to the run `LeftRecExample.parse_123` of the model -/
example : ∃ m, PMLR.parse envE 0 m "E" inp = some (.ok (extE 1 (extE 0 b0E)) (clr (stE 2))) := by
  obtain ⟨g', h⟩ := parse_123
  exact C02_parse_resLR envE pureDefault lrOk_envE "E" inp 0 12 h

/-- what `PMLR` computes, by evaluation: the same tree as `SpecLR` -/
example :
    (match PMLR.parse envE 0 12 "E" inp, SpecLR.parse envE 0 12 "E" inp with
     | some (.ok v s), some (.ok v' s') => v.render == v'.render && s.off == 5 && s'.off == 5
     | _, _ => false) = true := by
  rw [specLR_123]
  decide +kernel

/-- the matches on the successful path of the body of `E` at offset 0 under the seed `E{b:"1"}` ending at
    offset 1 (second iteration of the growth): `l` ↦ the seed's tree, `r` ↦ `"2"` – two matches, the
    abandoned alternative `b:Num` leaves none -/
example :
    (match (PMLR.eval envE 0 14 [(("E", 0), .ok b0E ⟨[43, 50, 43, 51], 1, none⟩)]).expr
        ⟨true, ownFields envE (.incl "E")⟩ ruleE.definition (St.new inp) with
     | some (.ok ms s) => ms.map (fun (m : FMatch) => (m.key, m.typ, m.val.render)) ==
          [("l", "E", b0E.render), ("r", "Num", "S\"32\"")] && s.off == 3
     | _ => false) = true := by decide +kernel

end PathLRExample

end Peg
