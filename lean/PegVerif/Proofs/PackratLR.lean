import PegVerif.Proofs.PackratBase
import PegVerif.Proofs.GrowRun
import PegVerif.Proofs.EvalLogic
import PegVerif.Proofs.NonVacuity
import PegVerif.Proofs.Matchers
import PegVerif.SpecLR
/-
  Property C06 (packrat / cache discipline) for ARBITRARY grammars – `@leftrec` rules allowed, no
  hypothesis on the grammar (`NoLeftrec`, `LROk`, … are not assumed).

  The ghost event `bodyEval name off` is emitted
    (a) by the `@memoize` branch of `memoBody` on a cache miss of a memoized, non-`@leftrec` rule,
    (b) by `growLoop` before EVERY iteration of the seed-and-grow loop of a `@leftrec` rule, which
        also re-inserts its key at each improving iteration.
  So "at most once / the cached value never changes / cached ⇒ no body evaluation" are statements
  about the keys `k` whose rule `k.1` is not a `@leftrec` rule (`¬ IsLR env k.1`); they hold
  wherever the memoized rule is called from, in particular from inside a grow loop.

  The pass is parametric in a predicate `P` on `s.off + s.rest.length` (an invariant of all
  matchers): `P := fun _ => True` gives the unconditional statements, `P := (· = inp.length)` the
  offsets-within-the-input statement needed for the bound.  `Proofs/Packrat.lean` specialises the
  results to grammars without `@leftrec` rules, where they speak of every key.

  One pass over the evaluator (`eval_pinv`, no hypothesis on the grammar) proves for every evaluation
  from `g` to `g'` with new events `l` (`Trans env P g b g' l`):
    * `mono`  entries of non-`@leftrec` keys are never removed or overwritten,
    * `pres`  no key at all is ever removed (`mono` is not claimed of `@leftrec` keys: the grow loop rewrites the
              entry it planted),
    * `hit`   a cached non-`@leftrec` key has no `bodyEval` event in `l`,
    * `done`  unless the evaluation panics, a non-`@leftrec` key with a `bodyEval` in `l` is cached in `g'`,
    * `once`  if `l` has no re-entry of a non-`@leftrec` key (`NoReM`) every such key has at most one
              `bodyEval` in `l`,
    * `evok`  every `bodyEval name off` belongs to a `@memoize` or `@leftrec` normal rule, `off` bounded.
  The grow loop adds two steps (`Step.pre`, `Step.lrInsert`: the ghost event and the re-insertion of
  a `@leftrec` key are invisible for the other keys).  Below the wrapper of a normal rule the pass is that of
  EvalLogic.lean (`PInv.closed`, `PInv.fx`).

  The vocabulary of the log (`evals`, `Reentry`, `NoRe`, `Neutral`, `Quiet`, `keyGrid`), the state and cache
  bounds (`St.tot`, `CacheB`, `ResB`) and `Run` are those of PackratBase.lean; `GrowRun`, `growPre`, `MemoRun` and
  `memoBody_run` (the two loops of the rule wrapper as finished runs) come from GrowRun.lean.

  `Example`: a memoized rule inside a grow loop.  `ExampleBad`: the counting form fails, with pure hooks,
  for a memoized rule on a left-recursive cycle through a `@leftrec` rule – so `NoReM` cannot be dropped
  without a hypothesis on the grammar such as `LROk`.
-/
namespace Peg

namespace PLR

/-! ### `@leftrec` names -/

/-- `n` is the name of a `@leftrec` normal rule (Bool form; `find` = the first entry of that name,
    which is the one `parse_<n>` calls) -/
def isLRb (env : Env) (n : String) : Bool :=
  match env.g.find n with
  | some (.rule r) => r.flags.leftRecursive
  | _ => false

def IsLR (env : Env) (n : String) : Prop := isLRb env n = true

instance (env : Env) (n : String) : Decidable (IsLR env n) := inferInstanceAs (Decidable (_ = true))

theorem isLR_iff {env : Env} {n : String} :
    IsLR env n ↔ ∃ r0, env.g.find n = some (.rule r0) ∧ r0.flags.leftRecursive = true := by
  unfold IsLR isLRb
  constructor
  · intro h
    split at h
    · rename_i r hf; exact ⟨r, hf, h⟩
    · cases h
  · rintro ⟨r0, hf, hl⟩
    rw [hf]; exact hl

theorem isLR_of_find {env : Env} {n : String} {r : Rule} (hf : env.g.find n = some (.rule r))
    (h : r.flags.leftRecursive = true) : IsLR env n := isLR_iff.2 ⟨r, hf, h⟩

theorem not_isLR_of_find {env : Env} {n : String} {r : Rule} (hf : env.g.find n = some (.rule r))
    (h : r.flags.leftRecursive = false) : ¬ IsLR env n := by
  intro hl
  obtain ⟨r0, hf0, h0⟩ := isLR_iff.1 hl
  rw [hf] at hf0
  cases hf0
  rw [h] at h0; cases h0

/-- without `@leftrec` rules no name is `IsLR` -/
theorem not_isLR_of_noLeftrec {env : Env} (hnl : NoLeftrec env.g) (n : String) : ¬ IsLR env n := by
  intro hl
  obtain ⟨r0, hf0, h0⟩ := isLR_iff.1 hl
  have := hnl r0 (List.mem_of_find?_eq_some hf0)
  rw [this] at h0; cases h0

/-- no re-entry for the keys of non-`@leftrec` rules.  (For a `@leftrec` key the grow loop emits one
    `bodyEval` per iteration inside ONE trace bracket: a `Reentry`, by
    design.) -/
def NoReM (env : Env) (l : List Ev) : Prop := ∀ k : String × Nat, ¬ IsLR env k.1 → ¬ Reentry l.reverse k

theorem NoReM.left {env : Env} {l1 l2 : List Ev} (h : NoReM env (l2 ++ l1)) : NoReM env l2 := by
  intro k hk hr
  apply h k hk
  rw [List.reverse_append]
  exact hr.append_left _

theorem NoReM.right {env : Env} {l1 l2 : List Ev} (h : NoReM env (l2 ++ l1)) : NoReM env l1 := by
  intro k hk hr
  apply h k hk
  rw [List.reverse_append]
  exact hr.append_right _

theorem NoReM.of_noRe {env : Env} {l : List Ev} (h : NoRe l) : NoReM env l := fun k _ => h k

section
variable (env : Env) (P : Nat → Prop)

/-- what is known about a `bodyEval name off` event -/
def EvOk (name : String) (off : Nat) : Prop :=
  (∃ r0, env.g.find name = some (.rule r0) ∧ (r0.flags.memoize = true ∨ r0.flags.leftRecursive = true)) ∧
    ∃ t, P t ∧ off ≤ t

/-- an evaluation from `g` to `g'` with new events `l` (newest first); `b`: the result is a panic -/
structure Trans (g : Global) (b : Bool) (g' : Global) (l : List Ev) : Prop where
  log : g'.log = l ++ g.log
  mono : ∀ k v, ¬ IsLR env k.1 → g.lookup k = some v → g'.lookup k = some v
  pres : ∀ k, g.lookup k ≠ none → g'.lookup k ≠ none
  hit : ∀ k, ¬ IsLR env k.1 → g.lookup k ≠ none → evals l k = 0
  done : b = false → ∀ k, ¬ IsLR env k.1 → 0 < evals l k → g'.lookup k ≠ none
  once : NoReM env l → ∀ k, ¬ IsLR env k.1 → evals l k ≤ 1
  evok : ∀ n o, Ev.bodyEval n o ∈ l → EvOk env P n o

def Step (g : Global) (b : Bool) (g' : Global) : Prop := ∃ l, Trans env P g b g' l

variable {env P}

/-- a transition that the keys of the rules that are not `@leftrec` do not see: its `bodyEval` events
    belong to `@leftrec` rules, the entries of the other keys are untouched, no key disappears -/
theorem Step.inert {g g' : Global} (b : Bool) {l : List Ev} (hl : g'.log = l ++ g.log)
    (hev : ∀ n o, Ev.bodyEval n o ∈ l → IsLR env n ∧ EvOk env P n o)
    (hmono : ∀ k v, ¬ IsLR env k.1 → g.lookup k = some v → g'.lookup k = some v)
    (hpres : ∀ k, g.lookup k ≠ none → g'.lookup k ≠ none) : Step env P g b g' := by
  have h0 : ∀ k : String × Nat, ¬ IsLR env k.1 → evals l k = 0 := by
    intro k hn
    cases h : evals l k with
    | zero => rfl
    | succ j => exact absurd (hev _ _ (mem_of_evals_pos (by omega))).1 hn
  refine ⟨l, hl, hmono, hpres, fun k hn _ => h0 k hn, fun _ k hn hk => ?_, fun _ k hn => ?_,
    fun n o hm => (hev n o hm).2⟩
  · rw [h0 k hn] at hk; cases hk
  · rw [h0 k hn]; omega

theorem Step.refl (g : Global) (b : Bool) : Step env P g b g :=
  Step.inert b (l := []) rfl (fun _ _ h => by cases h) (fun _ _ _ h => h) (fun _ h => h)

theorem Step.mono {g g' : Global} {b b' : Bool} (h : Step env P g b g') (hb : b' = false → b = false) :
    Step env P g b' g' := by
  obtain ⟨l, h⟩ := h
  exact ⟨l, h.log, h.mono, h.pres, h.hit, fun hb' => h.done (hb hb'), h.once, h.evok⟩

theorem Step.trans {g g1 g2 : Global} {b : Bool} (h1 : Step env P g false g1) (h2 : Step env P g1 b g2) :
    Step env P g b g2 := by
  obtain ⟨l1, h1⟩ := h1
  obtain ⟨l2, h2⟩ := h2
  refine ⟨l2 ++ l1, ?_, ?_, ?_, ?_, ?_, ?_, ?_⟩
  · rw [h2.log, h1.log, List.append_assoc]
  · exact fun k v hn h => h2.mono k v hn (h1.mono k v hn h)
  · exact fun k h => h2.pres k (h1.pres k h)
  · intro k hn hk
    rw [evals_append, h1.hit k hn hk, h2.hit k hn (h1.pres k hk)]
  · intro hb k hn hk
    rw [evals_append] at hk
    by_cases h0 : 0 < evals l1 k
    · exact h2.pres k (h1.done rfl k hn h0)
    · exact h2.done hb k hn (by omega)
  · intro hno k hn
    rw [evals_append]
    have e1 := h1.once hno.right k hn
    have e2 := h2.once hno.left k hn
    by_cases h0 : 0 < evals l1 k
    · have := h2.hit k hn (h1.done rfl k hn h0)
      omega
    · omega
  · intro n o hm
    rcases List.mem_append.1 hm with hm | hm
    · exact h2.evok n o hm
    · exact h1.evok n o hm

theorem Step.emit (g : Global) (b : Bool) {e : Ev} (he : Neutral e) : Step env P g b (g.emit e) := by
  refine Step.inert b (l := [e]) rfl (fun n o hm => ?_) (fun _ _ _ h => h) (fun _ h => h)
  obtain rfl := List.mem_singleton.1 hm
  have := he (n, o)
  simp [isBodyEval] at this

theorem Step.setUctx (g : Global) (b : Bool) (u : Nat) : Step env P g b { g with uctx := u } :=
  Step.inert b (l := []) rfl (fun _ _ h => by cases h) (fun _ _ _ h => h) (fun _ h => h)

/-- before an iteration of the grow loop of the `@leftrec` key `key`: the message and the ghost event -/
theorem Step.pre (g : Global) {key : String × Nat} (hlr : IsLR env key.1) (hev : EvOk env P key.1 key.2) :
    Step env P g false (growPre key g) := by
  refine Step.inert false (l := [.bodyEval key.1 key.2, .info "Starting new left recursive loop"]) rfl
    (fun n o hm => ?_) (fun _ _ _ h => h) (fun _ h => h)
  simp only [List.mem_cons, Ev.bodyEval.injEq, reduceCtorEq, List.not_mem_nil, or_false] at hm
  obtain ⟨rfl, rfl⟩ := hm
  exact ⟨hlr, hev⟩

/-- the grow loop plants / replaces the entry of its own `@leftrec` key -/
theorem Step.lrInsert (g : Global) (b : Bool) {key : String × Nat} (hlr : IsLR env key.1) (r : Res Val) :
    Step env P g b (g.insert key r) := by
  refine Step.inert b (l := []) rfl (fun _ _ h => by cases h) (fun k v hn hk => ?_) (fun k hk => ?_)
  · rw [LR.lookup_insert_ne _ _ fun (he : k = key) => hn (he ▸ hlr)]; exact hk
  · rw [lookup_insert]
    split
    · exact fun h => by cases h
    · exact hk

/-- the cache-miss branch of `generate_memoized_body` (the `@memoize` branch: `k.1` is not a
    `@leftrec` rule): the ghost event, the body, the entry unless the body panicked -/
theorem Step.memo {g g1 : Global} {r : Res Val} {b' : Bool} {k : String × Nat} (hnk : ¬ IsLR env k.1)
    (hk : g.lookup k = none) (hev : EvOk env P k.1 k.2)
    (h1 : Step env P (g.emit (.bodyEval k.1 k.2)) r.isPanic g1)
    (ht : ∀ l1, g1.log = l1 ++ (g.emit (.bodyEval k.1 k.2)).log → Tr b' l1) :
    Step env P g r.isPanic (missGlobal k r g1) := by
  obtain ⟨l1, h1⟩ := h1
  have ht1 := ht l1 h1.log
  have hne : ∀ {k'}, g.lookup k' ≠ none → k' ≠ k := fun hk' he => hk' (he ▸ hk)
  refine ⟨l1 ++ [Ev.bodyEval k.1 k.2], ?_, ?_, ?_, ?_, ?_, ?_, ?_⟩
  · rw [missGlobal_log, h1.log]; simp
  · intro k' v hn' hk'
    rw [missGlobal_lookup_ne r g1 (hne (ne_none_of_eq_some hk'))]
    exact h1.mono k' v hn' hk'
  · intro k' hk'
    rw [missGlobal_lookup_ne r g1 (hne hk')]
    exact h1.pres k' hk'
  · intro k' hn' hk'
    rw [evals_append, h1.hit k' hn' hk', evals_singleton_ne (hne hk').symm]
  · intro hb k' hn' hk'
    by_cases hkk : k' = k
    · subst hkk
      rw [missGlobal_of_ne_panic _ g1 fun m he => by rw [he] at hb; cases hb]
      exact ne_none_of_eq_some (LR.lookup_insert_self _ _ _)
    · rw [evals_append, evals_singleton_ne (Ne.symm hkk)] at hk'
      rw [missGlobal_lookup_ne r g1 hkk]
      exact h1.done hb k' hn' (by omega)
  · intro hno k' hn'
    rw [evals_append]
    have e1 := h1.once hno.left k' hn'
    by_cases hkk : k = k'
    · subst hkk
      rw [evals_singleton_self]
      -- a `bodyEval k` among the events of the body lies inside the bracket of this call
      by_cases h0 : 0 < evals l1 k
      · exact absurd (reentry_of_nested ht1 h0) (hno k hnk)
      · omega
    · rw [evals_singleton_ne hkk]; omega
  · intro n o hm
    rcases List.mem_append.1 hm with hm | hm
    · exact h1.evok n o hm
    · simp only [List.mem_singleton, Ev.bodyEval.injEq] at hm
      obtain ⟨rfl, rfl⟩ := hm
      exact hev

/-! ### the invariant of a computation -/

variable (env P)

def PPost {α} (g : Global) (r : Res α) (g' : Global) : Prop :=
  Step env P g r.isPanic g' ∧ CacheB P g' ∧ ResB P r

def PInv {α} (f : Global → Out α) : Prop :=
  ∀ g r g', f g = some (r, g') → CacheB P g → PPost env P g r g'

structure RecP (rec : Rec) : Prop where
  expr : ∀ ctx e s, P s.tot → PInv env P (rec.expr ctx e s)
  rule : ∀ name s, P s.tot → PInv env P (rec.rule name s)

variable {env P}

/-- replace the result (e.g. by a panic of the generated code after the sub-evaluation) -/
theorem PPost.replace {α β} {g g' : Global} {r : Res α} {r' : Res β} (h : PPost env P g r g')
    (hb : r'.isPanic = false → r.isPanic = false) (hr : ResB P r') : PPost env P g r' g' :=
  ⟨h.1.mono hb, h.2.1, hr⟩

theorem PPost.trans {α} {g g1 g2 : Global} {r : Res α} (h1 : Step env P g false g1) (h2 : PPost env P g1 r g2) :
    PPost env P g r g2 :=
  ⟨h1.trans h2.1, h2.2⟩

theorem PInv.pure {α} (r : Res α) (hr : ResB P r) : PInv env P (fun g => some (r, g)) := by
  intro g r' g' h hc
  cases h
  exact ⟨Step.refl g _, hc, hr⟩

/-- the outcome of a sub-run: continue after a success, continue after an error, pass a panic on -/
theorem PInv.caseR {α β} {f : Global → Out α} {ok : α → St → Global → Out β} {err : PErr → Global → Out β}
    (hf : PInv env P f) (hok : ∀ v s, P s.tot → PInv env P (ok v s)) (herr : ∀ e, PInv env P (err e)) :
    PInv env P (fun g => caseR (f g) ok err) := by
  intro g r g' h hc
  rcases caseR_inv h with ⟨v, s1, g1, hx, h⟩ | ⟨e, g1, hx, h⟩ | ⟨m, hx, rfl⟩ <;>
    obtain ⟨hs, hc1, hr1⟩ := hf _ _ _ hx hc
  · exact .trans hs (hok v s1 hr1.of_ok _ _ _ h hc1)
  · exact .trans hs (herr e _ _ _ h hc1)
  · exact ⟨hs, hc1, .panic m⟩

/-! ### every node -/

theorem PInv.closed : EvalClosed fun {_} s f => P s.tot → PInv env P f where
  stuck _ _ := fun _ _ _ h => nomatch h
  ok _ _ hs := .pure _ (.ok hs)
  err _ _ _ := .pure _ (.err _)
  panic _ _ _ := .pure _ (.panic _)
  matcher hm _ hs := .pure _ (hm.resB hs)
  caseR hf hok herr hs := (hf hs).caseR (fun v s1 hs1 => hok v s1 hs1) fun e => herr e hs
  look hf _ hs := (hf hs).caseR (fun _ _ _ => .pure _ (.ok hs)) fun _ => .pure _ (.err _)
  recErr h hs := h (by simpa using hs)

theorem PInv.fx : EvalFx fun {_} s f => P s.tot → PInv env P f where
  toEvalClosed := PInv.closed
  readUctx hk hs g := hk g.uctx hs g
  setUctx u hf hs g r g' h hc := .trans (Step.setUctx g false u) (hf hs _ r g' h hc)
  call {_ _ _ e} he hf hs g r g' h hc :=
    .trans (Step.emit g false (by cases e <;> simp [Ev.isCall] at he <;> exact fun _ => rfl))
      (hf hs _ r g' h hc)
  advanceSafe _ _ _ hs := .pure _ (.of_tot hs fun _ _ h => tot_advanceSafe h)

section
variable {rec : Rec}

/-! ### rule level -/

theorem runChecks_pinv : ∀ fs v s, P s.tot → PInv env P (runChecks env fs v s) := PInv.fx.runChecks

theorem ruleBody_pinv (hrec : RecP env P rec) (r : Rule) (s : St) : P s.tot → PInv env P (ruleBody env rec r s) :=
  PInv.closed.ruleBody hrec.expr runChecks_pinv r s

/-- the seed-and-grow loop of a `@leftrec` key, as a sequence of body evaluations separated by ghost
    events and re-insertions of that key (induction on the run of the loop) -/
theorem growRun_pinv {body : St → Global → Out Val} {key : String × Nat} {s : St}
    (hbody : PInv env P (body s)) (hlr : IsLR env key.1) (hev : EvOk env P key.1 key.2)
    {best : Res Val} {g : Global} {chain : List (Val × St)} {r : Res Val} {g' : Global}
    (h : GrowRun body key s best g chain r g') :
    CacheB P g → ResB P best → PPost env P g r g' := by
  -- an iteration: the events in front of it, then the body
  have first : ∀ {g rb gb}, body s (growPre key g) = some (rb, gb) → CacheB P g → PPost env P g rb gb :=
    fun hb hc => PPost.trans (Step.pre _ hlr hev) (hbody _ _ _ hb hc)
  induction h with
  | panic hb => exact fun hc _ => first hb hc
  | stopOk hb _ => exact fun hc hbest => (first hb hc).replace (fun _ => rfl) hbest
  | stopErr hb => exact fun hc hbest => (first hb hc).replace (fun _ => rfl) hbest
  | fail hb _ =>
    intro hc _
    have hp := first hb hc
    exact ⟨hp.1.trans (Step.lrInsert _ _ hlr _), cacheB_insert hp.2.1 (ResB.err _), ResB.err _⟩
  | grow hb _ _ ih =>
    intro hc _
    have hp := first hb hc
    exact PPost.trans (hp.1.trans (Step.lrInsert _ _ hlr _)) (ih (cacheB_insert hp.2.1 hp.2.2) hp.2.2)

/-- `generate_memoized_body` of the rule that `find` returns for its name, all three branches -/
theorem memoBody_pinv {body : St → Global → Out Val} (hbody : ∀ s, P s.tot → PInv env P (body s))
    (hblog : ∀ s, LogInv (body s)) {r0 : Rule} (hfind : env.g.find r0.name = some (.rule r0))
    (n : Nat) (s : St) (hs : P s.tot) : PInv env P (memoBody r0.flags r0.name body n s) := by
  intro g r g' h hc
  have hit : ∀ {cached ev}, Neutral ev → g.lookup (r0.name, s.off) = some cached →
      PPost env P g cached (g.emit ev) := fun hn hl =>
    ⟨Step.emit _ _ hn, hc, fun v s' he => by subst he; exact hc _ _ _ hl⟩
  have hev : r0.flags.memoize = true ∨ r0.flags.leftRecursive = true → EvOk env P r0.name s.off :=
    fun hm => ⟨⟨r0, hfind, hm⟩, s.tot, hs, Nat.le_add_right _ _⟩
  cases memoBody_run h with
  | lrHit _ hl => exact hit (fun _ => rfl) hl
  | hit _ _ hl => exact hit (fun _ => rfl) hl
  | plain _ _ hb => exact hbody s hs _ _ _ hb hc
  | lrGrow hlr _ hrun =>
    have hil : IsLR env (r0.name, s.off).1 := isLR_of_find hfind hlr
    exact PPost.trans (Step.lrInsert _ _ hil _) (growRun_pinv (hbody s hs) hil (hev (.inr hlr)) hrun
      (cacheB_insert hc (ResB.err _)) (ResB.err _))
  | @miss _ g1 hlr hm hl hx =>
    have hp := hbody s hs _ _ _ hx hc
    exact ⟨Step.memo (not_isLR_of_find hfind hlr) hl (hev (.inl hm)) hp.1 fun l1 hl1 => (hblog s).tr hx hl1,
      cacheB_iff.2 ((cacheB_iff.1 hp.2.1).miss hp.2.2), hp.2.2⟩

theorem normalRule_pinv (hrec : RecP env P rec) (hlog : RecInv rec) (n : Nat) (r : Rule)
    (hfind : env.g.find r.name = some (.rule r))
    (s : St) (hs : P s.tot) : PInv env P (normalRule env rec n r s) := by
  intro g res g' h hc
  obtain ⟨g1, hx, rfl⟩ := normalRule_eq_some h
  have hp := memoBody_pinv (ruleBody_pinv hrec r) (ruleBody_log hlog r) hfind n s hs _ _ _ hx
    hc
  have hp' : PPost env P g res g1 := PPost.trans (Step.emit _ _ (fun _ => rfl)) hp
  cases res with
  | ok v s1 => exact ⟨hp'.1.trans (Step.emit _ _ fun _ => rfl), hp'.2⟩
  | err e => exact ⟨hp'.1.trans (Step.emit _ _ fun _ => rfl), hp'.2⟩
  | panic m => exact hp'

theorem charChecks_step {name : String} {fs c s} {g : Global} {o g'}
    (h : charChecks env name fs c s g = (o, g')) : Step env P g false g' := by
  obtain ⟨l, hl, he⟩ := charChecks_eq env name fs c
  rw [he] at h
  cases h
  exact Step.inert false (l := l) rfl (fun n o hm => by obtain ⟨f, hf⟩ := hl _ hm; cases hf) (fun _ _ _ h => h)
    fun _ h => h

theorem externRule_pinv (r : ExternRule) (s : St) (hs : P s.tot) : PInv env P (externRule env r s) :=
  PInv.fx.externRule r s hs

theorem step_pinv (hrec : RecP env P rec) (hlog : RecInv rec) (n : Nat) :
    RecP env P (step env rec n) :=
  ⟨PInv.closed.stepExpr hrec.expr hrec.rule n, PInv.closed.stepRule n
    (fun r s hf => normalRule_pinv hrec hlog n r hf s) (PInv.fx.charRule hrec.rule) externRule_pinv⟩

end

/-- the packrat invariant holds for every evaluation, at every fuel, for every grammar -/
theorem eval_pinv : ∀ n, RecP env P (eval env n)
  | 0 => ⟨fun _ _ s => PInv.closed.stuck s, fun _ s => PInv.closed.stuck s⟩
  | n + 1 => step_pinv (eval_pinv n) (eval_log env n) n

end

/-! ### consequences (no hypothesis on the grammar) -/

section
variable {env : Env}

theorem Trans.of_log {P : Nat → Prop} {g g' : Global} {b : Bool} (h : Step env P g b g') {l : List Ev}
    (hl : g'.log = l ++ g.log) : Trans env P g b g' l := by
  obtain ⟨l', h⟩ := h
  have : l = l' := List.append_cancel_right (hl.symm.trans h.log)
  rw [this]; exact h

/-- every evaluation of the model (`Peg.Run`: an expression or a rule call, at any fuel) is a `Step` -/
theorem Run.step {g g' : Global} {b : Bool} (h : Run env g b g') : Step env (fun _ => True) g b g' := by
  cases h with
  | expr h => exact ((eval_pinv _).expr _ _ _ trivial _ _ _ h (cacheB_true _)).1
  | rule h => exact ((eval_pinv _).rule _ _ trivial _ _ _ h (cacheB_true _)).1

/-- **1a. Cache monotonicity** for the keys of rules that are not `@leftrec`: an entry present before an
    evaluation is present afterwards, with the same value. -/
theorem C06_cache_mono {g g' : Global} {b : Bool} (h : Run env g b g')
    {k : String × Nat} (hn : ¬ IsLR env k.1) {v : Res Val} (hk : g.lookup k = some v) :
    g'.lookup k = some v := by
  obtain ⟨l, h⟩ := Run.step h
  exact h.mono k v hn hk

/-- **1b. Presence is monotone for ALL keys** (also `@leftrec` keys, whose value may be replaced by the
    grow loop): no key is ever removed. -/
theorem C06_cache_present {g g' : Global} {b : Bool} (h : Run env g b g')
    {k : String × Nat} (hk : g.lookup k ≠ none) : g'.lookup k ≠ none := by
  obtain ⟨l, h⟩ := Run.step h
  exact h.pres k hk

theorem C06_cache_mono_expr {n ctx e s g r g'}
    (h : (eval env n).expr ctx e s g = some (r, g')) {k : String × Nat} (hn : ¬ IsLR env k.1) {v : Res Val}
    (hk : g.lookup k = some v) : g'.lookup k = some v :=
  C06_cache_mono (Run.expr h) hn hk

theorem C06_cache_mono_rule {n name s g r g'}
    (h : (eval env n).rule name s g = some (r, g')) {k : String × Nat} (hn : ¬ IsLR env k.1) {v : Res Val}
    (hk : g.lookup k = some v) : g'.lookup k = some v :=
  C06_cache_mono (Run.rule h) hn hk

theorem traceResult_quiet (g : Global) (r : Res Val) : ∃ l, (traceResult g r).log = l ++ g.log ∧ Quiet l := by
  cases r with
  | ok v s => exact ⟨[_], rfl, Quiet.single (fun _ => rfl) fun _ _ h => by cases h⟩
  | err e => exact ⟨[_], rfl, Quiet.single (fun _ => rfl) fun _ _ h => by cases h⟩
  | panic m => exact ⟨[], rfl, Quiet.nil⟩

/-- both caching branches of `generate_memoized_body` answer a cached position with the entry and
    a message -/
theorem memoBody_cached {flags : RuleFlags} {name : String} {body : St → Global → Out Val} {n : Nat} {s : St}
    {g : Global} {c : Res Val} (hfl : flags.leftRecursive = true ∨ flags.memoize = true)
    (hc : g.lookup (name, s.off) = some c) :
    ∃ msg, memoBody flags name body n s g = some (c, g.emit (.info msg)) := by
  cases hl : flags.leftRecursive with
  | true => exact ⟨_, memoBody_lr_hit hl hc⟩
  | false => exact ⟨_, memoBody_hit hl (by simpa [hl] using hfl) hc⟩

/-- **2a. A hit returns the entry** (= `Props.C06_answered_from_cache` without `NoLeftrec`): a position
    cached for a `@memoize` or `@leftrec` rule is answered with the cached entry as it is, and no body
    (of any rule) is evaluated. -/
theorem C06_hit {n : Nat} {name : String} {s : St} {g g' : Global}
    {r c : Res Val} {r0 : Rule} (h : (eval env n).rule name s g = some (r, g'))
    (hf : env.g.find name = some (.rule r0))
    (hfl : r0.flags.leftRecursive = true ∨ r0.flags.memoize = true)
    (hc : g.lookup (name, s.off) = some c) :
    r = c ∧ ∀ l, g'.log = l ++ g.log → ∀ k, evals l k = 0 := by
  obtain ⟨m, h'⟩ := eval_rule_normal hf h
  obtain ⟨g1, hx, rfl⟩ := normalRule_eq_some h'
  obtain ⟨msg, hb⟩ := memoBody_cached (body := ruleBody env (eval env m) r0) (n := m) hfl
    (g := g.emit (.traceStart r0.name s.off)) (find_rule_name hf ▸ hc)
  rw [hb] at hx
  cases hx
  refine ⟨rfl, fun l hl k => ?_⟩
  obtain ⟨lt, hlt, hq⟩ := traceResult_quiet ((g.emit (.traceStart r0.name s.off)).emit (.info msg)) r
  have : l = lt ++ [.info msg, .traceStart r0.name s.off] :=
    List.append_cancel_right (hl.symm.trans (by rw [hlt, List.append_assoc]; rfl))
  rw [this, evals_append, evals_quiet hq]
  rfl

theorem C06_hit_returns_entry_leftrec {n : Nat} {name : String} {s : St} {g g' : Global}
    {r c : Res Val} {r0 : Rule} (h : (eval env n).rule name s g = some (r, g'))
    (hf : env.g.find name = some (.rule r0)) (hlr : r0.flags.leftRecursive = true)
    (hc : g.lookup (name, s.off) = some c) :
    r = c ∧ ∀ l, g'.log = l ++ g.log → ∀ k, evals l k = 0 :=
  C06_hit h hf (.inl hlr) hc

/-- **2b. Evaluated ⇒ cached** (= `Props.C06_result_is_cached` without `NoLeftrec`): after a
    non-panicking call of a memoized normal rule that is not itself `@leftrec`, the cache holds exactly
    the returned result for `(name, s.off)`.  The only hypothesis is on THAT rule. -/
theorem C06_evaluated_cached {n : Nat} {name : String} {s : St} {g g' : Global}
    {r : Res Val} {r0 : Rule} (h : (eval env n).rule name s g = some (r, g')) (hp : ∀ m, r ≠ .panic m)
    (hf : env.g.find name = some (.rule r0)) (hm : r0.flags.memoize = true)
    (hlr : r0.flags.leftRecursive = false) :
    g'.lookup (name, s.off) = some r := by
  obtain ⟨m, h'⟩ := eval_rule_normal hf h
  obtain ⟨g1, hx, rfl⟩ := normalRule_eq_some h'
  rw [traceResult_lookup, ← find_rule_name hf]
  exact (memoBody_run hx).cached (.inr hm) (fun h => by rw [hlr] at h; cases h) hp

/-- **3a. A cached position is never re-evaluated**: if the key `k` of a rule that is not `@leftrec` is
    in the cache before an evaluation, the evaluation emits no `bodyEval k` – wherever the rule is
    called from (also from inside the grow loop of a `@leftrec` rule, at every iteration). -/
theorem C06_cached_not_evaluated {g g' : Global} {b : Bool} (h : Run env g b g')
    {l : List Ev} (hl : g'.log = l ++ g.log) {k : String × Nat} (hn : ¬ IsLR env k.1)
    (hk : g.lookup k ≠ none) : evals l k = 0 :=
  (Trans.of_log (Run.step h) hl).hit k hn hk

/-- **3b. Every body evaluation is followed by the insertion**: if a non-panicking evaluation emitted
    `bodyEval k` (`k.1` not `@leftrec`), then `k` is present afterwards (and was absent before: 3a). -/
theorem C06_evaluated_inserted {g g' : Global} (h : Run env g false g')
    {l : List Ev} (hl : g'.log = l ++ g.log) {k : String × Nat} (hn : ¬ IsLR env k.1)
    (hk : 0 < evals l k) : g'.lookup k ≠ none :=
  (Trans.of_log (Run.step h) hl).done rfl k hn hk

/-- **3c (C06, sequential form).**  Two successive evaluations (any expressions / rules, in sequence,
    threading the global state): a memoized body that was evaluated (to completion, without panic) in
    the first is not evaluated again in the second. -/
theorem C06_no_reevaluation {g g1 g2 : Global} {b : Bool}
    (h1 : Run env g false g1) (h2 : Run env g1 b g2) {l1 l2 : List Ev}
    (hl1 : g1.log = l1 ++ g.log) (hl2 : g2.log = l2 ++ g1.log) {k : String × Nat}
    (hn : ¬ IsLR env k.1) (hk : 0 < evals l1 k) : evals l2 k = 0 :=
  C06_cached_not_evaluated h2 hl2 hn (C06_evaluated_inserted h1 hl1 hn hk)

/-- same, with anything in between that does not remove keys (e.g. any number of evaluations:
    `C06_cache_present`) -/
theorem C06_no_reevaluation_later {g g1 g2 g3 : Global} {b : Bool}
    (h1 : Run env g false g1) (hmid : ∀ k, g1.lookup k ≠ none → g2.lookup k ≠ none)
    (h3 : Run env g2 b g3) {l1 l3 : List Ev}
    (hl1 : g1.log = l1 ++ g.log) (hl3 : g3.log = l3 ++ g2.log) {k : String × Nat}
    (hn : ¬ IsLR env k.1) (hk : 0 < evals l1 k) : evals l3 k = 0 :=
  C06_cached_not_evaluated h3 hl3 hn (hmid k (C06_evaluated_inserted h1 hl1 hn hk))

/-- **3d (C06, counting form, conditional).**  In an evaluation whose log has no re-entry of a
    non-`@leftrec` key (`NoReM`), every such key is evaluated at most once – also when the evaluation
    ends in a panic. -/
theorem C06_once {g g' : Global} {b : Bool} (h : Run env g b g')
    {l : List Ev} (hl : g'.log = l ++ g.log) (hno : NoReM env l) (k : String × Nat)
    (hn : ¬ IsLR env k.1) : evals l k ≤ 1 :=
  (Trans.of_log (Run.step h) hl).once hno k hn

theorem C06_parse_once {n rule inp u} {r : Res Val} {g' : Global}
    (h : parseAdvanced env n rule inp u = some (r, g')) (hno : NoReM env g'.log) (k : String × Nat)
    (hn : ¬ IsLR env k.1) : evals g'.log k ≤ 1 :=
  C06_once (Run.rule h) parse_log hno k hn

/-- the only way to get a second `bodyEval k` for a non-`@leftrec` key is a re-entry of such a key
    (see `ExampleBad` below: this does happen, with pure hooks, when the memoized rule lies on a
    left-recursive cycle through a `@leftrec` rule) -/
theorem C06_twice_is_reentry {g g' : Global} {b : Bool} (h : Run env g b g')
    {l : List Ev} (hl : g'.log = l ++ g.log) {k : String × Nat} (hn : ¬ IsLR env k.1)
    (hk : 1 < evals l k) : ∃ k' : String × Nat, ¬ IsLR env k'.1 ∧ Reentry l.reverse k' := by
  apply Classical.byContradiction
  intro hne
  have := C06_once h hl (fun k' hn' hr => hne ⟨k', hn', hr⟩) k hn
  omega

/-! ### 4. the bound -/

/-- names of the memoized normal rules that are not `@leftrec` -/
def memoNamesM (g : Grammar) : List String :=
  g.rules.filterMap fun e => match e with
    | .rule r => if r.flags.memoize && !r.flags.leftRecursive then some r.name else none
    | _ => none

theorem memoNamesM_length_le (g : Grammar) : (memoNamesM g).length ≤ g.rules.length :=
  List.length_filterMap_le _ _

theorem memoNamesM_sub (g : Grammar) : ∀ n, n ∈ memoNamesM g → n ∈ memoNames g := by
  intro n hn
  simp only [memoNamesM, List.mem_filterMap] at hn
  obtain ⟨e, he, h⟩ := hn
  simp only [memoNames, List.mem_filterMap]
  refine ⟨e, he, ?_⟩
  cases e with
  | rule r =>
    simp only at h ⊢
    split at h
    · rename_i hc
      simp only [Bool.and_eq_true] at hc
      rw [if_pos hc.1]; exact h
    · cases h
  | charRule r => simp at h
  | externRule r => simp at h

/-- keys of the `bodyEval` events of the rules that are not `@leftrec` -/
def bodyKeysM (env : Env) (l : List Ev) : List (String × Nat) :=
  (bodyKeys l).filter fun k => !isLRb env k.1

theorem mem_bodyKeysM {l : List Ev} {k : String × Nat} :
    k ∈ bodyKeysM env l ↔ k ∈ bodyKeys l ∧ ¬ IsLR env k.1 := by
  simp [bodyKeysM, List.mem_filter, IsLR]

/-- every `bodyEval name off` of a complete parse belongs to a `@memoize` or `@leftrec` normal rule
    and has `off ≤ inp.length`; if the rule is not `@leftrec` it is a memoized one -/
theorem C06_parse_events {n rule inp u} {r : Res Val} {g' : Global}
    (h : parseAdvanced env n rule inp u = some (r, g')) {name : String} {off : Nat}
    (hm : Ev.bodyEval name off ∈ g'.log) :
    (IsLR env name ∨ name ∈ memoNamesM env.g) ∧ off ≤ inp.length := by
  have hp := (eval_pinv (env := env) (P := (· = inp.length)) n).rule rule (St.new inp)
    (by simp [St.tot, St.new]) _ _ _ h (by intro k v s' hl; simp [Global.init, Global.lookup] at hl)
  have ht := Trans.of_log hp.1 parse_log
  obtain ⟨⟨r0, hf, hmemo⟩, t, rfl, ho⟩ := ht.evok name off hm
  refine ⟨?_, ho⟩
  have hname := find_rule_name hf
  have hmem : RuleEntry.rule r0 ∈ env.g.rules := List.mem_of_find?_eq_some hf
  cases hl : r0.flags.leftRecursive with
  | true => exact Or.inl (isLR_of_find hf hl)
  | false =>
    right
    have hmm : r0.flags.memoize = true := by
      rcases hmemo with h1 | h1
      · exact h1
      · rw [hl] at h1; cases h1
    simp only [memoNamesM, List.mem_filterMap]
    exact ⟨_, hmem, by simp [hmm, hl, hname]⟩

/-- **4. The packrat bound**, from the counting form: a complete parse of an input of `inp.length`
    bytes evaluates at most `(number of memoized non-@leftrec rules) * (inp.length + 1)` bodies of
    memoized non-`@leftrec` rules. -/
theorem C06_bound_of_once {n rule inp u} {r : Res Val} {g' : Global}
    (h : parseAdvanced env n rule inp u = some (r, g'))
    (honce : ∀ k : String × Nat, ¬ IsLR env k.1 → evals g'.log k ≤ 1) :
    (bodyKeysM env g'.log).length ≤ (memoNamesM env.g).length * (inp.length + 1) := by
  rw [← keyGrid_length]
  apply List.Nodup.length_le_of_subset
  · rw [List.nodup_iff_count]
    intro k
    by_cases hn : IsLR env k.1
    · have : k ∉ bodyKeysM env g'.log := fun hk => (mem_bodyKeysM.1 hk).2 hn
      rw [List.count_eq_zero_of_not_mem this]; omega
    · have h1 : (bodyKeysM env g'.log).count k ≤ (bodyKeys g'.log).count k :=
        List.Sublist.count_le k List.filter_sublist
      have h2 := honce k hn
      rw [evals_eq_count] at h2
      omega
  · intro k hk
    obtain ⟨hk1, hk2⟩ := mem_bodyKeysM.1 hk
    obtain ⟨kn, ko⟩ := k
    obtain ⟨h1, h2⟩ := C06_parse_events h (mem_bodyKeys.1 hk1)
    rcases h1 with h1 | h1
    · exact absurd h1 hk2
    · exact mem_keyGrid h1 h2

theorem C06_bound {n rule inp u} {r : Res Val} {g' : Global}
    (h : parseAdvanced env n rule inp u = some (r, g')) (hno : NoReM env g'.log) :
    (bodyKeysM env g'.log).length ≤ (memoNamesM env.g).length * (inp.length + 1) :=
  C06_bound_of_once h (C06_parse_once h hno)

/-- in the form of properties.jsonl C06: at most `(number of rules) * (len + 1)` -/
theorem C06_bound_rules {n rule inp u} {r : Res Val} {g' : Global}
    (h : parseAdvanced env n rule inp u = some (r, g')) (hno : NoReM env g'.log) :
    (bodyKeysM env g'.log).length ≤ env.g.rules.length * (inp.length + 1) :=
  Nat.le_trans (C06_bound h hno) (Nat.mul_le_mul_right _ (memoNamesM_length_le _))

/-- without `@leftrec` rules this is Packrat.lean's statement: `bodyKeysM = bodyKeys` … -/
theorem bodyKeysM_eq_of_noLeftrec (hnl : NoLeftrec env.g) (l : List Ev) : bodyKeysM env l = bodyKeys l := by
  unfold bodyKeysM
  rw [List.filter_eq_self]
  intro k _
  have := not_isLR_of_noLeftrec hnl k.1
  simpa [IsLR] using this

/-- … and `NoReM ↔ NoRe` -/
theorem noReM_iff_of_noLeftrec (hnl : NoLeftrec env.g) (l : List Ev) : NoReM env l ↔ NoRe l :=
  ⟨fun h k => h k (not_isLR_of_noLeftrec hnl k.1), NoReM.of_noRe⟩

end

/-! ### a decision procedure for `NoReM` -/

/-- (chronological list) no re-entry of a key whose rule is not `@leftrec` -/
def noReMB (env : Env) : List Ev → Bool
  | [] => true
  | e :: es => (match e with | .bodyEval n o => isLRb env n || scanRe (n, o) es 1 | _ => true) && noReMB env es

theorem noReMB_false_of_reentry {env : Env} {c : List Ev} {k : String × Nat} (hn : ¬ IsLR env k.1)
    (h : Reentry c k) : noReMB env c = false := by
  obtain ⟨pre, mid, post, rfl, hm⟩ := h
  have hb : isLRb env k.1 = false := by
    cases hb : isLRb env k.1 with
    | false => rfl
    | true => exact absurd hb hn
  induction pre with
  | nil =>
    simp only [List.nil_append, List.cons_append, noReMB]
    rw [scanRe_false k post mid 1 (Nat.le_refl 1) hm, hb]
    rfl
  | cons e es ih =>
    simp only [List.cons_append, noReMB, List.append_assoc] at ih ⊢
    rw [ih]; simp

/-- soundness of the checker -/
theorem NoReM_of_check {env : Env} {l : List Ev} (h : noReMB env l.reverse = true) : NoReM env l := by
  intro k hn hr
  rw [noReMB_false_of_reentry hn hr] at h
  cases h

/-! ### examples -/

/-! `@export @leftrec E = l:*E '+' r:Num | b:Num;  @memoize @string Num = {'0'..'9'}+;` on `"1+2+3"`:
    a memoized rule called from inside a grow loop. -/
namespace Example
open Peg.NV

def ruleE : Rule := ⟨[.export, .leftrec], "E",
  .choice [.seq [.field (some (.ident "l")) true "E", .lit false [.chr '+'],
                 .field (some (.ident "r")) false "Num"],
           .seq [.field (some (.ident "b")) false "Num"]]⟩
def ruleNumM : Rule := ⟨[.string, .memoize], "Num",
  .choice [.seq [.closure (.choice [.seq [.range (.chr '0') (.chr '9')]]) true]]⟩
def envEM : Env := { g := ⟨[.rule ruleE, .rule ruleNumM]⟩, settings := {}, hooks := default, nf := 10 }

/-- the bytes of `"1+2+3"` -/
def inp : List UInt8 := [49, 43, 50, 43, 51]

theorem hfNum : envEM.g.find "Num" = some (.rule ruleNumM) := rfl
theorem hmNum : ruleNumM.flags.memoize = true := rfl
theorem hlrNum : ruleNumM.flags.leftRecursive = false := rfl
theorem num_not_lr : ¬ IsLR envEM "Num" := by decide +kernel
theorem e_lr : IsLR envEM "E" := by decide +kernel
/-- the grammar is outside the scope of Packrat.lean (`NoLeftrec` fails) but inside the class `LROk` -/
example : ¬ NoLeftrec envEM.g := fun h => by
  have := h ruleE (by simp [envEM]); revert this; decide +kernel
theorem lrOk : LROk envEM.g envEM.settings := by decide +kernel
example : LROk envEM.g envEM.settings := lrOk

theorem run_some : (parseAdvanced envEM 20 "E" inp 0).isSome = true := by decide +kernel
def gEnd : Global := ((parseAdvanced envEM 20 "E" inp 0).get run_some).2
theorem run : parseAdvanced envEM 20 "E" inp 0 = some (((parseAdvanced envEM 20 "E" inp 0).get run_some).1, gEnd) :=
  run_eq run_some

/-- what happened: the parse consumes the 5 bytes; the body of `Num` is evaluated exactly once at each
    of the offsets 0, 2, 4 … -/
example : (match parseAdvanced envEM 20 "E" inp 0 with
    | some (.ok _ s, g) => (s.off, evals g.log ("Num", 0), evals g.log ("Num", 2), evals g.log ("Num", 4))
    | _ => (99, 0, 0, 0)) = (5, 1, 1, 1) := by decide +kernel

/-- … `Num` at offset 0 is attempted twice (first and last iteration of the grow loop of `E` at 0, where
    the first alternative fails) and the second attempt is a cache hit; the grow loop itself emits 4
    `bodyEval ("E", 0)` events inside one trace bracket – which is why `@leftrec` keys are excluded:
    the `NoRe` check fails on this log, the `NoReM` check succeeds -/
example : hits gEnd.log = 1 ∧ evals gEnd.log ("E", 0) = 4 ∧
    noReB gEnd.log.reverse = false ∧ noReMB envEM gEnd.log.reverse = true ∧
    bodyKeys gEnd.log = [("E", 0), ("Num", 4), ("E", 0), ("Num", 2), ("E", 0), ("Num", 0), ("E", 0)] ∧
    bodyKeysM envEM gEnd.log = [("Num", 4), ("Num", 2), ("Num", 0)] ∧
    memoNamesM envEM.g = ["Num"] := by decide +kernel

/-- the hypothesis `NoReM` of the counting form is satisfied by this run -/
theorem noReM : NoReM envEM gEnd.log := NoReM_of_check (by decide +kernel)

example (o : Nat) : evals gEnd.log ("Num", o) ≤ 1 := C06_parse_once run noReM ("Num", o) num_not_lr
example : (bodyKeysM envEM gEnd.log).length ≤ (memoNamesM envEM.g).length * (inp.length + 1) :=
  C06_bound run noReM
example {name off} (h : Ev.bodyEval name off ∈ gEnd.log) :
    (IsLR envEM name ∨ name ∈ memoNamesM envEM.g) ∧ off ≤ inp.length := C06_parse_events run h

/-- `C06_evaluated_cached` for `Num` (the hypothesis "not `@leftrec`" is about `Num` only) -/
example : ∃ v s' g', (eval envEM 20).rule "Num" (St.new inp) (Global.init 0) = some (.ok v s', g') ∧
    g'.lookup ("Num", 0) = some (.ok v s') := by
  obtain ⟨v, s', g', h, -⟩ := ok_of (o := (eval envEM 20).rule "Num" (St.new inp) (Global.init 0))
    (fun _ s _ => s.off == 1) (by decide +kernel)
  exact ⟨v, s', g', h, C06_evaluated_cached h (fun m hm => by cases hm) hfNum hmNum hlrNum⟩

/-! two successive evaluations: `Num` at offset 0 from the fresh global, then the whole of `E` (grow
    loop included) from the global the first one left -/
theorem first_some : ((eval envEM 20).rule "Num" (St.new inp) (Global.init 0)).isSome = true := by decide +kernel
def g1 : Global := (((eval envEM 20).rule "Num" (St.new inp) (Global.init 0)).get first_some).2
theorem g1_hit : (g1.lookup ("Num", 0)).isSome = true := by decide +kernel

theorem again_some : ((eval envEM 20).rule "Num" (St.new inp) g1).isSome = true := by decide +kernel
example : (((eval envEM 20).rule "Num" (St.new inp) g1).get again_some).1 = (g1.lookup ("Num", 0)).get g1_hit ∧
    ∀ l, (((eval envEM 20).rule "Num" (St.new inp) g1).get again_some).2.log = l ++ g1.log → ∀ k, evals l k = 0 :=
  C06_hit (run_eq again_some) hfNum (.inr hmNum) (Option.some_get g1_hit).symm

theorem second_some : ((eval envEM 20).rule "E" (St.new inp) g1).isSome = true := by decide +kernel
def g2 : Global := (((eval envEM 20).rule "E" (St.new inp) g1).get second_some).2
theorem run1 : Run envEM (Global.init 0) false g1 := by
  have h := Run.rule (env := envEM) (run_eq first_some)
  have hb : (((eval envEM 20).rule "Num" (St.new inp) (Global.init 0)).get first_some).1.isPanic = false := by decide +kernel
  rw [hb] at h; exact h
/-- `C06_no_reevaluation`: the grow loop of `E` never evaluates `Num` at 0 again … -/
example : ∀ l2, g2.log = l2 ++ g1.log → evals l2 ("Num", 0) = 0 := fun l2 hl2 =>
  C06_no_reevaluation run1 (Run.rule (run_eq second_some)) (l1 := g1.log) (by simp [Global.init]) hl2
    num_not_lr (by decide +kernel)
/-- … `C06_cache_mono`: and the entry is still the same afterwards -/
example : g2.lookup ("Num", 0) = g1.lookup ("Num", 0) := by
  have h : g2.lookup ("Num", 0) = some ((g1.lookup ("Num", 0)).get g1_hit) :=
    C06_cache_mono (Run.rule (run_eq second_some)) (k := ("Num", 0)) num_not_lr (Option.some_get g1_hit).symm
  rw [h]; exact Option.some_get g1_hit
/-- it did happen: two hits on `("Num", 0)` in the second evaluation, the only new memoized keys are
    `("Num", 2)` and `("Num", 4)` -/
example : hits g2.log = 2 ∧ evals g2.log ("Num", 0) = 1 ∧ evals g1.log ("Num", 0) = 1 ∧
    bodyKeysM envEM g2.log = [("Num", 4), ("Num", 2), ("Num", 0)] := by decide +kernel

/-- A variant in which the memoized rule is attempted at the same offset in EVERY iteration of the grow
    loop: `@export @leftrec E = p:Num '!' | l:*E '+' r:Num | b:Num`.  On `"1+2+3"` the loop of `E` at 0
    runs 4 times; `Num` at 0 is attempted 6 times (once per iteration by the first alternative, plus the
    third alternative in the first and last iteration): one body evaluation and 5 cache hits. -/
def ruleE3 : Rule := ⟨[.export, .leftrec], "E",
  .choice [.seq [.field (some (.ident "p")) false "Num", .lit false [.chr '!']],
           .seq [.field (some (.ident "l")) true "E", .lit false [.chr '+'],
                 .field (some (.ident "r")) false "Num"],
           .seq [.field (some (.ident "b")) false "Num"]]⟩
def envEM3 : Env := { g := ⟨[.rule ruleE3, .rule ruleNumM]⟩, settings := {}, hooks := default, nf := 10 }

theorem run3_some : (parseAdvanced envEM3 20 "E" inp 0).isSome = true := by decide +kernel
def gEnd3 : Global := ((parseAdvanced envEM3 20 "E" inp 0).get run3_some).2

example : (match parseAdvanced envEM3 20 "E" inp 0 with
    | some (.ok _ s, g) => (s.off, evals g.log ("Num", 0), evals g.log ("E", 0), hits g.log)
    | _ => (99, 0, 0, 0)) = (5, 1, 4, 5) := by decide +kernel
theorem num_not_lr3 : ¬ IsLR envEM3 "Num" := by decide +kernel
theorem noReM3 : NoReM envEM3 gEnd3.log := NoReM_of_check (by decide +kernel)
example (o : Nat) : evals gEnd3.log ("Num", o) ≤ 1 :=
  C06_parse_once (run_eq run3_some) noReM3 ("Num", o) num_not_lr3
theorem lrOk3 : LROk envEM3.g envEM3.settings := by decide +kernel
example : LROk envEM3.g envEM3.settings := lrOk3

end Example

/-! **Counterexample: with `@leftrec` rules "at most once" can fail for a non-`@leftrec` `@memoize`
    rule, with pure (default) hooks**, when the memoized rule lies INSIDE a left-recursive cycle:
    ```
    @export @memoize M = e:E 'x' | n:Num ;
    @leftrec         E = m:M 'z' | n:Num ;
    @string        Num = {'0'..'9'}+ ;
    ```
    on the input `"1"`: `M` at 0 misses → body → `E` at 0 misses, plants its seed, first iteration →
    `M` at 0 misses AGAIN (nothing inserted yet) → the body of `M` a second time → `E` at 0 hits the
    seed, `Num` matches, the inner `M` is inserted … the outer `M` finally inserts a second entry.
    The parse succeeds (offset 1), `evals log ("M", 0) = 2`, the cache holds 4 entries for 2 keys.
    The grammar is not in the class `LROk` (the `@leftrec` rule `E` re-enters itself through `M`), and
    the log has a re-entry of the non-`@leftrec` key `("M", 0)`: `NoReM` (or a grammar condition such
    as `LROk`) is really needed for the counting form. -/
namespace ExampleBad
open Peg.NV

def ruleM : Rule := ⟨[.export, .memoize], "M",
  .choice [.seq [.field (some (.ident "e")) false "E", .lit false [.chr 'x']],
           .seq [.field (some (.ident "n")) false "Num"]]⟩
def ruleE : Rule := ⟨[.leftrec], "E",
  .choice [.seq [.field (some (.ident "m")) false "M", .lit false [.chr 'z']],
           .seq [.field (some (.ident "n")) false "Num"]]⟩
def ruleNum : Rule := ⟨[.string], "Num",
  .choice [.seq [.closure (.choice [.seq [.range (.chr '0') (.chr '9')]]) true]]⟩
def envBad : Env :=
  { g := ⟨[.rule ruleM, .rule ruleE, .rule ruleNum]⟩, settings := {}, hooks := default, nf := 10 }

theorem pure : PureHooks envBad.hooks := pure_default
theorem m_not_lr : ¬ IsLR envBad "M" := by decide +kernel

theorem run_some : (parseAdvanced envBad 20 "M" [49] 0).isSome = true := by decide +kernel
def gEnd : Global := ((parseAdvanced envBad 20 "M" [49] 0).get run_some).2

example : (match parseAdvanced envBad 20 "M" [49] 0 with
    | some (.ok _ s, g) => (s.off, evals g.log ("M", 0), evals g.log ("E", 0), g.cache.length,
        noReMB envBad g.log.reverse)
    | _ => (99, 0, 0, 0, true)) = (1, 2, 2, 4, false) := by decide +kernel

theorem twice : evals gEnd.log ("M", 0) = 2 := by decide +kernel

theorem not_lrOk : ¬ LROk envBad.g envBad.settings := by decide +kernel
example : ¬ LROk envBad.g envBad.settings := not_lrOk

/-- the hypothesis `NoReM` of `C06_parse_once` fails on this run … -/
theorem not_noReM : ¬ NoReM envBad gEnd.log := fun hno => by
  have h : evals gEnd.log ("M", 0) ≤ 1 := C06_parse_once (run_eq run_some) hno ("M", 0) m_not_lr
  rw [twice] at h; omega

/-- … while everything that does not need it still holds, e.g. the position is cached afterwards and
    the second entry shadows the first -/
example : (gEnd.lookup ("M", 0)).isSome = true := by decide +kernel

end ExampleBad

end PLR
end Peg
