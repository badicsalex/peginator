import PegVerif.Extracted.Tables
/-
  Property C20: no hidden state.

  `Extracted.sharedState` is the table that `tools/extract.py` writes on every run: the lines of
  `runtime/src/*.rs` and `codegen/src/*.rs` (the latter contain the templates of the generated code;
  `generated.rs` is skipped) that match one of its patterns for statics, `thread_local!`, `lazy_static!`,
  once/lazy cells, locks, atomics, `RefCell`, `Cell<`, `unsafe` and `extern "C"` (the regular
  expressions are in `tools/extract.py`); every entry is `"<file>: <source line>"`.  That the scan
  finds what there is to find is trusted; the theorems speak of the table.

  They say that every entry is one of the known `unsafe` uses around `ParseState::advance` (the
  unchecked slice whose safety is property C04), located in the runtime, and that no entry contains a
  word for process-wide or thread-wide state.  With the scan trusted, two parses share nothing but their
  arguments: the model's `eval`, a pure function of (grammar, input, user context), loses nothing.

  `String.splitOn` does not reduce in the kernel (`decide` gets stuck on it), and `String.toList` of a
  90-character literal is very slow to reduce (UTF-8 decoding with proofs), so the Bool-valued checker
  works on the UTF-8 bytes of the strings (`String.toByteArray`, as `Nat`s) with structurally recursive
  list functions.  `no_shared_state'` transfers the negative part (no state word occurs) to the
  character level.
-/
namespace Peg

def byteCodes (s : String) : List Nat := s.toByteArray.data.toList.map UInt8.toNat

def containsSub (pat : List Nat) : List Nat → Bool
  | [] => pat.isEmpty
  | c :: cs => pat.isPrefixOf (c :: cs) || containsSub pat cs

def hasSub (s pat : String) : Bool := containsSub (byteCodes pat) (byteCodes s)

def hasPrefix (s pat : String) : Bool := (byteCodes pat).isPrefixOf (byteCodes s)

theorem containsSub_iff (pat s : List Nat) : containsSub pat s = true ↔ pat <:+: s := by
  induction s with
  | nil =>
    simp only [containsSub, List.isEmpty_iff, List.infix_nil]
  | cons c cs ih =>
    simp only [containsSub, Bool.or_eq_true, ih, List.isPrefixOf_iff_prefix]
    constructor
    · rintro (h | h)
      · exact h.isInfix
      · exact h.trans (List.suffix_cons c cs).isInfix
    · intro h
      rcases List.infix_cons_iff.1 h with h | h
      · exact Or.inl h
      · exact Or.inr h

/-- the words that would indicate state shared between parses (or between threads) -/
def stateWords : List String :=
  ["static", "thread_local", "Mutex", "RwLock", "Atomic", "RefCell", "Cell<", "Once", "Lazy", "extern \"C\""]

/-- the files in which the known `unsafe` uses live -/
def advanceFiles : List String := ["runtime/src/state.rs: ", "runtime/src/builtin_parsers.rs: "]

/-- an entry of the scan is one of the known `unsafe` uses around `ParseState::advance`: it is located
    in `runtime/src/state.rs` or `runtime/src/builtin_parsers.rs`, contains the word `unsafe`, and
    mentions none of the state words -/
def isKnownUnsafeAdvance (s : String) : Bool :=
  advanceFiles.any (fun p => hasPrefix s p) &&
  hasSub s "unsafe" &&
  stateWords.all (fun w => !hasSub s w)

/-- more precisely: the definition of `advance`, the unchecked slice inside it, or a call of it -/
def isAdvanceUse (s : String) : Bool :=
  hasSub s "unsafe { state.advance(" || hasSub s "pub unsafe fn advance(" ||
  hasSub s "unsafe { self.partial_string.get_unchecked(length..) }"

/-- All four checks on every entry, in one evaluation: decoding the string literals to bytes is about half of
    the work (the substring searches are the other half) and is then done once; the statements below and
    `Props.C20_templates_have_no_unsafe` are read off this one. -/
theorem sharedState_scan : ∀ s ∈ Extracted.sharedState,
    isKnownUnsafeAdvance s = true ∧ isAdvanceUse s = true ∧
    hasPrefix s "codegen/src" = false ∧ hasSub s "codegen/" = false := by decide +kernel

/-- **C20**: every entry of the scan table is a known `unsafe` use around `ParseState::advance`: it lies
    in one of the two runtime files, contains `unsafe`, and contains none of `stateWords` -/
theorem no_shared_state : Extracted.sharedState.all isKnownUnsafeAdvance = true :=
  List.all_eq_true.2 fun s hs => (sharedState_scan s hs).1

/-- each hit is literally the definition of `advance`, its unchecked slice, or a call `state.advance(…)` -/
theorem shared_state_is_advance : Extracted.sharedState.all isAdvanceUse = true :=
  List.all_eq_true.2 fun s hs => (sharedState_scan s hs).2.1

/-- the number of hits (five calls in `builtin_parsers.rs`, the definition and the slice in `state.rs`) -/
theorem sharedState_length : Extracted.sharedState.length = 7 := by decide

/-! ### reading at the character level -/

theorem byteCodes_eq (s : String) :
    byteCodes s = (s.toList.flatMap String.utf8EncodeChar).map UInt8.toNat := by
  unfold byteCodes
  rw [← String.utf8Encode_toList]
  simp [List.utf8Encode]

theorem byteCodes_infix {p s : String} (h : p.toList <:+: s.toList) : byteCodes p <:+: byteCodes s := by
  obtain ⟨a, b, hab⟩ := h
  rw [byteCodes_eq, byteCodes_eq, ← hab]
  simp only [List.flatMap_append, List.map_append]
  exact ⟨_, _, rfl⟩

theorem byteCodes_prefix {p s : String} (h : p.toList <+: s.toList) : byteCodes p <+: byteCodes s := by
  obtain ⟨b, hab⟩ := h
  rw [byteCodes_eq, byteCodes_eq, ← hab]
  simp only [List.flatMap_append, List.map_append]
  exact ⟨_, rfl⟩

/-- Prop-level reading of `no_shared_state`: no entry of the scan contains any of the state words (as
    a sequence of characters); every entry contains the bytes of `unsafe` and starts with the bytes of
    one of the two runtime file names -/
theorem no_shared_state' :
    ∀ s ∈ Extracted.sharedState,
      (∀ w ∈ stateWords, ¬ w.toList <:+: s.toList) ∧
      (∃ p ∈ advanceFiles, byteCodes p <+: byteCodes s) ∧ byteCodes "unsafe" <:+: byteCodes s := by
  intro s hs
  have h := (sharedState_scan s hs).1
  simp only [isKnownUnsafeAdvance, Bool.and_eq_true, List.any_eq_true, List.all_eq_true,
    Bool.not_eq_true', hasSub, hasPrefix] at h
  obtain ⟨⟨⟨p, hp, hpre⟩, hu⟩, hw⟩ := h
  refine ⟨?_, ⟨p, hp, List.isPrefixOf_iff_prefix.1 hpre⟩, (containsSub_iff _ _).1 hu⟩
  intro w hw' hin
  have := hw w hw'
  rw [(containsSub_iff _ _).2 (byteCodes_infix hin)] at this
  cases this

/-- no entry lies in the generator, whose sources contain the templates of the generated code: as far as
    the scan sees, the generated parsers contain no `unsafe` block and define no statics -/
theorem codegen_has_no_unsafe' :
    ∀ s ∈ Extracted.sharedState, ¬ "codegen/src".toList <+: s.toList := by
  intro s hs hpre
  have h := (sharedState_scan s hs).2.2.1
  rw [hasPrefix, List.isPrefixOf_iff_prefix.2 (byteCodes_prefix hpre)] at h
  cases h

/-- sanity of the checker: it does reject lines with state, and lines outside the two files -/
example : isKnownUnsafeAdvance "runtime/src/state.rs: static mut COUNTER: usize = 0;" = false := by decide +kernel
example : isKnownUnsafeAdvance "runtime/src/state.rs: thread_local! { static X: Cell<u8> = Cell::new(0) }" = false := by
  decide +kernel
example : isKnownUnsafeAdvance "codegen/src/rule.rs: let state = unsafe { state.advance(1) };" = false := by decide +kernel
example : isKnownUnsafeAdvance "runtime/src/builtin_parsers.rs: let state = unsafe { state.advance(1) };" = true := by
  decide +kernel

end Peg
