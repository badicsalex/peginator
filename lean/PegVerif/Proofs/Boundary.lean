import PegVerif.Proofs.Basics
/-
  UTF-8 boundary safety of the runtime matchers (property C01, terminal part).

  The real runtime advances its cursor with an unchecked `&str` slice; every matcher must therefore
  advance only by byte counts that land on character boundaries.  A state on a boundary of the text `cs`
  (`BSt`) sits between a consumed text `pre` and a remaining text `rem` (`At`); each matcher is first read at
  the level of characters on such a state (`*_enc`: result, new state, error), and everything else – when it
  succeeds, that it stays on a boundary, that `advance` never overruns – is read off that description.
  `ci_nonascii_off_boundary` is the negative fact for `parseCharacterLiteralInsensitive` with a non-ASCII literal.
-/
namespace Peg

/-! ### `enc` algebra -/

theorem enc_nil : enc [] = [] := rfl
theorem enc_cons (c : Char) (cs : List Char) : enc (c :: cs) = String.utf8EncodeChar c ++ enc cs := by
  simp [enc]
theorem enc_append (a b : List Char) : enc (a ++ b) = enc a ++ enc b := by simp [enc]
theorem enc_singleton (c : Char) : enc [c] = String.utf8EncodeChar c := by simp [enc]

theorem enc_eq_nil_iff {cs : List Char} : enc cs = [] ↔ cs = [] := by
  cases cs with
  | nil => simp [enc_nil]
  | cons c r => simp [enc_cons]

theorem length_enc_cons (c : Char) (cs : List Char) : (enc (c :: cs)).length = c.utf8Size + (enc cs).length := by
  rw [enc_cons, List.length_append, String.length_utf8EncodeChar]

/-! ### decoding the head of an encoded text -/

theorem decodeHead_nil : decodeHead [] = none := by
  simp [decodeHead, ByteArray.utf8DecodeChar?]

theorem decodeHead_encodeChar_append (c : Char) (t : List UInt8) :
    decodeHead (String.utf8EncodeChar c ++ t) = some c := by
  unfold decodeHead
  rw [List.take_append]
  have : (String.utf8EncodeChar c).take 4 = String.utf8EncodeChar c :=
    List.take_of_length_le (by rw [String.length_utf8EncodeChar]; exact Char.utf8Size_le_four c)
  rw [this, List.toByteArray_append]
  exact ByteArray.utf8DecodeChar?_utf8EncodeChar_append

theorem decodeHead_enc_cons (c : Char) (cs : List Char) : decodeHead (enc (c :: cs)) = some c := by
  rw [enc_cons]; exact decodeHead_encodeChar_append c _

/-- UTF-8 is prefix-free: the encoding of a character is determined by decoding -/
theorem utf8EncodeChar_prefix {c c' : Char} {t : List UInt8}
    (h : String.utf8EncodeChar c <+: String.utf8EncodeChar c' ++ t) : c = c' := by
  obtain ⟨t', ht'⟩ := h
  have h1 := decodeHead_encodeChar_append c t'
  rw [ht', decodeHead_encodeChar_append] at h1
  exact (Option.some.inj h1).symm

/-- UTF-8 is self-synchronising on texts: a byte-level prefix between encodings is a char-level prefix -/
theorem enc_prefix_iff {l rem : List Char} : enc l <+: enc rem ↔ l <+: rem := by
  constructor
  · intro h
    induction l generalizing rem with
    | nil => exact List.nil_prefix
    | cons c l ih =>
      cases rem with
      | nil =>
        rw [enc_nil, List.prefix_nil, enc_eq_nil_iff] at h
        cases h
      | cons c' r =>
        rw [enc_cons, enc_cons] at h
        have hcc : c = c' := by
          apply utf8EncodeChar_prefix (t := enc r)
          exact List.IsPrefix.trans (List.prefix_append _ _) h
        subst hcc
        rw [List.prefix_append_right_inj] at h
        rw [List.cons_prefix_cons]
        exact ⟨rfl, ih h⟩
  · rintro ⟨t, rfl⟩
    rw [enc_append]; exact List.prefix_append _ _

/-! ### byte / ASCII facts (finite enumeration, kernel-checked) -/

theorem u8_all (P : UInt8 → Prop) (h : ∀ n : Fin 256, P (UInt8.ofNat n.val)) (b : UInt8) : P b := by
  have := h ⟨b.toNat, b.toNat_lt⟩
  simpa using this

theorem isAscii_iff {c : Char} : isAscii c = true ↔ c.val.toNat < 128 := by
  unfold isAscii; simp [UInt32.lt_iff_toNat_lt]

theorem isAscii_false_iff {c : Char} : isAscii c = false ↔ 128 ≤ c.val.toNat := by
  rw [← Bool.not_eq_true, isAscii_iff]; omega

theorem ascii_all (P : Char → Prop) (h : ∀ n : Fin 128, P (Char.ofNat n.val)) (c : Char)
    (hc : isAscii c = true) : P c := by
  have hlt := isAscii_iff.mp hc
  have := h ⟨c.val.toNat, hlt⟩
  simpa using this

theorem utf8Size_ascii {c : Char} (hc : isAscii c = true) : c.utf8Size = 1 := by
  rw [Char.utf8Size_eq_one_iff, UInt32.le_iff_toNat_le]
  have := isAscii_iff.mp hc
  show c.val.toNat ≤ 127
  omega

theorem isAscii_of_utf8Size {c : Char} (h : c.utf8Size = 1) : isAscii c = true := by
  rw [Char.utf8Size_eq_one_iff, UInt32.le_iff_toNat_le] at h
  rw [isAscii_iff]
  have : c.val.toNat ≤ 127 := h
  omega

/-- an ASCII character is encoded as the single byte `c as u8` -/
theorem utf8EncodeChar_ascii {c : Char} (hc : isAscii c = true) : String.utf8EncodeChar c = [charAsU8 c] :=
  String.utf8EncodeChar_eq_singleton (utf8Size_ascii hc)

theorem charAsU8_toNat {c : Char} (hc : isAscii c = true) : (charAsU8 c).toNat = c.val.toNat := by
  have := isAscii_iff.mp hc
  unfold charAsU8
  rw [UInt32.toNat_toUInt8]
  omega

theorem charAsU8_lt {c : Char} (hc : isAscii c = true) : charAsU8 c < 128 := by
  rw [UInt8.lt_iff_toNat_lt, charAsU8_toNat hc]
  exact isAscii_iff.mp hc

theorem u8AsChar_charAsU8 {c : Char} (hc : isAscii c = true) : u8AsChar (charAsU8 c) = c := by
  unfold u8AsChar
  rw [charAsU8_toNat hc]
  exact Char.ofNat_toNat c

theorem charAsU8_inj {c c' : Char} (hc : isAscii c = true) (hc' : isAscii c' = true)
    (h : charAsU8 c = charAsU8 c') : c = c' := by
  have h1 := charAsU8_toNat hc
  have h2 := charAsU8_toNat hc'
  rw [h, h2] at h1
  exact (Char.ext (UInt32.toNat_inj.mp h1)).symm

/-- or-ing bits into a byte does not make it smaller: the lead bytes `110xxxxx`, `1110xxxx`, `11110xxx` are ≥ 0xC0 -/
theorem or_ge (x y : UInt8) {k : UInt8} (h : k ≤ y) : k ≤ (x ||| y) := by
  rw [UInt8.le_iff_toNat_le] at h ⊢
  rw [UInt8.toNat_or]
  exact Nat.le_trans h Nat.right_le_or

theorem head_ascii {c : Char} {b : UInt8} {tl : List UInt8} (hc : isAscii c = true)
    (he : String.utf8EncodeChar c = b :: tl) : b = charAsU8 c ∧ tl = [] := by
  rw [utf8EncodeChar_ascii hc] at he
  injection he with h1 h2
  exact ⟨h1.symm, h2.symm⟩

/-- the bytes of a non-ASCII character: a lead byte `11xxxxxx`, then bytes `1xxxxxxx` -/
theorem nonascii_bytes {c : Char} {b : UInt8} {tl : List UInt8} (hc : isAscii c = false)
    (he : String.utf8EncodeChar c = b :: tl) : 192 ≤ b ∧ ∀ x ∈ tl, 128 ≤ x := by
  rcases Char.utf8Size_eq c with h1 | h2 | h3 | h4
  · rw [isAscii_of_utf8Size h1] at hc; cases hc
  · rw [String.utf8EncodeChar_eq_cons_cons h2] at he
    injection he with h h'; subst h h'
    simp only [List.forall_mem_cons, List.not_mem_nil, false_imp_iff, implies_true, and_true]
    exact ⟨or_ge _ _ (by decide), or_ge _ _ (by decide)⟩
  · rw [String.utf8EncodeChar_eq_cons_cons_cons h3] at he
    injection he with h h'; subst h h'
    simp only [List.forall_mem_cons, List.not_mem_nil, false_imp_iff, implies_true, and_true]
    exact ⟨or_ge _ _ (by decide), or_ge _ _ (by decide), or_ge _ _ (by decide)⟩
  · rw [String.utf8EncodeChar_eq_cons_cons_cons_cons h4] at he
    injection he with h h'; subst h h'
    simp only [List.forall_mem_cons, List.not_mem_nil, false_imp_iff, implies_true, and_true]
    exact ⟨or_ge _ _ (by decide), or_ge _ _ (by decide), or_ge _ _ (by decide), or_ge _ _ (by decide)⟩

/-- the first byte of an encoded character: the character itself, and all of the encoding, if it is ASCII; else a lead
    byte `11xxxxxx`.  What the byte-level tests of the runtime are read through. -/
theorem head_cases {c : Char} {b : UInt8} {tl : List UInt8} (he : String.utf8EncodeChar c = b :: tl) :
    (isAscii c = true ∧ b = charAsU8 c ∧ tl = []) ∨ (isAscii c = false ∧ 192 ≤ b) := by
  cases hc : isAscii c with
  | true => exact .inl ⟨rfl, head_ascii hc he⟩
  | false => exact .inr ⟨rfl, (nonascii_bytes hc he).1⟩

theorem exists_head (c : Char) : ∃ b tl, String.utf8EncodeChar c = b :: tl :=
  List.exists_cons_of_ne_nil String.utf8EncodeChar_ne_nil

/-- for an ASCII literal, the first-byte comparison is the character comparison -/
theorem head_eq_charAsU8_iff {c c' : Char} {b : UInt8} {tl : List UInt8} (hc : isAscii c = true)
    (he : String.utf8EncodeChar c' = b :: tl) : b = charAsU8 c ↔ c' = c := by
  constructor
  · rintro rfl
    rcases head_cases he with ⟨hc', hb, -⟩ | ⟨-, hb⟩
    · exact (charAsU8_inj hc hc' hb).symm
    · exact absurd (charAsU8_lt hc) (UInt8.not_lt.mpr (UInt8.le_trans (by decide) hb))
  · rintro rfl
    exact (head_ascii hc he).1

/-! ### boundary states -/

/-- `off` is a character boundary of the text `cs`: the byte length of some prefix of `cs` -/
def IsBoundary (cs : List Char) (off : Nat) : Prop := ∃ k, k ≤ cs.length ∧ off = (enc (cs.take k)).length
/-- a state on a boundary of `enc cs`, consistent with the input -/
def BSt (cs : List Char) (s : St) : Prop := WfSt (enc cs) s ∧ IsBoundary cs s.off

/-- the state `s` sits between the consumed text `pre` and the remaining text `rem` of `cs` -/
def At (cs pre rem : List Char) (s : St) : Prop :=
  cs = pre ++ rem ∧ s.off = (enc pre).length ∧ s.rest = enc rem

/-- `At` from its (decidable) unfolding -/
theorem at_of {cs pre rem : List Char} {s : St}
    (h : (cs = pre ++ rem ∧ s.off = (enc pre).length ∧ s.rest = enc rem)) : At cs pre rem s := h

theorem At.take_drop {cs pre rem s} (h : At cs pre rem s) :
    pre = cs.take pre.length ∧ rem = cs.drop pre.length := by
  obtain ⟨h1, _, _⟩ := h
  subst h1; simp

theorem at_take_drop_iff {cs k s} :
    At cs (cs.take k) (cs.drop k) s ↔ s.off = (enc (cs.take k)).length ∧ s.rest = enc (cs.drop k) := by
  unfold At; simp [List.take_append_drop]

theorem At.bst {cs pre rem s} (h : At cs pre rem s) : BSt cs s := by
  obtain ⟨h1, h2, h3⟩ := h
  subst h1
  refine ⟨?_, pre.length, by simp, by simp [h2]⟩
  unfold WfSt
  rw [h3, h2, enc_append, List.drop_left]

theorem bst_iff_at {cs s} : BSt cs s ↔ ∃ pre rem, At cs pre rem s := by
  constructor
  · rintro ⟨hw, k, hk, hoff⟩
    refine ⟨cs.take k, cs.drop k, (List.take_append_drop k cs).symm, hoff, ?_⟩
    unfold WfSt at hw
    have hsplit : enc cs = enc (cs.take k) ++ enc (cs.drop k) := by
      rw [← enc_append, List.take_append_drop]
    rw [hw, hoff, hsplit, List.drop_left]
  · rintro ⟨pre, rem, h⟩; exact h.bst

theorem At.index {cs pre rem s} (h : At cs pre rem s) :
    pre.length ≤ cs.length ∧ At cs (cs.take pre.length) (cs.drop pre.length) s := by
  obtain ⟨h1, h2⟩ := h.take_drop
  refine ⟨?_, ?_⟩
  · rw [h.1]; simp
  · rw [← h1, ← h2]; exact h

/-- the boundary index form: `cs.drop k` is the remaining text at boundary index `k` -/
theorem bst_iff_index {cs s} : BSt cs s ↔ ∃ k, k ≤ cs.length ∧ At cs (cs.take k) (cs.drop k) s := by
  rw [bst_iff_at]
  exact ⟨fun ⟨pre, _, h⟩ => ⟨pre.length, h.index⟩, fun ⟨_, _, h⟩ => ⟨_, _, h⟩⟩

/-- advancing over the characters `p` -/
theorem At.advance {cs pre p r s} (h : At cs pre (p ++ r) s) :
    At cs (pre ++ p) r { s with rest := enc r, off := s.off + (enc p).length } := by
  obtain ⟨h1, h2, _⟩ := h
  refine ⟨by rw [h1, List.append_assoc], ?_, rfl⟩
  simp [enc_append, h2]

theorem At.advance_char {cs pre c r s} (h : At cs pre (c :: r) s) :
    At cs (pre ++ [c]) r { s with rest := enc r, off := s.off + c.utf8Size } := by
  have := At.advance (p := [c]) (r := r) (by simpa using h)
  rwa [enc_singleton, String.length_utf8EncodeChar] at this

theorem advance_enc {α} (s : St) (p r : List Char) (v : α) (h : s.rest = enc (p ++ r)) :
    s.advance (enc p).length v = .ok v { s with rest := enc r, off := s.off + (enc p).length } := by
  unfold St.advance
  rw [h, enc_append]
  simp

theorem advance_char {α} (s : St) (c : Char) (r : List Char) (v : α) (h : s.rest = enc (c :: r))
    {n : Nat} (hn : n = c.utf8Size) :
    s.advance n v = .ok v { s with rest := enc r, off := s.off + c.utf8Size } := by
  have := advance_enc s [c] r v (by simpa using h)
  rw [enc_singleton, String.length_utf8EncodeChar] at this
  rw [hn]; exact this

/-! ### character-level reading of the matchers (`s.rest = enc rem`) -/

/-- `parseChar` succeeds iff the remaining text is non-empty, returns its first char, advances by its size -/
theorem parseChar_enc {s : St} {rem : List Char} (h : s.rest = enc rem) :
    parseChar s = match (generalizing := false) rem with
      | [] => .err (s.reportError .expectedAnyCharacter)
      | c :: r => .ok c { s with rest := enc r, off := s.off + c.utf8Size } := by
  unfold parseChar
  cases rem with
  | nil => rw [h, enc_nil, decodeHead_nil]
  | cons c r =>
    rw [h, decodeHead_enc_cons]
    exact advance_char s c r c h rfl

/-- `parseEndOfInput` succeeds iff the remaining text is empty -/
theorem parseEndOfInput_enc {s : St} {rem : List Char} (h : s.rest = enc rem) :
    parseEndOfInput s = match (generalizing := false) rem with
      | [] => .ok () s
      | _ :: _ => .err (s.reportError .expectedEoi) := by
  unfold parseEndOfInput St.isEmpty
  cases rem with
  | nil => rw [h, enc_nil]; rfl
  | cons c r =>
    obtain ⟨b, tl, he⟩ := exists_head c
    rw [h, enc_cons, he]; rfl

/-- the matchers test for rejection and then advance; their readings test for acceptance -/
theorem Res.ite_reject {α} {T : Bool} {P : Prop} [Decidable P] {a b : Res α} {e : PErr} (hT : T = true ↔ ¬ P)
    (hP : P → a = b) : (if T then .err e else a) = if P then b else .err e := by
  by_cases hp : P
  · rw [if_neg (mt hT.mp (not_not_intro hp)), if_pos hp, hP hp]
  · rw [if_pos (hT.mpr hp), if_neg hp]

/-- `parseCharacterLiteral s c` succeeds iff the remaining text starts with `c` -/
theorem parseCharacterLiteral_enc {s : St} {rem : List Char} (c : Char) (h : s.rest = enc rem) :
    parseCharacterLiteral s c = match (generalizing := false) rem with
      | [] => .err (s.reportError (.expectedCharacter c))
      | c' :: r =>
        if c' = c then .ok c { s with rest := enc r, off := s.off + c.utf8Size }
        else .err (s.reportError (.expectedCharacter c)) := by
  unfold parseCharacterLiteral
  cases hc : isAscii c with
  | true =>
    simp only [if_true]
    cases rem with
    | nil => rw [h, enc_nil]
    | cons c' r =>
      obtain ⟨b, tl, he⟩ := exists_head c'
      have h' := h
      rw [enc_cons, he, List.cons_append] at h'
      rw [h']
      simp only
      refine Res.ite_reject (bne_iff_ne.trans (not_congr (head_eq_charAsU8_iff hc he))) fun hcc => ?_
      subst hcc
      exact advance_char s c' r c' h (utf8Size_ascii hc).symm
  | false =>
    -- a non-ASCII literal is compared as the one-character string
    have hp : (!(String.utf8EncodeChar c).isPrefixOf s.rest) = true ↔ ¬ [c] <+: rem := by
      rw [Bool.not_eq_true', ← Bool.not_eq_true, List.isPrefixOf_iff_prefix, h, ← enc_singleton, enc_prefix_iff]
    simp only [Bool.false_eq_true, if_false]
    cases rem with
    | nil => rw [if_pos (hp.mpr (by simp))]
    | cons c' r =>
      refine Res.ite_reject (hp.trans (by simp [eq_comm])) fun hcc => ?_
      subst hcc
      exact advance_char s c' r c' h rfl

theorem char_le_iff {a b : Char} : a ≤ b ↔ a.val.toNat ≤ b.val.toNat := by
  rw [Char.le_def, UInt32.le_iff_toNat_le]
theorem char_lt_iff {a b : Char} : a < b ↔ a.val.toNat < b.val.toNat := by
  rw [Char.lt_def, UInt32.lt_iff_toNat_lt]

theorem out_of_range_iff {c lo hi : Char} : (decide (c < lo) || decide (c > hi)) = true ↔ ¬ (lo ≤ c ∧ c ≤ hi) := by
  rw [char_le_iff, char_le_iff]
  simp only [Bool.or_eq_true, decide_eq_true_eq, GT.gt, char_lt_iff]
  omega

/-- for ASCII bounds the comparison of the first byte decides the same: a byte `< 0x80` is the character, a lead
    byte `≥ 0x80` lies above every ASCII bound -/
theorem head_out_of_range_iff {c lo hi : Char} {b : UInt8} {tl : List UInt8} (hlo : isAscii lo = true)
    (hhi : isAscii hi = true) (he : String.utf8EncodeChar c = b :: tl) :
    (decide (b < charAsU8 lo) || decide (b > charAsU8 hi)) = true ↔ ¬ (lo ≤ c ∧ c ≤ hi) := by
  have nlo := charAsU8_toNat hlo
  have nhi := charAsU8_toNat hhi
  have lhi := isAscii_iff.mp hhi
  rw [char_le_iff, char_le_iff]
  simp only [Bool.or_eq_true, decide_eq_true_eq, GT.gt, UInt8.lt_iff_toNat_lt]
  rcases head_cases he with ⟨hc, rfl, -⟩ | ⟨hc, hb⟩
  · have nc := charAsU8_toNat hc
    omega
  · have hcn := isAscii_false_iff.mp hc
    have : 192 ≤ b.toNat := UInt8.le_iff_toNat_le.mp hb
    omega

/-- `parseCharacterRange s lo hi` succeeds iff the remaining text starts with a char in `[lo, hi]` (code point order) -/
theorem parseCharacterRange_enc {s : St} {rem : List Char} (lo hi : Char) (h : s.rest = enc rem) :
    parseCharacterRange s lo hi = match (generalizing := false) rem with
      | [] => .err (s.reportError (.expectedCharacterRange lo hi))
      | c :: r =>
        if lo ≤ c ∧ c ≤ hi then .ok c { s with rest := enc r, off := s.off + c.utf8Size }
        else .err (s.reportError (.expectedCharacterRange lo hi)) := by
  unfold parseCharacterRange
  cases rem with
  | nil => rw [h, enc_nil, decodeHead_nil]; split <;> rfl
  | cons c r =>
    split
    · rename_i hlh
      rw [Bool.and_eq_true] at hlh
      obtain ⟨b, tl, he⟩ := exists_head c
      have h' := h
      rw [enc_cons, he, List.cons_append] at h'
      rw [h']
      simp only
      refine Res.ite_reject (head_out_of_range_iff hlh.1 hlh.2 he) fun hin => ?_
      -- `c ≤ hi` makes `c` ASCII, so `b` is `c`
      have hc : isAscii c = true :=
        isAscii_iff.mpr (Nat.lt_of_le_of_lt (char_le_iff.mp hin.2) (isAscii_iff.mp hlh.2))
      rw [(head_ascii hc he).1, u8AsChar_charAsU8 hc]
      exact advance_char s c r c h (utf8Size_ascii hc).symm
    · rw [h, decodeHead_enc_cons]
      exact Res.ite_reject out_of_range_iff fun _ => advance_char s c r c h rfl

/-- `parseStringLiteral s l` succeeds iff `l` is a prefix of the remaining text, advancing by `(enc l).length` -/
theorem parseStringLiteral_enc {s : St} {rem : List Char} (lit : List Char) (h : s.rest = enc rem) :
    parseStringLiteral s lit =
      if lit.isPrefixOf rem then
        .ok () { s with rest := enc (rem.drop lit.length), off := s.off + (enc lit).length }
      else .err (s.reportError (.expectedString lit)) := by
  unfold parseStringLiteral
  refine Res.ite_reject ?_ fun hpr => ?_
  · rw [Bool.not_eq_true', ← Bool.not_eq_true, List.isPrefixOf_iff_prefix, List.isPrefixOf_iff_prefix, h, enc_prefix_iff]
  · obtain ⟨t, rfl⟩ := List.isPrefixOf_iff_prefix.mp hpr
    rw [List.drop_left]
    exact advance_enc s lit t () h

/-! ### whitespace -/

/-- the five characters skipped by `parse_Whitespace`: U+0020, U+0009, U+000A, U+000C, U+000D -/
def isWsChar (c : Char) : Bool := c == ' ' || c == '\t' || c == '\n' || c == '\x0c' || c == '\r'

theorem isWsChar_ascii {c : Char} (h : isWsChar c = true) : isAscii c = true := by
  unfold isWsChar at h
  simp only [Bool.or_eq_true, beq_iff_eq] at h
  rcases h with (((h | h) | h) | h) | h <;> subst h <;> decide

theorem ws_byte_ascii {c : Char} (hc : isAscii c = true) : isAsciiWhitespace (charAsU8 c) = isWsChar c :=
  ascii_all (fun c => isAsciiWhitespace (charAsU8 c) = isWsChar c) (by decide +kernel) c hc

theorem ws_byte_hi (b : UInt8) : 192 ≤ b → isAsciiWhitespace b = false :=
  u8_all (fun b => 192 ≤ b → isAsciiWhitespace b = false) (by decide +kernel) b

/-- the whitespace test on the lead byte is the whitespace test on the character -/
theorem head_ws {c : Char} {b : UInt8} {tl : List UInt8} (he : String.utf8EncodeChar c = b :: tl) :
    isAsciiWhitespace b = isWsChar c := by
  rcases head_cases he with ⟨hc, rfl, -⟩ | ⟨hc, hb⟩
  · exact ws_byte_ascii hc
  · rw [ws_byte_hi b hb]
    cases hw : isWsChar c with
    | false => rfl
    | true => rw [isWsChar_ascii hw] at hc; cases hc

theorem wsPrefixLen_enc (rem : List Char) :
    wsPrefixLen (enc rem) = (enc (rem.takeWhile isWsChar)).length := by
  induction rem with
  | nil => rfl
  | cons c r ih =>
    obtain ⟨b, tl, he⟩ := exists_head c
    rw [enc_cons, he, List.cons_append, wsPrefixLen, head_ws he, List.takeWhile_cons]
    cases hw : isWsChar c with
    | false => simp [enc_nil]
    | true =>
      have hc := isWsChar_ascii hw
      obtain ⟨-, rfl⟩ := head_ascii hc he
      simp only [if_true, List.nil_append, ih, length_enc_cons, utf8Size_ascii hc]
      omega

/-- `parseWhitespace` never fails and skips exactly the maximal prefix of the remaining text made of the five
    characters U+0020, U+0009, U+000A, U+000C, U+000D -/
theorem parseWhitespace_enc {s : St} {rem : List Char} (h : s.rest = enc rem) :
    parseWhitespace s = .ok () { s with rest := enc (rem.dropWhile isWsChar),
                                        off := s.off + (enc (rem.takeWhile isWsChar)).length } := by
  unfold parseWhitespace
  simp only [h, wsPrefixLen_enc]
  have : enc rem = enc (rem.takeWhile isWsChar) ++ enc (rem.dropWhile isWsChar) := by
    rw [← enc_append, List.takeWhile_append_dropWhile]
  conv => lhs; rw [this, List.drop_left]

/-- U+000B (VT), U+00A0 (NBSP), U+2003 (EM SPACE) are not skipped -/
theorem isWsChar_examples :
    isWsChar '\x0b' = false ∧ isWsChar '\u00a0' = false ∧ isWsChar '\u2003' = false ∧
    isWsChar ' ' = true ∧ isWsChar '\t' = true ∧ isWsChar '\n' = true ∧ isWsChar '\x0c' = true ∧
    isWsChar '\r' = true := by decide

/-! ### case-insensitive matchers -/

theorem lower_ge (b : UInt8) : 128 ≤ b → toAsciiLower b = b :=
  u8_all (fun b => 128 ≤ b → toAsciiLower b = b) (by decide +kernel) b

theorem lower_ascii {c : Char} (hc : isAscii c = true) :
    toAsciiLower (charAsU8 c) = charAsU8 (charToAsciiLower c) ∧ isAscii (charToAsciiLower c) = true :=
  ascii_all (fun c => toAsciiLower (charAsU8 c) = charAsU8 (charToAsciiLower c) ∧ isAscii (charToAsciiLower c) = true)
    (by decide +kernel) c hc

theorem lower_nonascii {c : Char} (hc : isAscii c = false) : charToAsciiLower c = c := by
  have := isAscii_false_iff.mp hc
  unfold charToAsciiLower
  have h2 : ¬ c.val ≤ 90 := by rw [UInt32.le_iff_toNat_le]; show ¬ c.val.toNat ≤ 90; omega
  simp [h2]

theorem isAscii_of_lower {c : Char} (h : isAscii (charToAsciiLower c) = true) : isAscii c = true := by
  cases hc : isAscii c with
  | true => rfl
  | false => rw [lower_nonascii hc, hc] at h; cases h

/-- lowering the bytes of an encoded character lowers the character: the case-insensitive byte tests are the
    case-sensitive ones on the lowered text -/
theorem utf8EncodeChar_lower (c : Char) :
    (String.utf8EncodeChar c).map toAsciiLower = String.utf8EncodeChar (charToAsciiLower c) := by
  cases hc : isAscii c with
  | true =>
    rw [utf8EncodeChar_ascii hc, utf8EncodeChar_ascii (lower_ascii hc).2, List.map_singleton, (lower_ascii hc).1]
  | false =>
    obtain ⟨b, tl, he⟩ := exists_head c
    obtain ⟨hb, htl⟩ := nonascii_bytes hc he
    rw [lower_nonascii hc, he, List.map_cons, lower_ge b (UInt8.le_trans (by decide) hb)]
    exact congrArg (b :: ·) ((List.map_congr_left fun x hx => lower_ge x (htl x hx)).trans (List.map_id' _))

theorem enc_map_lower (p : List Char) : (enc p).map toAsciiLower = enc (p.map charToAsciiLower) := by
  induction p with
  | nil => rfl
  | cons c p ih => rw [enc_cons, List.map_append, ih, utf8EncodeChar_lower, List.map_cons, enc_cons]

theorem head_lower_iff {c c' : Char} {b : UInt8} {tl : List UInt8} (hc : isAscii c = true)
    (he : String.utf8EncodeChar c' = b :: tl) : toAsciiLower b = charAsU8 c ↔ charToAsciiLower c' = c :=
  head_eq_charAsU8_iff hc (by rw [← utf8EncodeChar_lower, he, List.map_cons])

/-- `parseCharacterLiteralInsensitive s c` (ASCII `c`) succeeds iff the remaining text starts with a char
    whose ASCII-lowercase is `c`; it returns the literal's `c` and advances by that (one-byte) char -/
theorem parseCharacterLiteralInsensitive_enc {s : St} {rem : List Char} {c : Char} (hc : isAscii c = true)
    (h : s.rest = enc rem) :
    parseCharacterLiteralInsensitive s c = match (generalizing := false) rem with
      | [] => .err (s.reportError (.expectedCharacter c))
      | c' :: r =>
        if charToAsciiLower c' = c then .ok c { s with rest := enc r, off := s.off + c'.utf8Size }
        else .err (s.reportError (.expectedCharacter c)) := by
  unfold parseCharacterLiteralInsensitive
  cases rem with
  | nil => rw [h, enc_nil]
  | cons c' r =>
    obtain ⟨b, tl, he⟩ := exists_head c'
    have h' := h
    rw [enc_cons, he, List.cons_append] at h'
    rw [h']
    simp only
    exact Res.ite_reject (bne_iff_ne.trans (not_congr (head_lower_iff hc he))) fun hcc =>
      advance_char s c' r c h (utf8Size_ascii (isAscii_of_lower (hcc ▸ hc))).symm

theorem ci_bytes_iff {lit rem : List Char} :
    enc lit = ((enc rem).take (enc lit).length).map toAsciiLower ↔
      lit = (rem.take lit.length).map charToAsciiLower := by
  rw [List.map_take, enc_map_lower, ← List.prefix_iff_eq_take, enc_prefix_iff, List.prefix_iff_eq_take, List.map_take]

theorem ci_match_bytes {l p : List Char} (hl : l.all isAscii = true) (hm : l = p.map charToAsciiLower) :
    p.all isAscii = true ∧ p.length = l.length ∧ (enc l).length = (enc p).length := by
  refine ⟨?_, by rw [hm, List.length_map], by rw [hm, ← enc_map_lower, List.length_map]⟩
  rw [List.all_eq_true]
  intro x hx
  apply isAscii_of_lower
  have hx' : charToAsciiLower x ∈ l := by rw [hm]; exact List.mem_map_of_mem hx
  exact List.all_eq_true.mp hl _ hx'

/-- `parseStringLiteralInsensitive s lit` (ASCII `lit`) succeeds iff the remaining text starts with `lit.length`
    chars whose ASCII-lowercase are the literal's chars; it advances by `(enc lit).length = lit.length` bytes -/
theorem parseStringLiteralInsensitive_enc {s : St} {rem : List Char} {lit : List Char}
    (hl : lit.all isAscii = true) (h : s.rest = enc rem) :
    parseStringLiteralInsensitive s lit =
      if lit = (rem.take lit.length).map charToAsciiLower then
        .ok () { s with rest := enc (rem.drop lit.length), off := s.off + (enc lit).length }
      else .err (s.reportError (.expectedString lit)) := by
  unfold parseStringLiteralInsensitive
  rw [h]
  refine Res.ite_reject (bne_iff_ne.trans (not_congr ci_bytes_iff)) fun hm => ?_
  rw [(ci_match_bytes hl hm).2.2]
  exact advance_enc s (rem.take lit.length) (rem.drop lit.length) () (by rw [List.take_append_drop]; exact h)

/-! ### "succeeds iff" readings at a boundary state (terminal specs of C01)

`At cs pre rem s`: `pre` is the consumed text, `rem` the remaining text (`At.index`: `pre = cs.take k`,
`rem = cs.drop k` for the boundary index `k = pre.length`). -/

/-- the matchers decide once, between a success and an error -/
theorem Res.ite_ok_iff {α} {d : Prop} [Decidable d] {v0 v : α} {s0 s' : St} {e0 : PErr} :
    (if d then Res.ok v0 s0 else .err e0) = .ok v s' ↔ d ∧ v0 = v ∧ s0 = s' := by
  split <;> simp [*]

theorem Res.ite_err_iff {α} {d : Prop} [Decidable d] {v0 : α} {s0 : St} {e0 e : PErr} :
    (if d then Res.ok v0 s0 else .err e0) = .err e ↔ ¬ d ∧ e = e0 := by
  split <;> simp [*, eq_comm]

theorem parseChar_ok_iff {cs pre rem s c s'} (hat : At cs pre rem s) :
    parseChar s = .ok c s' ↔
      ∃ r, rem = c :: r ∧ s' = { s with rest := enc r, off := s.off + c.utf8Size } ∧ At cs (pre ++ [c]) r s' := by
  rw [parseChar_enc hat.2.2]
  cases rem with
  | nil => simp
  | cons c0 r0 =>
    simp only [Res.ok.injEq, List.cons.injEq]
    constructor
    · rintro ⟨rfl, rfl⟩; exact ⟨r0, ⟨rfl, rfl⟩, rfl, hat.advance_char⟩
    · rintro ⟨r, ⟨rfl, rfl⟩, rfl, _⟩; exact ⟨rfl, rfl⟩

theorem parseChar_err_iff {cs pre rem s e} (hat : At cs pre rem s) :
    parseChar s = .err e ↔ rem = [] ∧ e = s.reportError .expectedAnyCharacter := by
  rw [parseChar_enc hat.2.2]
  cases rem with
  | nil => simp [eq_comm]
  | cons c0 r0 => simp

theorem parseCharacterLiteral_ok_iff {cs pre rem s c v s'} (hat : At cs pre rem s) :
    parseCharacterLiteral s c = .ok v s' ↔
      v = c ∧ ∃ r, rem = c :: r ∧ s' = { s with rest := enc r, off := s.off + c.utf8Size } ∧
        At cs (pre ++ [c]) r s' := by
  rw [parseCharacterLiteral_enc c hat.2.2]
  cases rem with
  | nil => simp
  | cons c0 r0 =>
    rw [Res.ite_ok_iff]
    constructor
    · rintro ⟨rfl, rfl, rfl⟩; exact ⟨rfl, r0, rfl, rfl, hat.advance_char⟩
    · rintro ⟨rfl, r, h, rfl, -⟩; cases h; exact ⟨rfl, rfl, rfl⟩

theorem parseCharacterLiteral_err_iff {cs pre rem s c e} (hat : At cs pre rem s) :
    parseCharacterLiteral s c = .err e ↔ rem.head? ≠ some c ∧ e = s.reportError (.expectedCharacter c) := by
  rw [parseCharacterLiteral_enc c hat.2.2]
  cases rem with
  | nil => simp [eq_comm]
  | cons c0 r0 => simp [Res.ite_err_iff]

theorem parseCharacterRange_ok_iff {cs pre rem s lo hi v s'} (hat : At cs pre rem s) :
    parseCharacterRange s lo hi = .ok v s' ↔
      ∃ r, rem = v :: r ∧ lo ≤ v ∧ v ≤ hi ∧ s' = { s with rest := enc r, off := s.off + v.utf8Size } ∧
        At cs (pre ++ [v]) r s' := by
  rw [parseCharacterRange_enc lo hi hat.2.2]
  cases rem with
  | nil => simp
  | cons c0 r0 =>
    rw [Res.ite_ok_iff]
    constructor
    · rintro ⟨hin, rfl, rfl⟩; exact ⟨r0, rfl, hin.1, hin.2, rfl, hat.advance_char⟩
    · rintro ⟨r, h, h1, h2, rfl, -⟩; cases h; exact ⟨⟨h1, h2⟩, rfl, rfl⟩

theorem parseCharacterRange_err_iff {cs pre rem s lo hi e} (hat : At cs pre rem s) :
    parseCharacterRange s lo hi = .err e ↔
      (∀ c ∈ rem.head?, ¬ (lo ≤ c ∧ c ≤ hi)) ∧ e = s.reportError (.expectedCharacterRange lo hi) := by
  rw [parseCharacterRange_enc lo hi hat.2.2]
  cases rem with
  | nil => simp [eq_comm]
  | cons c0 r0 => simp [Res.ite_err_iff]

theorem parseStringLiteral_ok_iff {cs pre rem s l v s'} (hat : At cs pre rem s) :
    parseStringLiteral s l = .ok v s' ↔
      ∃ t, rem = l ++ t ∧ s' = { s with rest := enc t, off := s.off + (enc l).length } ∧
        At cs (pre ++ l) t s' := by
  rw [parseStringLiteral_enc l hat.2.2, Res.ite_ok_iff, List.isPrefixOf_iff_prefix]
  constructor
  · rintro ⟨⟨t, rfl⟩, -, rfl⟩; rw [List.drop_left]; exact ⟨t, rfl, rfl, hat.advance⟩
  · rintro ⟨t, rfl, rfl, -⟩; rw [List.drop_left]; exact ⟨List.prefix_append _ _, rfl, rfl⟩

theorem parseStringLiteral_err_iff {cs pre rem s l e} (hat : At cs pre rem s) :
    parseStringLiteral s l = .err e ↔ ¬ l <+: rem ∧ e = s.reportError (.expectedString l) := by
  rw [parseStringLiteral_enc l hat.2.2, Res.ite_err_iff, List.isPrefixOf_iff_prefix]

/-- `parseWhitespace` always succeeds; it consumes `ws`, the maximal prefix of the remaining text made of the
    five whitespace characters: what follows does not start with one of them -/
theorem parseWhitespace_spec {cs pre rem s} (hat : At cs pre rem s) :
    ∃ ws r s', parseWhitespace s = .ok () s' ∧ rem = ws ++ r ∧ ws.all isWsChar = true ∧
      (∀ c ∈ r.head?, isWsChar c = false) ∧
      s' = { s with rest := enc r, off := s.off + (enc ws).length } ∧ At cs (pre ++ ws) r s' := by
  refine ⟨rem.takeWhile isWsChar, rem.dropWhile isWsChar, _, parseWhitespace_enc hat.2.2,
    List.takeWhile_append_dropWhile.symm, ?_, ?_, rfl, ?_⟩
  · exact List.all_takeWhile
  · intro c hc
    have := List.head?_dropWhile_not isWsChar rem
    rw [Option.mem_def] at hc
    rw [hc] at this
    simpa using this
  · have hat' : At cs pre (rem.takeWhile isWsChar ++ rem.dropWhile isWsChar) s := by
      rw [List.takeWhile_append_dropWhile]; exact hat
    exact hat'.advance

theorem parseEndOfInput_ok_iff {cs pre rem s v s'} (hat : At cs pre rem s) :
    parseEndOfInput s = .ok v s' ↔ rem = [] ∧ s' = s := by
  rw [parseEndOfInput_enc hat.2.2]
  cases rem with
  | nil => simp [eq_comm]
  | cons c0 r0 => simp

theorem parseEndOfInput_err_iff {cs pre rem s e} (hat : At cs pre rem s) :
    parseEndOfInput s = .err e ↔ rem ≠ [] ∧ e = s.reportError .expectedEoi := by
  rw [parseEndOfInput_enc hat.2.2]
  cases rem with
  | nil => simp
  | cons c0 r0 => simp [eq_comm]

theorem parseCharacterLiteralInsensitive_ok_iff {cs pre rem s c v s'} (hc : isAscii c = true)
    (hat : At cs pre rem s) :
    parseCharacterLiteralInsensitive s c = .ok v s' ↔
      v = c ∧ ∃ c' r, rem = c' :: r ∧ charToAsciiLower c' = c ∧ c'.utf8Size = 1 ∧
        s' = { s with rest := enc r, off := s.off + 1 } ∧ At cs (pre ++ [c']) r s' := by
  rw [parseCharacterLiteralInsensitive_enc hc hat.2.2]
  cases rem with
  | nil => simp
  | cons c0 r0 =>
    rw [Res.ite_ok_iff]
    constructor
    · rintro ⟨hcc, rfl, rfl⟩
      have h1 : c0.utf8Size = 1 := utf8Size_ascii (isAscii_of_lower (hcc ▸ hc))
      exact ⟨rfl, c0, r0, rfl, hcc, h1, by rw [h1], hat.advance_char⟩
    · rintro ⟨rfl, c', r, h, hcc, h1, rfl, -⟩; cases h; exact ⟨hcc, rfl, by rw [h1]⟩

theorem parseCharacterLiteralInsensitive_err_iff {cs pre rem s c e} (hc : isAscii c = true)
    (hat : At cs pre rem s) :
    parseCharacterLiteralInsensitive s c = .err e ↔
      (∀ c' ∈ rem.head?, charToAsciiLower c' ≠ c) ∧ e = s.reportError (.expectedCharacter c) := by
  rw [parseCharacterLiteralInsensitive_enc hc hat.2.2]
  cases rem with
  | nil => simp [eq_comm]
  | cons c0 r0 => simp [Res.ite_err_iff]

theorem parseStringLiteralInsensitive_ok_iff {cs pre rem s l v s'} (hl : l.all isAscii = true)
    (hat : At cs pre rem s) :
    parseStringLiteralInsensitive s l = .ok v s' ↔
      ∃ p t, rem = p ++ t ∧ p.map charToAsciiLower = l ∧
        s' = { s with rest := enc t, off := s.off + (enc p).length } ∧ At cs (pre ++ p) t s' := by
  rw [parseStringLiteralInsensitive_enc hl hat.2.2, Res.ite_ok_iff]
  constructor
  · rintro ⟨hm, -, rfl⟩
    obtain ⟨_, _, hbytes⟩ := ci_match_bytes hl hm
    have hat' : At cs pre (rem.take l.length ++ rem.drop l.length) s := by
      rw [List.take_append_drop]; exact hat
    exact ⟨rem.take l.length, rem.drop l.length, (List.take_append_drop _ _).symm, hm.symm,
      by rw [hbytes], by rw [hbytes]; exact hat'.advance⟩
  · rintro ⟨p, t, rfl, hp, rfl, -⟩
    obtain ⟨_, hlen, hb⟩ := ci_match_bytes hl hp.symm
    rw [← hlen, List.take_left, List.drop_left, hb]
    exact ⟨hp.symm, rfl, rfl⟩

theorem parseStringLiteralInsensitive_err_iff {cs pre rem s l e} (hl : l.all isAscii = true)
    (hat : At cs pre rem s) :
    parseStringLiteralInsensitive s l = .err e ↔
      l ≠ (rem.take l.length).map charToAsciiLower ∧ e = s.reportError (.expectedString l) := by
  rw [parseStringLiteralInsensitive_enc hl hat.2.2, Res.ite_err_iff]

/-! ### main theorems: boundary preservation and absence of `advance` overruns -/

theorem bst_parseChar {cs s v s'} (hb : BSt cs s) (h : parseChar s = .ok v s') : BSt cs s' := by
  obtain ⟨pre, rem, hat⟩ := bst_iff_at.mp hb
  obtain ⟨r, _, _, hat'⟩ := (parseChar_ok_iff hat).mp h
  exact hat'.bst

theorem nopanic_parseChar {cs s} (hb : BSt cs s) : ∀ msg, parseChar s ≠ .panic msg := by
  obtain ⟨pre, rem, hat⟩ := bst_iff_at.mp hb
  rw [parseChar_enc hat.2.2]
  cases rem <;> (intro msg h; cases h)

theorem bst_parseWhitespace {cs s v s'} (hb : BSt cs s) (h : parseWhitespace s = .ok v s') : BSt cs s' := by
  obtain ⟨pre, rem, hat⟩ := bst_iff_at.mp hb
  obtain ⟨ws, r, s0, h0, _, _, _, _, hat'⟩ := parseWhitespace_spec hat
  rw [h0] at h; cases h
  exact hat'.bst

theorem nopanic_parseWhitespace {cs s} (_hb : BSt cs s) : ∀ msg, parseWhitespace s ≠ .panic msg := by
  intro msg h; unfold parseWhitespace at h; cases h

theorem bst_parseStringLiteral {cs s l v s'} (hb : BSt cs s) (h : parseStringLiteral s l = .ok v s') :
    BSt cs s' := by
  obtain ⟨pre, rem, hat⟩ := bst_iff_at.mp hb
  obtain ⟨t, _, _, hat'⟩ := (parseStringLiteral_ok_iff hat).mp h
  exact hat'.bst

theorem nopanic_parseStringLiteral {cs s l} (hb : BSt cs s) : ∀ msg, parseStringLiteral s l ≠ .panic msg := by
  obtain ⟨pre, rem, hat⟩ := bst_iff_at.mp hb
  rw [parseStringLiteral_enc l hat.2.2]
  split <;> (intro msg h; cases h)

theorem bst_parseCharacterLiteral {cs s c v s'} (hb : BSt cs s) (h : parseCharacterLiteral s c = .ok v s') :
    BSt cs s' := by
  obtain ⟨pre, rem, hat⟩ := bst_iff_at.mp hb
  obtain ⟨_, r, _, _, hat'⟩ := (parseCharacterLiteral_ok_iff hat).mp h
  exact hat'.bst

theorem nopanic_parseCharacterLiteral {cs s c} (hb : BSt cs s) :
    ∀ msg, parseCharacterLiteral s c ≠ .panic msg := by
  obtain ⟨pre, rem, hat⟩ := bst_iff_at.mp hb
  rw [parseCharacterLiteral_enc c hat.2.2]
  cases rem with
  | nil => intro msg h; cases h
  | cons c' r => simp only; split <;> (intro msg h; cases h)

theorem bst_parseCharacterRange {cs s lo hi v s'} (hb : BSt cs s)
    (h : parseCharacterRange s lo hi = .ok v s') : BSt cs s' := by
  obtain ⟨pre, rem, hat⟩ := bst_iff_at.mp hb
  obtain ⟨r, _, _, _, _, hat'⟩ := (parseCharacterRange_ok_iff hat).mp h
  exact hat'.bst

theorem nopanic_parseCharacterRange {cs s lo hi} (hb : BSt cs s) :
    ∀ msg, parseCharacterRange s lo hi ≠ .panic msg := by
  obtain ⟨pre, rem, hat⟩ := bst_iff_at.mp hb
  rw [parseCharacterRange_enc lo hi hat.2.2]
  cases rem with
  | nil => intro msg h; cases h
  | cons c r => simp only; split <;> (intro msg h; cases h)

/-- needs an ASCII literal (what the generator guarantees); lowercase-ness is not needed -/
theorem bst_parseStringLiteralInsensitive {cs s l v s'} (hl : l.all isAscii = true) (hb : BSt cs s)
    (h : parseStringLiteralInsensitive s l = .ok v s') : BSt cs s' := by
  obtain ⟨pre, rem, hat⟩ := bst_iff_at.mp hb
  obtain ⟨p, t, _, _, _, hat'⟩ := (parseStringLiteralInsensitive_ok_iff hl hat).mp h
  exact hat'.bst

theorem nopanic_parseStringLiteralInsensitive {cs s l} (hl : l.all isAscii = true) (hb : BSt cs s) :
    ∀ msg, parseStringLiteralInsensitive s l ≠ .panic msg := by
  obtain ⟨pre, rem, hat⟩ := bst_iff_at.mp hb
  rw [parseStringLiteralInsensitive_enc hl hat.2.2]
  split <;> (intro msg h; cases h)

/-- needs an ASCII literal char (what the generator guarantees); see `ci_nonascii_off_boundary` -/
theorem bst_parseCharacterLiteralInsensitive {cs s c v s'} (hc : isAscii c = true) (hb : BSt cs s)
    (h : parseCharacterLiteralInsensitive s c = .ok v s') : BSt cs s' := by
  obtain ⟨pre, rem, hat⟩ := bst_iff_at.mp hb
  obtain ⟨_, c', r, _, _, _, _, hat'⟩ := (parseCharacterLiteralInsensitive_ok_iff hc hat).mp h
  exact hat'.bst

/-- no overrun in any state and even for a non-ASCII literal char: the matcher advances one byte of a non-empty
    rest (unconditional form) -/
theorem nopanic_parseCharacterLiteralInsensitive' {s c} :
    ∀ msg, parseCharacterLiteralInsensitive s c ≠ .panic msg := by
  intro msg h
  unfold parseCharacterLiteralInsensitive at h
  split at h
  · cases h
  · rename_i b tl heq
    split at h
    · cases h
    · unfold St.advance at h; rw [heq] at h; simp at h

theorem nopanic_parseCharacterLiteralInsensitive {cs s c} (_hb : BSt cs s) :
    ∀ msg, parseCharacterLiteralInsensitive s c ≠ .panic msg := nopanic_parseCharacterLiteralInsensitive'

theorem bst_parseEndOfInput {cs s v s'} (hb : BSt cs s) (h : parseEndOfInput s = .ok v s') : BSt cs s' := by
  unfold parseEndOfInput at h; split at h
  · cases h; exact hb
  · cases h

theorem nopanic_parseEndOfInput {cs s} (_hb : BSt cs s) : ∀ msg, parseEndOfInput s ≠ .panic msg := by
  intro msg h; unfold parseEndOfInput at h; split at h <;> cases h

/-! ### the negative fact: a non-ASCII literal char in the insensitive matcher leaves the boundary

`'é' as u8 = 0xE9` is the lead byte of the three-byte encodings of U+9000..U+9FFF; `to_ascii_lowercase` leaves it
alone, the comparison succeeds, and `advance(1)` lands inside the character. -/

theorem ci_nonascii_off_boundary :
    ∃ (cs : List Char) (s s' : St) (c : Char),
      BSt cs s ∧ isAscii c = false ∧ parseCharacterLiteralInsensitive s c = .ok c s' ∧
      s'.off = 1 ∧ ¬ IsBoundary cs s'.off ∧ ¬ BSt cs s' := by
  have hnb : ¬ IsBoundary [Char.ofNat 0x9000] 1 := by
    rintro ⟨k, hk, h⟩
    have : ∀ k, k ≤ 1 → 1 ≠ (enc (([Char.ofNat 0x9000]).take k)).length := by decide +kernel
    exact this k hk h
  exact ⟨[Char.ofNat 0x9000], St.new (enc [Char.ofNat 0x9000]), ⟨[0x80, 0x80], 1, none⟩, Char.ofNat 0xE9,
    (show At [Char.ofNat 0x9000] [] [Char.ofNat 0x9000] _ from ⟨rfl, rfl, rfl⟩).bst, by decide, by rfl, rfl, hnb,
    fun h => hnb h.2⟩

/-! ### sanity instances (the hypotheses are satisfiable; concrete runs) -/

/-- an ASCII insensitive literal char against an upper-case input followed by a two-byte char -/
example : ∃ s', BSt ['A', 'é'] (St.new (enc ['A', 'é'])) ∧ isAscii 'a' = true ∧
    parseCharacterLiteralInsensitive (St.new (enc ['A', 'é'])) 'a' = .ok 'a' s' ∧ s'.off = 1 ∧
    BSt ['A', 'é'] s' := by
  have hb : BSt ['A', 'é'] (St.new (enc ['A', 'é'])) :=
    (show At ['A', 'é'] [] ['A', 'é'] _ from ⟨rfl, rfl, rfl⟩).bst
  have hp : parseCharacterLiteralInsensitive (St.new (enc ['A', 'é'])) 'a' = .ok 'a' ⟨enc ['é'], 1, none⟩ := by rfl
  exact ⟨_, hb, by decide, hp, rfl, bst_parseCharacterLiteralInsensitive (by decide) hb hp⟩

/-- an ASCII insensitive string literal -/
example : ∃ s', BSt ['O', 'k', 'é'] (St.new (enc ['O', 'k', 'é'])) ∧ ['o', 'k'].all isAscii = true ∧
    parseStringLiteralInsensitive (St.new (enc ['O', 'k', 'é'])) ['o', 'k'] = .ok () s' ∧ s'.off = 2 ∧
    BSt ['O', 'k', 'é'] s' := by
  have hb : BSt ['O', 'k', 'é'] (St.new (enc ['O', 'k', 'é'])) :=
    (show At ['O', 'k', 'é'] [] ['O', 'k', 'é'] _ from ⟨rfl, rfl, rfl⟩).bst
  have hp : parseStringLiteralInsensitive (St.new (enc ['O', 'k', 'é'])) ['o', 'k'] = .ok () ⟨enc ['é'], 2, none⟩ := by
    rfl
  exact ⟨_, hb, by decide, hp, rfl, bst_parseStringLiteralInsensitive (by decide) hb hp⟩

/-- whitespace stops in front of U+000B / U+00A0 / U+2003 -/
example : parseWhitespace (St.new (enc [' ', '\t', '\x0b', ' '])) = .ok () ⟨enc ['\x0b', ' '], 2, none⟩ := by rfl
example : parseWhitespace (St.new (enc ['\n', '\u00a0'])) = .ok () ⟨enc ['\u00a0'], 1, none⟩ := by rfl
example : parseWhitespace (St.new (enc ['\u2003', ' '])) = .ok () ⟨enc ['\u2003', ' '], 0, none⟩ := by rfl

end Peg
