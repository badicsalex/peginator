import PegVerif.BuildFmt
/-
  Property C18 – freshness of the build-script helper `Compile` (models: `PegVerif/Build.lean`; with `.format()`
  `PegVerif/BuildFmt.lean`, where rustfmt is a parameter `fmt`).

  `runOnceF k compile fmt false` is `runOnce k compile` by definition, so one run is analysed once, for either mode; the
  theorems about `Build.step` / `runOps` are the instance `format = false`.  The modes differ in what the up-to-date
  test compares (`cmpHeader`) and in what a run writes (`written`); all the proofs need of `fmt` is `KeepsHeader`: what
  is written starts with what is compared.

  The header depends on the grammar text and on the prefix only through their CRC-32 (`headerLines_eq`).  On a
  destination the helper produced the up-to-date test therefore compares exactly the two CRCs and, without formatting,
  the prefix text (`fullHeader_prefix_output`): freshness over histories holds if CRC-32 does not collide on the texts
  involved (`C18F_fresh_partial`) and fails otherwise (`C18_crc_collision_witness`, `C18_prefix_collision_witness`).
-/
namespace Peg
open Build

variable {k : Consts} {compile : List UInt8 → Option (List UInt8)}
variable {fmt : List UInt8 → List UInt8} {format : Bool}
variable {g p code g' p' code' : List UInt8} {fs : FS}

/-! ### Bytes of a string -/

theorem Build.toList_loop_eq (bs : ByteArray) (i : Nat) (r : List UInt8) :
    ByteArray.toList.loop bs i r = r.reverse ++ bs.data.toList.drop i := by
  fun_induction ByteArray.toList.loop bs i r with
  | case1 i r h ih =>
    have h' : i < bs.data.toList.length := h
    have hg : bs.get! i = bs.data.toList[i] := by
      rw [Array.getElem_toList]; exact getElem!_pos bs.data i h
    rw [ih, List.drop_eq_getElem_cons h', hg, List.reverse_cons, List.append_assoc, List.singleton_append]
  | case2 i r h =>
    rw [List.drop_of_length_le (Nat.le_of_not_lt h), List.append_nil]

/-- `ByteArray.toList` is a well-founded loop, which the kernel evaluates at a high price; the list of the underlying
    array is there for the taking.  Rewrite with this before a concrete text is evaluated. -/
theorem Build.str_eq (s : String) : str s = s.toByteArray.data.toList :=
  (toList_loop_eq s.toByteArray 0 []).trans (List.nil_append _)

/-! ### `hex8` -/

theorem hexDigitU8_inj : ∀ a, a < 16 → ∀ b, b < 16 → hexDigitU8 a = hexDigitU8 b → a = b := by decide +kernel

theorem hex8_length (x : UInt32) : (hex8 x).length = 8 := by simp [hex8]

/-- a number below `16 ^ k` is determined by its `k` hexadecimal digits -/
theorem eq_of_hexDigits_eq : ∀ (k : Nat) {n m : Nat}, n < 16 ^ k → m < 16 ^ k →
    (∀ i < k, n / 16 ^ i % 16 = m / 16 ^ i % 16) → n = m
  | 0, n, m, hn, hm, _ => (Nat.lt_one_iff.mp hn).trans (Nat.lt_one_iff.mp hm).symm
  | k + 1, n, m, hn, hm, h => by
    have h0 : n % 16 = m % 16 := by simpa only [Nat.pow_zero, Nat.div_one] using h 0 (Nat.succ_pos k)
    rw [Nat.pow_succ'] at hn hm
    have hk : n / 16 = m / 16 :=
      eq_of_hexDigits_eq k (Nat.div_lt_of_lt_mul hn) (Nat.div_lt_of_lt_mul hm) fun i hi => by
        have := h (i + 1) (Nat.succ_lt_succ hi)
        rwa [Nat.pow_succ', ← Nat.div_div_eq_div_mul, ← Nat.div_div_eq_div_mul] at this
    rw [← Nat.div_add_mod n 16, ← Nat.div_add_mod m 16, hk, h0]

theorem hex8_inj {x y : UInt32} (h : hex8 x = hex8 y) : x = y := by
  apply UInt32.toNat_inj.mp
  refine eq_of_hexDigits_eq 8 x.toNat_lt y.toNat_lt fun i hi => ?_
  have := List.map_inj_left.mp h (7 - i) (List.mem_range.mpr (by omega))
  rw [show 7 - (7 - i) = i by omega] at this
  exact hexDigitU8_inj _ (Nat.mod_lt _ (by decide)) _ (Nat.mod_lt _ (by decide)) this

/-! ### The shape of the header -/

/-- fixed text in front of the grammar CRC -/
def hdrA (k : Consts) : List UInt8 :=
  str "// This file was generated by Peginator v" ++ (k.version ++ (str " built at " ++ (k.buildTime ++ (str "\n" ++
  str "// CRC-32/ISO-HDLC of the grammar file: "))))

/-- fixed text between the grammar CRC and the prefix CRC -/
def hdrB : List UInt8 :=
  str "\n" ++ (str "// Any changes to it will be lost on regeneration\n" ++ str "// CRC-32/ISO-HDLC of the prefix: ")

/-- the header lines as a function of the two CRC values -/
def crcLines (k : Consts) (cg cp : UInt32) : List UInt8 :=
  hdrA k ++ (hex8 cg ++ (hdrB ++ (hex8 cp ++ str "\n")))

theorem headerLines_eq (k : Consts) (g p : List UInt8) : headerLines k g p = crcLines k (crc32 g) (crc32 p) := by
  simp only [headerLines, sourceHeader, crcLines, hdrA, hdrB, List.append_assoc]

theorem str_nl_nl : str "\n\n" = str "\n" ++ str "\n" := by decide +kernel

theorem fullHeader_eq (k : Consts) (g p : List UInt8) :
    fullHeader k g p = crcLines k (crc32 g) (crc32 p) ++ (str "\n" ++ p) := by
  simp only [fullHeader, sourceHeader, crcLines, hdrA, hdrB, str_nl_nl, List.append_assoc]

/-- a produced destination: the header lines, a blank line, the prefix text, a newline, the code -/
theorem output_eq (k : Consts) (g p code : List UInt8) :
    output k g p code = crcLines k (crc32 g) (crc32 p) ++ (str "\n" ++ (p ++ (str "\n" ++ code))) := by
  simp only [output, fullHeader_eq, List.append_assoc]

theorem crcLines_length (k : Consts) (a b a' b' : UInt32) :
    (crcLines k a b).length = (crcLines k a' b').length := by
  simp only [crcLines, List.length_append, hex8_length]

theorem crcLines_inj {a b a' b' : UInt32} : crcLines k a b = crcLines k a' b' ↔ a = a' ∧ b = b' := by
  constructor
  · intro h
    obtain ⟨e1, h⟩ := List.append_inj (List.append_cancel_left h) (by simp only [hex8_length])
    obtain ⟨e2, _⟩ := List.append_inj (List.append_cancel_left h) (by simp only [hex8_length])
    exact ⟨hex8_inj e1, hex8_inj e2⟩
  · rintro ⟨rfl, rfl⟩; rfl

theorem append_prefix_append {α : Type} {a b x y : List α} (h : a.length = b.length) :
    a ++ x <+: b ++ y ↔ a = b ∧ x <+: y := by
  constructor
  · rintro ⟨t, ht⟩
    rw [List.append_assoc] at ht
    obtain ⟨e1, e2⟩ := List.append_inj ht h
    exact ⟨e1, t, e2⟩
  · rintro ⟨rfl, hxy⟩; exact (List.prefix_append_right_inj a).mpr hxy

/-- **what the up-to-date test compares**: the full header for `(g, p)` stands at the start of a destination produced
    from `(g', p')` exactly if the CRCs agree and `p` is an initial segment of "producing prefix, newline, code" -/
theorem fullHeader_prefix_output :
    fullHeader k g p <+: output k g' p' code' ↔
      crc32 g = crc32 g' ∧ crc32 p = crc32 p' ∧ p <+: p' ++ (str "\n" ++ code') := by
  rw [fullHeader_eq, output_eq, append_prefix_append (crcLines_length ..), crcLines_inj,
    List.prefix_append_right_inj, and_assoc]

/-- two produced destinations are equal exactly if the CRCs agree and so does what follows the header -/
theorem output_inj :
    output k g p code = output k g' p' code' ↔
      crc32 g = crc32 g' ∧ crc32 p = crc32 p' ∧ p ++ (str "\n" ++ code) = p' ++ (str "\n" ++ code') := by
  rw [output_eq, output_eq, ← and_assoc, ← crcLines_inj (k := k)]
  constructor
  · intro h
    obtain ⟨e1, e2⟩ := List.append_inj h (crcLines_length ..)
    exact ⟨e1, List.append_cancel_left e2⟩
  · rintro ⟨e1, e2⟩; rw [e1, e2]

/-! ### One run, case by case -/

/-- what the up-to-date test compares with the start of the destination -/
def cmpHeader (k : Consts) : Bool → List UInt8 → List UInt8 → List UInt8
  | true, g, p => headerLines k g p
  | false, g, p => fullHeader k g p

/-- what a run leaves as destination for a grammar that compiles to `code` (reducible: `rw` is to recognise a state
    written with `output` or `fmt (output …)`) -/
@[reducible] def written (k : Consts) (fmt : List UInt8 → List UInt8) : Bool → List UInt8 → List UInt8 → List UInt8 → List UInt8
  | true, g, p, code => fmt (output k g p code)
  | false, g, p, code => output k g p code

/-- the Prop reading of the `upToDate` test of `runOnceF` -/
def UpToDateF (k : Consts) (format : Bool) (fs : FS) (g : List UInt8) : Prop :=
  ∃ d, fs.dest = some d ∧ d.take (cmpHeader k format g fs.pfx).length = cmpHeader k format g fs.pfx

/-- the destination starts with the full header of grammar `g` and the current prefix (the Prop reading of the
    `upToDate` test of `runOnce`) -/
def UpToDate (k : Consts) (fs : FS) (g : List UInt8) : Prop :=
  ∃ d, fs.dest = some d ∧ d.take (fullHeader k g fs.pfx).length = fullHeader k g fs.pfx

/-- the `upToDate` test of `runOnceF` as a function -/
def upToDateB (k : Consts) (format : Bool) (fs : FS) (g : List UInt8) : Bool :=
  match fs.dest with
  | some d => d.take (cmpHeader k format g fs.pfx).length == cmpHeader k format g fs.pfx
  | none => false

theorem runOnceF_eq :
    runOnceF k compile fmt format fs =
      match fs.grammar with
      | none => (fs, .err)
      | some g =>
        if upToDateB k format fs g then (fs, .ok false)
        else match compile g with
          | none => (fs, .err)
          | some code => ({ fs with dest := some (written k fmt format g fs.pfx code) }, .ok true) := by
  cases format <;> rfl

theorem upToDateF_iff_prefix {d : List UInt8} (hd : fs.dest = some d) :
    UpToDateF k format fs g ↔ cmpHeader k format g fs.pfx <+: d := by
  rw [List.prefix_iff_eq_take, eq_comm]
  exact ⟨fun ⟨d', h1, h2⟩ => by rw [hd] at h1; cases h1; exact h2, fun h => ⟨d, hd, h⟩⟩

theorem upToDate_iff_prefix {d : List UInt8} (hd : fs.dest = some d) :
    UpToDate k fs g ↔ fullHeader k g fs.pfx <+: d :=
  upToDateF_iff_prefix (format := false) hd

theorem not_upToDateF_of_no_dest (hd : fs.dest = none) : ¬ UpToDateF k format fs g := by
  rintro ⟨d, h, _⟩; rw [hd] at h; cases h

theorem not_upToDate_of_no_dest {fs : FS} {g : List UInt8} (hd : fs.dest = none) : ¬ UpToDate k fs g :=
  not_upToDateF_of_no_dest (format := false) hd

/-- a destination shorter than the two CRCs of the header is never up to date -/
theorem not_upToDate_of_short {d : List UInt8} (hd : fs.dest = some d) (hl : d.length < 16) :
    ¬ UpToDate k fs g := fun hu => by
  have := ((upToDate_iff_prefix hd).mp hu).length_le
  simp only [fullHeader_eq, crcLines, List.length_append, hex8_length] at this
  omega

theorem upToDateB_iff : upToDateB k format fs g = true ↔ UpToDateF k format fs g := by
  unfold upToDateB UpToDateF
  constructor
  · intro h
    split at h
    · rename_i d hd
      exact ⟨d, hd, by simpa using h⟩
    · cases h
  · rintro ⟨d, hd, ht⟩
    simp only [hd, ht, beq_self_eq_true]

theorem runOnceF_unreadable (hg : fs.grammar = none) :
    runOnceF k compile fmt format fs = (fs, .err) := by
  rw [runOnceF_eq]; simp only [hg]

theorem runOnceF_upToDate (hg : fs.grammar = some g) (hu : UpToDateF k format fs g) :
    runOnceF k compile fmt format fs = (fs, .ok false) := by
  rw [runOnceF_eq]
  simp only [hg, upToDateB_iff.mpr hu, if_true]

theorem runOnceF_invalid (hg : fs.grammar = some g) (hu : ¬ UpToDateF k format fs g)
    (hc : compile g = none) : runOnceF k compile fmt format fs = (fs, .err) := by
  rw [runOnceF_eq]
  simp only [hg, if_neg (mt upToDateB_iff.mp hu), hc]

theorem runOnceF_write (hg : fs.grammar = some g) (hu : ¬ UpToDateF k format fs g)
    (hc : compile g = some code) :
    runOnceF k compile fmt format fs =
      ({ fs with dest := some (written k fmt format g fs.pfx code) }, .ok true) := by
  rw [runOnceF_eq]
  simp only [hg, if_neg (mt upToDateB_iff.mp hu), hc]

variable (k compile fmt format fs) in
/-- one run by its outcome: it fails, finds the destination up to date, or writes – and only then changes the state -/
theorem runOnceF_cases :
    runOnceF k compile fmt format fs = (fs, .err) ∨
    (∃ g, fs.grammar = some g ∧ UpToDateF k format fs g ∧ runOnceF k compile fmt format fs = (fs, .ok false)) ∨
    (∃ g code, fs.grammar = some g ∧ compile g = some code ∧
      runOnceF k compile fmt format fs =
        ({ fs with dest := some (written k fmt format g fs.pfx code) }, .ok true)) := by
  rcases Option.eq_none_or_eq_some fs.grammar with hg | ⟨g, hg⟩
  · exact .inl (runOnceF_unreadable hg)
  · by_cases hu : UpToDateF k format fs g
    · exact .inr (.inl ⟨g, hg, hu, runOnceF_upToDate hg hu⟩)
    · cases hc : compile g with
      | none => exact .inl (runOnceF_invalid hg hu hc)
      | some code => exact .inr (.inr ⟨g, code, hg, hc, runOnceF_write hg hu hc⟩)

/-! #### Without formatting the model is `Build.lean` -/

theorem runOnceF_false (fmt : List UInt8 → List UInt8) (fs : FS) :
    runOnceF k compile fmt false fs = runOnce k compile fs := rfl

theorem stepF_false (fmt : List UInt8 → List UInt8) (fs : FS) (op : Op) :
    stepF k compile fmt false fs op = Build.step k compile fs op := by
  cases op <;> rfl

theorem runOpsF_false_apply (fmt : List UInt8 → List UInt8) (fs : FS) (ops : List Op) :
    runOpsF k compile fmt false fs ops = runOps k compile fs ops := by
  induction ops generalizing fs with
  | nil => rfl
  | cons op ops ih => simp only [runOpsF, runOps, stepF_false, ih]

/-- a history without formatting, in the terms of the common theory -/
theorem step_runOps (fmt : List UInt8 → List UInt8) (fs : FS) (ops : List Op) (op : Op) :
    Build.step k compile (runOps k compile fs ops) op =
      stepF k compile fmt false (runOpsF k compile fmt false fs ops) op := by
  rw [stepF_false, runOpsF_false_apply]

theorem runOnce_unreadable (hg : fs.grammar = none) : runOnce k compile fs = (fs, .err) :=
  runOnceF_unreadable (fmt := id) (format := false) hg

theorem runOnce_upToDate (hg : fs.grammar = some g) (hu : UpToDate k fs g) :
    runOnce k compile fs = (fs, .ok false) :=
  runOnceF_upToDate (fmt := id) (format := false) hg hu

theorem runOnce_invalid (hg : fs.grammar = some g) (hu : ¬ UpToDate k fs g)
    (hc : compile g = none) : runOnce k compile fs = (fs, .err) :=
  runOnceF_invalid (fmt := id) (format := false) hg hu hc

theorem runOnce_write (hg : fs.grammar = some g) (hu : ¬ UpToDate k fs g)
    (hc : compile g = some code) :
    runOnce k compile fs = ({ fs with dest := some (output k g fs.pfx code) }, .ok true) :=
  runOnceF_write (fmt := id) (format := false) hg hu hc

variable (k compile fs) in
theorem runOnce_cases :
    runOnce k compile fs = (fs, .err) ∨
    (∃ g, fs.grammar = some g ∧ UpToDate k fs g ∧ runOnce k compile fs = (fs, .ok false)) ∨
    (∃ g code, fs.grammar = some g ∧ compile g = some code ∧
      runOnce k compile fs = ({ fs with dest := some (output k g fs.pfx code) }, .ok true)) :=
  runOnceF_cases k compile id false fs

/-! #### What is assumed of the formatter -/

/-- **all that is assumed of the formatter**: what a run writes starts with what the next run compares.  Without
    formatting this holds of itself; with formatting it is `KeepsHeaderLines` (`BuildFmtProofs.lean`). -/
def KeepsHeader (k : Consts) (fmt : List UInt8 → List UInt8) (format : Bool) : Prop :=
  ∀ g p code : List UInt8,
    (written k fmt format g p code).take (cmpHeader k format g p).length = cmpHeader k format g p

theorem output_take_header (k : Consts) (g p code : List UInt8) :
    (output k g p code).take (fullHeader k g p).length = fullHeader k g p := by
  simp only [output, List.append_assoc]
  exact List.take_left

theorem keepsHeader_false : KeepsHeader k fmt false := output_take_header k

/-- with formatting the header lines for `(g, p)` stand at the start of a destination produced from `(g', p')` exactly
    if the CRCs agree: nothing relates the prefix texts (cf. `fullHeader_prefix_output`) -/
theorem headerLines_prefix_fmt (hk : KeepsHeader k fmt true) :
    headerLines k g p <+: fmt (output k g' p' code') ↔ crc32 g = crc32 g' ∧ crc32 p = crc32 p' := by
  have hk' : headerLines k g' p' <+: fmt (output k g' p' code') :=
    List.prefix_iff_eq_take.mpr (hk g' p' code').symm
  rw [← crcLines_inj (k := k), ← headerLines_eq, ← headerLines_eq]
  have hl : (headerLines k g p).length = (headerLines k g' p').length := by
    rw [headerLines_eq, headerLines_eq]; exact crcLines_length ..
  constructor
  · intro h
    exact (List.prefix_of_prefix_length_le h hk' (Nat.le_of_eq hl)).eq_of_length hl
  · intro h; rw [h]; exact hk'

/-- a destination that passes the up-to-date test was produced from texts with the CRCs of the current ones -/
theorem cmpHeader_crc (hk : KeepsHeader k fmt format)
    (h : cmpHeader k format g p <+: written k fmt format g' p' code') : crc32 g = crc32 g' ∧ crc32 p = crc32 p' := by
  cases format with
  | false => exact ⟨(fullHeader_prefix_output.mp h).1, (fullHeader_prefix_output.mp h).2.1⟩
  | true => exact (headerLines_prefix_fmt hk).mp h

/-! #### One run on the states the helper produces

    Stated for states given by their three components, so that a concrete history is followed run by run with
    `runOpsF_run` and its neighbours instead of being evaluated: evaluation computes the whole header, and `str` of its
    literals, at every run.  A history of `Build.step` / `runOps` is first rewritten with `step_runOps`. -/

theorem runOnceF_fresh (hc : compile g = some code) :
    runOnceF k compile fmt format ⟨some g, none, p⟩ = (⟨some g, some (written k fmt format g p code), p⟩, .ok true) :=
  runOnceF_write rfl (not_upToDateF_of_no_dest rfl) hc

theorem runOnceF_fresh_err (hc : compile g = none) :
    runOnceF k compile fmt format ⟨some g, none, p⟩ = (⟨some g, none, p⟩, .err) :=
  runOnceF_invalid rfl (not_upToDateF_of_no_dest rfl) hc

/-- with a destination, the run is decided by the comparison: if the destination starts with what is compared, nothing
    happens … -/
theorem runOnceF_stale {d : List UInt8} (h : cmpHeader k format g p <+: d) :
    runOnceF k compile fmt format ⟨some g, some d, p⟩ = (⟨some g, some d, p⟩, .ok false) :=
  runOnceF_upToDate rfl ((upToDateF_iff_prefix rfl).mpr h)

/-- … and if it does not, the run is that on a state without destination.  For a destination the helper produced
    `fullHeader_prefix_output` and `headerLines_prefix_fmt` say what the comparison amounts to. -/
theorem runOnceF_changed {d : List UInt8} (h : ¬ cmpHeader k format g p <+: d) (hc : compile g = some code) :
    runOnceF k compile fmt format ⟨some g, some d, p⟩ = (⟨some g, some (written k fmt format g p code), p⟩, .ok true) :=
  runOnceF_write rfl (mt (upToDateF_iff_prefix rfl).mp h) hc

theorem runOnceF_changed_err {d : List UInt8} (h : ¬ cmpHeader k format g p <+: d) (hc : compile g = none) :
    runOnceF k compile fmt format ⟨some g, some d, p⟩ = (⟨some g, some d, p⟩, .err) :=
  runOnceF_invalid rfl (mt (upToDateF_iff_prefix rfl).mp h) hc

theorem runOpsF_edit {t t' d : Option (List UInt8)} {ops : List Op} :
    runOpsF k compile fmt format ⟨t', d, p⟩ (.editGrammar t :: ops) = runOpsF k compile fmt format ⟨t, d, p⟩ ops := rfl

theorem runOpsF_setPrefix {t d : Option (List UInt8)} {ops : List Op} :
    runOpsF k compile fmt format ⟨t, d, p'⟩ (.setPrefix p :: ops) = runOpsF k compile fmt format ⟨t, d, p⟩ ops := rfl

theorem runOpsF_deleteDest {t d : Option (List UInt8)} {ops : List Op} :
    runOpsF k compile fmt format ⟨t, d, p⟩ (.deleteDest :: ops) = runOpsF k compile fmt format ⟨t, none, p⟩ ops := rfl

theorem stepF_run : stepF k compile fmt format fs .run = runOnceF k compile fmt format fs := rfl

theorem runOpsF_run {fs' : FS} {o : Out} (h : runOnceF k compile fmt format fs = (fs', o)) (ops : List Op) :
    runOpsF k compile fmt format fs (.run :: ops) = runOpsF k compile fmt format fs' ops := by
  rw [runOpsF, stepF_run, h]

/-! ### C18, part 1: failure (no assumption on `fmt`: rustfmt is not even started) -/

/-- a failing run leaves the file system (in particular an existing destination) exactly as it was -/
theorem C18F_failure_preserves (h : (stepF k compile fmt format fs .run).2 = .err) :
    (stepF k compile fmt format fs .run).1 = fs := by
  simp only [stepF] at h ⊢
  rcases runOnceF_cases k compile fmt format fs with hr | ⟨_, _, _, hr⟩ | ⟨_, _, _, _, hr⟩
  · rw [hr]
  · rw [hr]
  · rw [hr] at h; cases h

theorem C18_failure_preserves (k : Consts) (compile : List UInt8 → Option (List UInt8)) (fs : FS)
    (h : (Build.step k compile fs .run).2 = .err) : (Build.step k compile fs .run).1 = fs :=
  C18F_failure_preserves (fmt := id) (format := false) h

/-- a run fails exactly when the grammar is unreadable, or it does not compile and the destination is not already
    up to date -/
theorem C18F_err_iff :
    (stepF k compile fmt format fs .run).2 = .err ↔
      (fs.grammar = none ∨ ∃ g, fs.grammar = some g ∧ compile g = none ∧ ¬ UpToDateF k format fs g) := by
  rw [stepF_run, runOnceF_eq]
  cases fs.grammar with
  | none => simp only [true_or]
  | some g =>
    simp only [← upToDateB_iff, reduceCtorEq, false_or, Option.some.injEq, exists_eq_left']
    cases upToDateB k format fs g <;> cases compile g <;> simp

theorem C18_err_iff (k : Consts) (compile : List UInt8 → Option (List UInt8)) (fs : FS) :
    (Build.step k compile fs .run).2 = .err ↔
      (fs.grammar = none ∨ ∃ g, fs.grammar = some g ∧ compile g = none ∧ ¬ UpToDate k fs g) :=
  C18F_err_iff (fmt := id) (format := false)

/-- a failing run reports `.err`, a non-failing one `.ok _`; a run never reports `.none` -/
theorem run_out_ne_none (k : Consts) (compile : List UInt8 → Option (List UInt8)) (fs : FS) :
    (Build.step k compile fs .run).2 ≠ .none := by
  simp only [Build.step]
  rcases runOnce_cases k compile fs with hr | ⟨_, _, _, hr⟩ | ⟨_, _, _, _, hr⟩ <;>
    rw [hr] <;> intro h <;> cases h

/-! ### C18, part 2: a destination just produced is left untouched -/

/-- what a successful run establishes: the destination is up to date -/
theorem runF_ok_upToDate (hk : KeepsHeader k fmt format) {fs' : FS} {w : Bool}
    (h : stepF k compile fmt format fs .run = (fs', .ok w)) :
    ∃ g, fs'.grammar = some g ∧ UpToDateF k format fs' g := by
  rw [stepF_run] at h
  rcases runOnceF_cases k compile fmt format fs with hr | ⟨g, hg, hu, hr⟩ | ⟨g, code, hg, _, hr⟩
  · rw [hr] at h; cases h
  · rw [hr] at h; cases h; exact ⟨g, hg, hu⟩
  · rw [hr] at h; cases h
    exact ⟨g, hg, _, rfl, hk g fs.pfx code⟩

/-- a second run directly after a successful run is the identity and reports "not written" – whatever rustfmt did to
    the prefix text and the code, as long as it kept the header lines -/
theorem C18F_untouched (hk : KeepsHeader k fmt format) {fs' : FS} {w : Bool}
    (h : stepF k compile fmt format fs .run = (fs', .ok w)) :
    stepF k compile fmt format fs' .run = (fs', .ok false) := by
  obtain ⟨g, hg, hu⟩ := runF_ok_upToDate hk h
  exact runOnceF_upToDate hg hu

theorem C18_untouched (k : Consts) (compile : List UInt8 → Option (List UInt8)) (fs fs' : FS) (w : Bool)
    (h : Build.step k compile fs .run = (fs', .ok w)) :
    Build.step k compile fs' .run = (fs', .ok false) :=
  C18F_untouched (fmt := id) (format := false) keepsHeader_false h

/-- a destination that already is the compilation of the current grammar with the current prefix is left untouched
    (whatever the compiler would answer now) -/
theorem C18_rewrite_only_when_needed (k : Consts) (compile : List UInt8 → Option (List UInt8)) (fs : FS)
    (g code : List UInt8) (hg : fs.grammar = some g) (hd : fs.dest = some (output k g fs.pfx code)) :
    Build.step k compile fs .run = (fs, .ok false) :=
  runOnce_upToDate hg ⟨_, hd, output_take_header k g fs.pfx code⟩

/-! ### The destinations the helper can have produced -/

/-- `d` is the compilation of some grammar text with some prefix -/
def Produced (k : Consts) (compile : List UInt8 → Option (List UInt8)) (d : List UInt8) : Prop :=
  ∃ g p code, compile g = some code ∧ d = output k g p code

/-- an existing destination was produced by the helper -/
def Inv (k : Consts) (compile : List UInt8 → Option (List UInt8)) (fs : FS) : Prop :=
  ∀ d, fs.dest = some d → Produced k compile d

theorem inv_of_no_dest (h : fs.dest = none) : Inv k compile fs := by
  intro d hd; rw [h] at hd; cases hd

/-- `d` is the compilation of a grammar text in `G` with a prefix in `P` -/
def ProducedOn (k : Consts) (compile : List UInt8 → Option (List UInt8)) (G P : List UInt8 → Prop)
    (d : List UInt8) : Prop :=
  ∃ g p code, G g ∧ P p ∧ compile g = some code ∧ d = output k g p code

/-- the current grammar text is in `G`, the current prefix in `P`, and an existing destination was produced from a
    grammar text in `G` and a prefix in `P` -/
def InvOn (k : Consts) (compile : List UInt8 → Option (List UInt8)) (G P : List UInt8 → Prop) (fs : FS) : Prop :=
  (∀ g, fs.grammar = some g → G g) ∧ P fs.pfx ∧ ∀ d, fs.dest = some d → ProducedOn k compile G P d

/-- `ProducedOn` in either mode -/
def ProducedOnF (k : Consts) (compile : List UInt8 → Option (List UInt8)) (fmt : List UInt8 → List UInt8)
    (format : Bool) (G P : List UInt8 → Prop) (d : List UInt8) : Prop :=
  ∃ g p code, G g ∧ P p ∧ compile g = some code ∧ d = written k fmt format g p code

/-- `InvOn` in either mode (`InvOnF k compile fmt false` is `InvOn k compile` by definition) -/
def InvOnF (k : Consts) (compile : List UInt8 → Option (List UInt8)) (fmt : List UInt8 → List UInt8)
    (format : Bool) (G P : List UInt8 → Prop) (fs : FS) : Prop :=
  (∀ g, fs.grammar = some g → G g) ∧ P fs.pfx ∧ ∀ d, fs.dest = some d → ProducedOnF k compile fmt format G P d

/-- the texts an operation introduces are in `G` / `P` -/
def OpOn (G P : List UInt8 → Prop) : Op → Prop
  | .editGrammar (some t) => G t
  | .setPrefix p => P p
  | _ => True

theorem opOn_true (op : Op) : OpOn (fun _ => True) (fun _ => True) op := by
  unfold OpOn; split <;> trivial

theorem invOnF_step {G P : List UInt8 → Prop} (op : Op) (hop : OpOn G P op)
    (h : InvOnF k compile fmt format G P fs) : InvOnF k compile fmt format G P (stepF k compile fmt format fs op).1 := by
  obtain ⟨hG, hP, hD⟩ := h
  cases op with
  | editGrammar t =>
    refine ⟨?_, hP, hD⟩
    intro g hg
    cases t with
    | none => cases hg
    | some t => cases hg; exact hop
  | setPrefix p => exact ⟨hG, hop, hD⟩
  | deleteDest => exact ⟨hG, hP, fun d hd => by cases hd⟩
  | run =>
    rw [stepF_run]
    rcases runOnceF_cases k compile fmt format fs with hr | ⟨_, _, _, hr⟩ | ⟨g, code, hg, hc, hr⟩ <;> rw [hr]
    · exact ⟨hG, hP, hD⟩
    · exact ⟨hG, hP, hD⟩
    · exact ⟨hG, hP, fun d hd => by cases hd; exact ⟨g, fs.pfx, code, hG g hg, hP, hc, rfl⟩⟩

theorem invOnF_runOps {G P : List UInt8 → Prop} (ops : List Op) (hops : ∀ op ∈ ops, OpOn G P op)
    (h : InvOnF k compile fmt format G P fs) :
    InvOnF k compile fmt format G P (runOpsF k compile fmt format fs ops) := by
  induction ops generalizing fs with
  | nil => exact h
  | cons op ops ih =>
    exact ih (fun o ho => hops o (List.mem_cons_of_mem _ ho)) (invOnF_step op (hops op List.mem_cons_self) h)

theorem invOn_runOps {G P : List UInt8 → Prop} (ops : List Op) (hops : ∀ op ∈ ops, OpOn G P op)
    (h : InvOn k compile G P fs) : InvOn k compile G P (runOps k compile fs ops) := by
  rw [← runOpsF_false_apply id]
  exact invOnF_runOps (format := false) ops hops h

theorem inv_of_invOn {G P : List UInt8 → Prop} {fs : FS} (h : InvOn k compile G P fs) : Inv k compile fs := by
  intro d hd
  obtain ⟨g, p, code, _, _, hc, e⟩ := h.2.2 d hd
  exact ⟨g, p, code, hc, e⟩

theorem invOn_of_inv (h : Inv k compile fs) : InvOn k compile (fun _ => True) (fun _ => True) fs := by
  refine ⟨fun _ _ => trivial, trivial, ?_⟩
  intro d hd
  obtain ⟨g, p, code, hc, e⟩ := h d hd
  exact ⟨g, p, code, trivial, trivial, hc, e⟩

theorem inv_runOps (ops : List Op) {fs : FS} (h : Inv k compile fs) : Inv k compile (runOps k compile fs ops) :=
  inv_of_invOn (invOn_runOps ops (fun op _ => opOn_true op) (invOn_of_inv h))

/-! ### C18, part 3: the history statement -/

/-- CRC-32 is injective on the texts satisfying `S` -/
def CrcInjOn (S : List UInt8 → Prop) : Prop := ∀ a, S a → ∀ b, S b → crc32 a = crc32 b → a = b

/-- `CrcInjOn` on the members of a finite list is a Bool check -/
theorem crcInjOn_of_list (L : List (List UInt8))
    (h : (L.all fun a => L.all fun b => crc32 a != crc32 b || a == b) = true) : CrcInjOn (· ∈ L) := by
  intro a ha b hb hc
  have := List.all_eq_true.mp (List.all_eq_true.mp h a ha) b hb
  simp only [Bool.or_eq_true, bne_iff_ne, ne_eq, beq_iff_eq] at this
  exact this.resolve_left (fun h1 => h1 hc)

/-- an up-to-date destination is fresh: it passed the comparison, so it was produced from texts with the CRCs of the
    current ones, and CRC-32 is injective on `G` and on `P` -/
theorem InvOnF.fresh (hk : KeepsHeader k fmt format) {G P : List UInt8 → Prop} (hcG : CrcInjOn G) (hcP : CrcInjOn P)
    (hi : InvOnF k compile fmt format G P fs) (hg : fs.grammar = some g) (hu : UpToDateF k format fs g) :
    ∃ code, compile g = some code ∧ fs.dest = some (written k fmt format g fs.pfx code) := by
  obtain ⟨iG, iP, iD⟩ := hi
  obtain ⟨d, hd, ht⟩ := hu
  obtain ⟨g', p', code', hg', hp', hc', rfl⟩ := iD d hd
  obtain ⟨eg, ep⟩ := cmpHeader_crc hk (List.prefix_iff_eq_take.mpr ht.symm)
  cases hcG g (iG g hg) g' hg' eg
  exact ⟨code', hc', by rw [hd, hcP _ iP p' hp' ep]⟩

/-- **C18 (history statement), conditional on CRC-32 not colliding on the texts involved.**
    `G` / `P` are any sets containing the grammar texts / prefixes of the initial state and of the operations of the
    history; CRC-32 must be injective on `G` and on `P` (nothing is assumed about other texts, nor about the compiler).
    After any history, if the final run succeeds, the destination is the (formatted) compilation of the grammar file as
    it is now, with the prefix as it is now: the run leaves it up to date (`runF_ok_upToDate`), and it was produced by
    the helper (`invOnF_step`). -/
theorem C18F_fresh_partial (hk : KeepsHeader k fmt format) {G P : List UInt8 → Prop}
    (hcG : CrcInjOn G) (hcP : CrcInjOn P) {fs0 fs' : FS} {ops : List Op} {w : Bool}
    (h0 : InvOnF k compile fmt format G P fs0) (hops : ∀ op ∈ ops, OpOn G P op)
    (h : stepF k compile fmt format (runOpsF k compile fmt format fs0 ops) .run = (fs', .ok w)) :
    ∃ g code, fs'.grammar = some g ∧ compile g = some code ∧
      fs'.dest = some (written k fmt format g fs'.pfx code) := by
  have hi := invOnF_step .run trivial (invOnF_runOps ops hops h0)
  rw [h] at hi
  obtain ⟨g, hg, hu⟩ := runF_ok_upToDate hk h
  obtain ⟨code, hc, hd⟩ := hi.fresh hk hcG hcP hg hu
  exact ⟨g, code, hg, hc, hd⟩

theorem C18_fresh_partial (k : Consts) (compile : List UInt8 → Option (List UInt8)) (G P : List UInt8 → Prop)
    (hcG : CrcInjOn G) (hcP : CrcInjOn P)
    (fs0 : FS) (ops : List Op) (fs' : FS) (w : Bool)
    (h0 : InvOn k compile G P fs0) (hops : ∀ op ∈ ops, OpOn G P op)
    (h : Build.step k compile (runOps k compile fs0 ops) .run = (fs', .ok w)) :
    ∃ g code, fs'.grammar = some g ∧ compile g = some code ∧ fs'.dest = some (output k g fs'.pfx code) :=
  C18F_fresh_partial (fmt := id) (format := false) keepsHeader_false hcG hcP h0 hops
    (by rw [← step_runOps]; exact h)

/-- global form: initial state satisfying `Inv`, CRC-32 assumed injective outright (NB: this hypothesis is false for
    the real CRC-32 – see `C18_crc_collision_witness`; the usable forms are `C18_fresh_partial` and
    `C18F_fresh_partial_history`) -/
theorem C18_fresh_partial_global (k : Consts) (compile : List UInt8 → Option (List UInt8))
    (hcrc : ∀ a b : List UInt8, crc32 a = crc32 b → a = b)
    (fs0 : FS) (ops : List Op) (fs' : FS) (w : Bool)
    (h0 : Inv k compile fs0)
    (h : Build.step k compile (runOps k compile fs0 ops) .run = (fs', .ok w)) :
    ∃ g code, fs'.grammar = some g ∧ compile g = some code ∧ fs'.dest = some (output k g fs'.pfx code) :=
  C18_fresh_partial k compile (fun _ => True) (fun _ => True) (fun a _ b _ => hcrc a b)
    (fun a _ b _ => hcrc a b) fs0 ops fs' w (invOn_of_inv h0) (fun op _ => opOn_true op) h

/-- the grammar texts occurring in a history: the initial one and every edit -/
def grammarTexts (fs0 : FS) (ops : List Op) : List (List UInt8) :=
  fs0.grammar.toList ++ ops.filterMap fun | .editGrammar (some t) => some t | _ => none

/-- the prefixes occurring in a history: the initial one and every change -/
def prefixTexts (fs0 : FS) (ops : List Op) : List (List UInt8) :=
  fs0.pfx :: ops.filterMap fun | .setPrefix p => some p | _ => none

/-- **Freshness over histories** (finite form): starting without destination, the hypothesis only concerns the
    (finitely many, computable) grammar texts and prefixes that occur in the history.

    Without formatting the prefix *text* is compared as well, so of two prefixes with the same CRC-32 only an
    initial-segment pair (the new prefix an initial segment of "old prefix, newline, code") goes unnoticed –
    `C18_prefix_collision_witness`; with formatting the prefix text cannot be compared (rustfmt rewrites it), so ANY two
    distinct prefixes with the same CRC-32 are indistinguishable – `C18F_prefix_collision_witness`.  `hcP` excludes
    both. -/
theorem C18F_fresh_partial_history (hk : KeepsHeader k fmt format) {fs0 fs' : FS} {ops : List Op} {w : Bool}
    (h0 : fs0.dest = none)
    (hcG : CrcInjOn (· ∈ grammarTexts fs0 ops)) (hcP : CrcInjOn (· ∈ prefixTexts fs0 ops))
    (h : stepF k compile fmt format (runOpsF k compile fmt format fs0 ops) .run = (fs', .ok w)) :
    ∃ g code, fs'.grammar = some g ∧ compile g = some code ∧
      fs'.dest = some (written k fmt format g fs'.pfx code) := by
  refine C18F_fresh_partial hk hcG hcP ⟨?_, ?_, ?_⟩ ?_ h
  · intro g hg
    simp only [grammarTexts, hg, Option.toList_some, List.mem_append, List.mem_singleton, true_or]
  · simp only [prefixTexts, List.mem_cons, true_or]
  · intro d hd; rw [h0] at hd; cases hd
  · intro op hop
    cases op with
    | editGrammar t =>
      cases t with
      | none => trivial
      | some t => exact List.mem_append_right _ (List.mem_filterMap.mpr ⟨_, hop, rfl⟩)
    | setPrefix p => exact List.mem_cons_of_mem _ (List.mem_filterMap.mpr ⟨_, hop, rfl⟩)
    | _ => trivial

/-! ### The unconditional history statement is false

    ```
    theorem C18_fresh (k compile fs0 ops fs' w) (h0 : Inv k compile fs0)
        (h : Build.step k compile (runOps k compile fs0 ops) .run = (fs', .ok w)) :
        ∃ g code, fs'.grammar = some g ∧ compile g = some code ∧ fs'.dest = some (output k g fs'.pfx code)
    ```
    is FALSE: the up-to-date shortcut of `runOnce` compares only the header (the two CRC-32 values) and the prefix
    text with the start of the destination, so a grammar edit that keeps the CRC-32 of the grammar file – or a prefix
    change to an initial segment with the same CRC-32 – is not noticed.  `C18_fresh_statement` is that statement as a
    `Prop`; the concrete history `C18_crc_collision_witness` refutes it. -/

/-- the unconditional C18 history statement (false, see `C18_crc_collision_witness`) -/
def C18_fresh_statement : Prop :=
  ∀ (k : Consts) (compile : List UInt8 → Option (List UInt8)) (fs0 : FS) (ops : List Op) (fs' : FS) (w : Bool),
    Inv k compile fs0 →
    Build.step k compile (runOps k compile fs0 ops) .run = (fs', .ok w) →
    ∃ g code, fs'.grammar = some g ∧ compile g = some code ∧ fs'.dest = some (output k g fs'.pfx code)

namespace Witness

def g1 : List UInt8 := str "@export\nA = 'x';\n# mv48hbz4\n"
def g2 : List UInt8 := str "@export\nA = 'y';\n# pxz11qsd\n"

/-- a compiler that distinguishes the two grammar texts -/
def comp (g : List UInt8) : Option (List UInt8) :=
  if g = g1 then some [1] else if g = g2 then some [2] else none

def k0 : Consts := ⟨str "0.7.0", str "2026-01-01"⟩
def fs0 : FS := ⟨none, none, []⟩

/-- edit g1, run, edit g2 (the second run is the final operation of the statement) -/
def ops : List Op := [.editGrammar (some g1), .run, .editGrammar (some g2)]

/-- the state after the second run: grammar `g2`, destination compiled from `g1` -/
def fsEnd : FS := ⟨some g2, some (output k0 g1 [] [1]), []⟩

theorem g1_ne_g2 : g1 ≠ g2 := by simp only [g1, g2, str_eq]; decide +kernel

theorem crc_g1 : hex8 (crc32 g1) = str "fd872ce9" := by simp only [g1, str_eq]; decide +kernel
theorem crc_g2 : hex8 (crc32 g2) = str "fd872ce9" := by simp only [g2, str_eq]; decide +kernel
theorem crc_collision : crc32 g1 = crc32 g2 := hex8_inj (crc_g1.trans crc_g2.symm)

theorem comp_g1 : comp g1 = some [1] := if_pos rfl
theorem comp_g2 : comp g2 = some [2] := (if_neg g1_ne_g2.symm).trans (if_pos rfl)

theorem run_g1 :
    runOnceF k0 comp id false ⟨some g1, none, []⟩ = (⟨some g1, some (output k0 g1 [] [1]), []⟩, .ok true) :=
  runOnceF_fresh comp_g1

theorem first_run : Build.step k0 comp (runOps k0 comp fs0 [.editGrammar (some g1)]) .run =
    (⟨some g1, some (output k0 g1 [] [1]), []⟩, .ok true) := by
  rw [step_runOps id, fs0, runOpsF_edit, runOpsF, stepF_run, run_g1]

/-- the second run finds the CRC-32 of `g2` in the header written for `g1` -/
theorem second_run : Build.step k0 comp (runOps k0 comp fs0 ops) .run = (fsEnd, .ok false) := by
  rw [step_runOps id, ops, fs0, runOpsF_edit, runOpsF_run run_g1, runOpsF_edit, runOpsF,
    stepF_run]
  exact runOnceF_stale (fullHeader_prefix_output.mpr ⟨crc_collision.symm, rfl, List.nil_prefix⟩)

end Witness

open Witness in
/-- Two grammar texts with the same CRC-32 (`fd872ce9`) and a compiler mapping them to different codes: after
    "edit g1, run, edit g2, run" the second run succeeds (reporting "not written") although the destination is the
    compilation of `g1`, not of the current grammar `g2`. -/
theorem C18_crc_collision_witness :
    g1 ≠ g2 ∧ crc32 g1 = crc32 g2 ∧ comp g1 = some [1] ∧ comp g2 = some [2] ∧
    Inv k0 comp fs0 ∧
    Build.step k0 comp (runOps k0 comp fs0 ops) .run = (fsEnd, .ok false) ∧
    fsEnd.grammar = some g2 ∧ fsEnd.dest = some (output k0 g1 fsEnd.pfx [1]) ∧
    ¬ ∃ g code, fsEnd.grammar = some g ∧ comp g = some code ∧ fsEnd.dest = some (output k0 g fsEnd.pfx code) := by
  refine ⟨g1_ne_g2, crc_collision, comp_g1, comp_g2, inv_of_no_dest rfl, second_run, rfl, rfl, ?_⟩
  rintro ⟨g, code, hg, hc, hd⟩
  cases hg
  rw [comp_g2] at hc
  cases hc
  have h := (output_inj.mp (Option.some.inj hd)).2.2
  cases List.append_cancel_left (List.append_cancel_left h)

/-! #### The hypothesis on prefixes is needed as well

    The prefix `"use a;\n"` is an initial segment of `"use a;\n// kpe7aavz\n"` and has the same CRC-32 (`ca18afaf`):
    shrinking the prefix from the long to the short one is not noticed. -/

namespace Witness

def p1 : List UInt8 := str "use a;\n// kpe7aavz\n"
def p2 : List UInt8 := str "use a;\n"
def gP : List UInt8 := str "@export\nA = 'x';\n"
def compP (_ : List UInt8) : Option (List UInt8) := some [99]
theorem compP_eq (g : List UInt8) : compP g = some [99] := rfl
def opsP : List Op := [.editGrammar (some gP), .setPrefix p1, .run, .setPrefix p2]
def fsEndP : FS := ⟨some gP, some (output k0 gP p1 [99]), p2⟩

theorem crc_p : crc32 p1 = crc32 p2 := by simp only [p1, p2, str_eq]; decide +kernel
theorem p2_prefix_p1 : p2 <+: p1 := by simp only [p1, p2, str_eq]; decide +kernel

theorem second_runP : Build.step k0 compP (runOps k0 compP fs0 opsP) .run = (fsEndP, .ok false) := by
  rw [step_runOps id, opsP, fs0, runOpsF_edit, runOpsF_setPrefix,
    runOpsF_run (runOnceF_fresh (compP_eq _)), runOpsF_setPrefix, runOpsF, stepF_run]
  exact runOnceF_stale (fullHeader_prefix_output.mpr ⟨rfl, crc_p.symm, p2_prefix_p1.trans (List.prefix_append _ _)⟩)

end Witness

open Witness in
/-- the same defect through the prefix: a single grammar text, a constant compiler, two prefixes with the same CRC-32
    of which the second is an initial segment of the first -/
theorem C18_prefix_collision_witness :
    p1 ≠ p2 ∧ crc32 p1 = crc32 p2 ∧ Inv k0 compP fs0 ∧
    Build.step k0 compP (runOps k0 compP fs0 opsP) .run = (fsEndP, .ok false) ∧
    ¬ ∃ g code, fsEndP.grammar = some g ∧ compP g = some code ∧ fsEndP.dest = some (output k0 g fsEndP.pfx code) := by
  have hne : p1 ≠ p2 := by simp only [p1, p2, str_eq]; decide +kernel
  refine ⟨hne, crc_p, inv_of_no_dest rfl, second_runP, ?_⟩
  rintro ⟨g, code, hg, hc, hd⟩
  cases hg
  cases hc
  exact hne (List.append_cancel_right (output_inj.mp (Option.some.inj hd)).2.2)

/-! ### Concrete instances -/

section Examples
open Witness

/-- the hypotheses of `C18F_fresh_partial_history` are satisfiable: a history with two grammar texts and two prefixes
    whose CRC-32 values are pairwise different -/
def exOps : List Op :=
  [.editGrammar (some (str "A = 'x';")), .setPrefix (str "use a;\nuse b;"), .run,
   .editGrammar (some (str "A = 'y';")), .setPrefix (str "use a;"), .deleteDest]

example : CrcInjOn (· ∈ grammarTexts fs0 exOps) := crcInjOn_of_list _ (by decide +kernel)

example : CrcInjOn (· ∈ prefixTexts fs0 exOps) := crcInjOn_of_list _ (by decide +kernel)

example : Build.step k0 compP (runOps k0 compP fs0 exOps) .run =
    (⟨some (str "A = 'y';"), some (output k0 (str "A = 'y';") (str "use a;") [99]), str "use a;"⟩, .ok true) := by
  rw [step_runOps id, exOps, fs0, runOpsF_edit, runOpsF_setPrefix,
    runOpsF_run (runOnceF_fresh (compP_eq _)), runOpsF_edit, runOpsF_setPrefix, runOpsF_deleteDest, runOpsF, stepF_run]
  exact runOnceF_fresh (compP_eq _)

theorem crc_shrink : crc32 (str "use a;") ≠ crc32 (str "use a;\nuse b;") := by simp only [str_eq]; decide +kernel

theorem shrink_eq (ops : List Op) :
    runOpsF k0 compP id false ⟨some (str "A = 'x';"), none, str "use a;\nuse b;"⟩
        (.run :: .setPrefix (str "use a;") :: ops) =
      runOpsF k0 compP id false
        ⟨some (str "A = 'x';"), some (output k0 (str "A = 'x';") (str "use a;\nuse b;") [99]), str "use a;"⟩ ops := by
  rw [runOpsF_run (runOnceF_fresh (compP_eq _)), runOpsF_setPrefix]

/-- prefix shrink (fix F6 puts the CRC of the prefix into the header): run with prefix
    "use a;\nuse b;", change the prefix to "use a;", run again ⇒ the destination is rewritten and carries the new
    prefix -/
example :
    Build.step k0 compP
      (runOps k0 compP ⟨some (str "A = 'x';"), none, str "use a;\nuse b;"⟩ [.run, .setPrefix (str "use a;")]) .run =
    (⟨some (str "A = 'x';"), some (output k0 (str "A = 'x';") (str "use a;") [99]), str "use a;"⟩, .ok true) := by
  rw [step_runOps id, shrink_eq, runOpsF, stepF_run]
  exact runOnceF_changed (mt fullHeader_prefix_output.mp fun h => crc_shrink h.2.1) (compP_eq _)

/-- … and a third run leaves it alone -/
example :
    Build.step k0 compP
      (runOps k0 compP ⟨some (str "A = 'x';"), none, str "use a;\nuse b;"⟩ [.run, .setPrefix (str "use a;"), .run])
      .run =
    (⟨some (str "A = 'x';"), some (output k0 (str "A = 'x';") (str "use a;") [99]), str "use a;"⟩, .ok false) := by
  rw [step_runOps id, shrink_eq, runOpsF_run (runOnceF_changed (format := false)
      (mt fullHeader_prefix_output.mp fun h => crc_shrink h.2.1) (compP_eq _)), runOpsF, stepF_run]
  exact runOnceF_stale (fullHeader_prefix_output.mpr ⟨rfl, rfl, List.prefix_append _ _⟩)

/-- a failing run (grammar made invalid) keeps the old destination -/
example :
    Build.step k0 comp (runOps k0 comp fs0 [.editGrammar (some g1), .run, .editGrammar (some [0])]) .run =
    (⟨some [0], some (output k0 g1 [] [1]), []⟩, .err) := by
  have hc : comp [0] = none := by simp only [comp, g1, g2, str_eq]; decide +kernel
  have hne : crc32 [0] ≠ crc32 g1 := by simp only [g1, str_eq]; decide +kernel
  rw [step_runOps id, fs0, runOpsF_edit, runOpsF_run run_g1, runOpsF_edit, runOpsF, stepF_run]
  exact runOnceF_changed_err (mt fullHeader_prefix_output.mp fun h => hne h.1) hc

/-- deleting the destination forces a rewrite even with colliding grammar texts -/
example :
    Build.step k0 comp (runOps k0 comp fs0 [.editGrammar (some g1), .run, .editGrammar (some g2), .deleteDest]) .run =
    (⟨some g2, some (output k0 g2 [] [2]), []⟩, .ok true) := by
  rw [step_runOps id, fs0, runOpsF_edit, runOpsF_run run_g1, runOpsF_edit, runOpsF_deleteDest,
    runOpsF, stepF_run]
  exact runOnceF_fresh comp_g2

end Examples

end Peg
