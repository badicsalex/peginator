import PegVerif.Eval
import PegVerif.Proofs.Trace
import PegVerif.Proofs.Refine
/-
  What the packrat proofs (Packrat.lean, PackratLR.lean, PackratLRPure.lean) share: counting `bodyEval`
  events, re-entry as a predicate on the log, the state invariant `P (off + remaining length)`, `Run`,
  the key grid of the bound, the re-entry scanner, quiet events.
-/
namespace Peg

/-! ### counting ghost events -/

/-- `e` is the ghost event "the body of the memoized rule `k.1` starts evaluating at offset `k.2`" -/
def isBodyEval (k : String × Nat) : Ev → Bool
  | .bodyEval n o => n == k.1 && o == k.2
  | _ => false

/-- number of body evaluations of the key `k` recorded in `l` -/
def evals (l : List Ev) (k : String × Nat) : Nat := (l.filter (isBodyEval k)).length

theorem evals_append (a b : List Ev) (k) : evals (a ++ b) k = evals a k + evals b k := by
  simp [evals, List.filter_append]

theorem isBodyEval_eq {k : String × Nat} {e : Ev} (h : isBodyEval k e = true) : e = .bodyEval k.1 k.2 := by
  cases e <;> simp [isBodyEval] at h
  obtain ⟨h1, h2⟩ := h
  subst h1; subst h2; rfl

theorem isBodyEval_self (k : String × Nat) : isBodyEval k (.bodyEval k.1 k.2) = true := by
  simp [isBodyEval]

theorem isBodyEval_iff {k : String × Nat} {n o} : isBodyEval k (.bodyEval n o) = true ↔ (n, o) = k := by
  obtain ⟨a, b⟩ := k
  simp [isBodyEval]

theorem mem_of_evals_pos {l : List Ev} {k} (h : 0 < evals l k) : Ev.bodyEval k.1 k.2 ∈ l := by
  unfold evals at h
  obtain ⟨e, he⟩ := List.exists_mem_of_length_pos h
  rw [List.mem_filter] at he
  rw [← isBodyEval_eq he.2]; exact he.1

theorem evals_singleton_self (k : String × Nat) : evals [.bodyEval k.1 k.2] k = 1 := by
  simp [evals, isBodyEval_self]

theorem evals_singleton_ne {k k' : String × Nat} (h : k ≠ k') : evals [.bodyEval k.1 k.2] k' = 0 := by
  have : isBodyEval k' (.bodyEval k.1 k.2) = false := by
    cases hb : isBodyEval k' (.bodyEval k.1 k.2) with
    | false => rfl
    | true => exact absurd (isBodyEval_iff.1 hb) h
  simp [evals, this]

/-- an event that is not a `bodyEval` -/
def Neutral (e : Ev) : Prop := ∀ k, isBodyEval k e = false

theorem evals_singleton_neutral {e : Ev} (he : Neutral e) (k) : evals [e] k = 0 := by
  simp [evals, he k]

/-! ### re-entry, as a predicate on the log

`bodyEval k` is emitted right after the `traceStart` of the rule invocation; relative to that
bracket the depth is `1` and the invocation has returned as soon as the depth reaches `0`. -/

/-- (chronological list) two `bodyEval k` events such that in between the rule invocation that
    emitted the first one has not returned -/
def Reentry (c : List Ev) (k : String × Nat) : Prop :=
  ∃ pre mid post, c = pre ++ (Ev.bodyEval k.1 k.2 :: mid) ++ (Ev.bodyEval k.1 k.2 :: post) ∧
    ∀ p, p <+: mid → depthAfter p 1 ≠ some 0

/-- (newest-first list, as in `Global.log`) no key is re-entered while its body is being evaluated -/
def NoRe (l : List Ev) : Prop := ∀ k, ¬ Reentry l.reverse k

theorem Reentry.append_left {c : List Ev} {k} (x : List Ev) (h : Reentry c k) : Reentry (x ++ c) k := by
  obtain ⟨pre, mid, post, rfl, hm⟩ := h
  exact ⟨x ++ pre, mid, post, by simp [List.append_assoc], hm⟩

theorem Reentry.append_right {c : List Ev} {k} (y : List Ev) (h : Reentry c k) : Reentry (c ++ y) k := by
  obtain ⟨pre, mid, post, rfl, hm⟩ := h
  exact ⟨pre, mid, post ++ y, by simp [List.append_assoc], hm⟩

/-- the re-entry of a key inside its own body evaluation -/
theorem reentry_of_nested {b : Bool} {l1 : List Ev} {k : String × Nat} (ht : Tr b l1) (h : 0 < evals l1 k) :
    Reentry (l1 ++ [Ev.bodyEval k.1 k.2]).reverse k := by
  have hm : Ev.bodyEval k.1 k.2 ∈ l1.reverse := List.mem_reverse.2 (mem_of_evals_pos h)
  obtain ⟨mid, post, he⟩ := List.append_of_mem hm
  refine ⟨[], mid, post, by simp [he], fun p hp => ?_⟩
  have hp' : p <+: l1.reverse := by
    rw [he]; exact hp.trans (List.prefix_append _ _)
  obtain ⟨d', hd, hle⟩ := ht.noUnderflow p hp' 1
  rw [hd]
  intro hc
  cases hc
  omega

/-! ### the state invariant: `P (off + remaining length)` -/

/-- `off + remaining length`: constant along `advance` -/
def St.tot (s : St) : Nat := s.off + s.rest.length

@[simp] theorem tot_recordError (s : St) (e : PErr) : (s.recordError e).tot = s.tot := by
  simp [St.tot]

theorem tot_advanceSafe {α} {s s' : St} {n : Nat} {v v' : α} (h : s.advanceSafe n v = .ok v' s') :
    s'.tot = s.tot := by
  obtain ⟨-, hn, rfl⟩ := advanceSafe_ok_inv h
  simp only [St.tot, List.length_drop]
  omega

/-- the builtin matchers step over bytes of the remaining input -/
theorem IsMatcher.tot_ok {α} {m : St → Res α} (hm : IsMatcher m) {s v s'} (h : m s = .ok v s') :
    s'.tot = s.tot := by
  obtain ⟨n, hn, rfl⟩ := hm.ok_inv h
  simp only [St.tot, List.length_drop]; omega

section
variable (P : Nat → Prop)

/-- an `ok` result carries a state satisfying the invariant -/
def ResB {α} (r : Res α) : Prop := ∀ v s', r = .ok v s' → P s'.tot

/-- every cached `ok` entry carries a state satisfying the invariant -/
def CacheB (g : Global) : Prop := ∀ k v s', g.lookup k = some (.ok v s') → P s'.tot

variable {P}

theorem ResB.ok {α} {v : α} {s : St} (h : P s.tot) : ResB P (.ok v s) := by
  intro v' s' he; cases he; exact h

theorem ResB.of_ok {α} {v : α} {s : St} (h : ResB P (.ok v s)) : P s.tot := h v s rfl

theorem ResB.err {α} (e : PErr) : ResB P (.err e : Res α) := by
  intro v' s' he; cases he

theorem ResB.panic {α} (m : String) : ResB P (.panic m : Res α) := by
  intro v' s' he; cases he

theorem ResB.of_tot {α} {r : Res α} {s : St} (hs : P s.tot) (h : ∀ v s', r = .ok v s' → s'.tot = s.tot) :
    ResB P r := by
  intro v s' he
  rw [h v s' he]; exact hs

theorem IsMatcher.resB {α} {m : St → Res α} (hm : IsMatcher m) {s : St} (hs : P s.tot) : ResB P (m s) :=
  .of_tot hs fun _ _ => hm.tot_ok

theorem cacheB_iff {g : Global} : CacheB P g ↔ Cached (fun _ r => ResB P r) g := Cached.ok_iff _

theorem cacheB_insert {g : Global} {k : String × Nat} {r : Res Val} (hc : CacheB P g) (hr : ResB P r) :
    CacheB P (g.insert k r) :=
  cacheB_iff.2 ((cacheB_iff.1 hc).insert hr)

end

/-- the trivial state invariant -/
abbrev PT : Nat → Prop := fun _ => True

theorem cacheB_true (g : Global) : CacheB (fun _ => True) g := fun _ _ _ _ => trivial

section
variable {env : Env}

/-- an arbitrary evaluation of the model (an expression or a rule call, at any fuel) from the global
    state `g` to `g'`; the flag says whether the result is a panic -/
inductive Run (env : Env) : Global → Bool → Global → Prop
  | expr {n : Nat} {ctx : Ctx} {e : Expr} {s : St} {g g' : Global} {r : Res Parsed} :
      (eval env n).expr ctx e s g = some (r, g') → Run env g r.isPanic g'
  | rule {n : Nat} {name : String} {s : St} {g g' : Global} {r : Res Val} :
      (eval env n).rule name s g = some (r, g') → Run env g r.isPanic g'

/-- a parse starts from the empty log: all of its log is new -/
theorem parse_log {g' : Global} {u : Nat} : g'.log = g'.log ++ (Global.init u).log :=
  (List.append_nil _).symm

/-- keys of the `bodyEval` events of a log -/
def bodyKeys (l : List Ev) : List (String × Nat) :=
  l.filterMap fun e => match e with | .bodyEval n o => some (n, o) | _ => none

theorem evals_cons (e : Ev) (l : List Ev) (k : String × Nat) :
    evals (e :: l) k = (if isBodyEval k e = true then 1 else 0) + evals l k := by
  have := evals_append [e] l k
  simp only [List.singleton_append] at this
  rw [this]; congr 1
  by_cases h : isBodyEval k e = true <;> simp [evals, h]

theorem evals_eq_count (l : List Ev) (k : String × Nat) : evals l k = (bodyKeys l).count k := by
  induction l with
  | nil => rfl
  | cons e l ih =>
    rw [evals_cons, ih]
    cases e
    case bodyEval n o =>
      have hb : bodyKeys (.bodyEval n o :: l) = (n, o) :: bodyKeys l := by simp [bodyKeys]
      rw [hb, List.count_cons]
      by_cases hk : (n, o) = k
      · have h1 : isBodyEval k (.bodyEval n o) = true := isBodyEval_iff.2 hk
        simp [h1, hk]; omega
      · have h1 : ¬ isBodyEval k (.bodyEval n o) = true := fun h => hk (isBodyEval_iff.1 h)
        simp [h1, hk]
    all_goals simp [isBodyEval, bodyKeys]

theorem mem_bodyKeys {l : List Ev} {n o} : (n, o) ∈ bodyKeys l ↔ Ev.bodyEval n o ∈ l := by
  simp only [bodyKeys, List.mem_filterMap]
  constructor
  · rintro ⟨e, he, h⟩
    cases e <;> simp at h
    obtain ⟨rfl, rfl⟩ := h; exact he
  · intro h; exact ⟨_, h, rfl⟩

/-- names of the memoized normal rules -/
def memoNames (g : Grammar) : List String :=
  g.rules.filterMap fun e => match e with
    | .rule r => if r.flags.memoize then some r.name else none
    | _ => none

theorem memoNames_length_le (g : Grammar) : (memoNames g).length ≤ g.rules.length :=
  List.length_filterMap_le _ _

def keyGrid (names : List String) (len : Nat) : List (String × Nat) :=
  names.flatMap fun n => (List.range (len + 1)).map fun o => (n, o)

theorem keyGrid_length (names : List String) (len : Nat) :
    (keyGrid names len).length = names.length * (len + 1) := by
  induction names with
  | nil => simp [keyGrid]
  | cons a as ih =>
    simp only [keyGrid, List.flatMap_cons, List.length_append, List.length_map, List.length_range,
      List.length_cons] at ih ⊢
    rw [ih, Nat.add_mul]; omega

theorem mem_keyGrid {names : List String} {len : Nat} {n o} (hn : n ∈ names) (ho : o ≤ len) :
    (n, o) ∈ keyGrid names len := by
  simp only [keyGrid, List.mem_flatMap, List.mem_map, List.mem_range]
  exact ⟨n, hn, o, by omega, rfl⟩

end

/-! ### deciding `NoRe`: the scanner -/

/-- scan the events after a `bodyEval k` (relative depth `d ≥ 1`): `false` as soon as another
    `bodyEval k` is seen before the bracket closes -/
def scanRe (k : String × Nat) : List Ev → Nat → Bool
  | [], _ => true
  | e :: es, d =>
    if isBodyEval k e then false
    else if isStart e then scanRe k es (d + 1)
    else if isResult e then (if d ≤ 1 then true else scanRe k es (d - 1))
    else scanRe k es d

/-- (chronological list) no re-entry -/
def noReB : List Ev → Bool
  | [] => true
  | e :: es => (match e with | .bodyEval n o => scanRe (n, o) es 1 | _ => true) && noReB es

theorem scanRe_false (k : String × Nat) (post : List Ev) :
    ∀ (mid : List Ev) (d : Nat), 1 ≤ d → (∀ p, p <+: mid → depthAfter p d ≠ some 0) →
      scanRe k (mid ++ Ev.bodyEval k.1 k.2 :: post) d = false := by
  intro mid
  induction mid with
  | nil => intro d _ _; simp [scanRe, isBodyEval_self]
  | cons e es ih =>
    intro d hd h
    simp only [List.cons_append, scanRe]
    split
    · rfl
    · split
      · rename_i hs
        refine ih (d + 1) (by omega) (fun p hp => ?_)
        have := h (e :: p) (List.cons_prefix_cons.2 ⟨rfl, hp⟩)
        simpa [depthAfter, hs] using this
      · rename_i hs
        split
        · rename_i hr
          have hd0 : d ≠ 0 := by omega
          split
          · exfalso
            have hd1 : d = 1 := by omega
            subst hd1
            have := h [e] (List.cons_prefix_cons.2 ⟨rfl, List.nil_prefix⟩)
            simp [depthAfter, hs, hr] at this
          · refine ih (d - 1) (by omega) (fun p hp => ?_)
            have := h (e :: p) (List.cons_prefix_cons.2 ⟨rfl, hp⟩)
            simpa [depthAfter, hs, hr, hd0] using this
        · rename_i hr
          refine ih d hd (fun p hp => ?_)
          have := h (e :: p) (List.cons_prefix_cons.2 ⟨rfl, hp⟩)
          simpa [depthAfter, hs, hr] using this

/-! ### events that no counting argument sees -/

/-- events that are neither `bodyEval` nor `traceStart` -/
def Quiet (l : List Ev) : Prop := ∀ e, e ∈ l → Neutral e ∧ ∀ n o, e ≠ Ev.traceStart n o

theorem evals_quiet {l : List Ev} (h : Quiet l) (k : String × Nat) : evals l k = 0 := by
  unfold evals
  rw [List.length_eq_zero_iff, List.filter_eq_nil_iff]
  intro e he
  rw [(h e he).1 k]; exact fun h => by cases h

theorem Quiet.nil : Quiet [] := fun _ h => by cases h

theorem Quiet.single {e : Ev} (h1 : Neutral e) (h2 : ∀ n o, e ≠ Ev.traceStart n o) : Quiet [e] := by
  intro e' he
  simp only [List.mem_singleton] at he
  subst he; exact ⟨h1, h2⟩

theorem Quiet.append {a b : List Ev} (ha : Quiet a) (hb : Quiet b) : Quiet (a ++ b) := by
  intro e he
  rcases List.mem_append.1 he with h | h
  · exact ha e h
  · exact hb e h

theorem Quiet.no_body {l : List Ev} (h : Quiet l) {n o} : Ev.bodyEval n o ∉ l := by
  intro hm
  have := (h _ hm).1 (n, o)
  simp [isBodyEval] at this

theorem Quiet.no_start {l : List Ev} (h : Quiet l) {n o} : Ev.traceStart n o ∉ l :=
  fun hm => (h _ hm).2 n o rfl

section
open Spec
variable {env : Env}

theorem ne_none_of_eq_some {α} {x : Option α} {y : α} (h : x = some y) : x ≠ none := by
  rw [h]; exact fun h => by cases h

theorem runChecks_quiet : ∀ fs v s g r g', runChecks env fs v s g = some (r, g') →
    ∃ l, g'.log = l ++ g.log ∧ Quiet l := by
  intro fs
  induction fs with
  | nil =>
    intro v s g r g' h
    simp only [runChecks, Option.some.injEq, Prod.mk.injEq] at h
    obtain ⟨_, rfl⟩ := h
    exact ⟨[], rfl, Quiet.nil⟩
  | cons f fs ih =>
    intro v s g r g' h
    simp only [runChecks] at h
    split at h
    · simp only [Option.some.injEq, Prod.mk.injEq] at h
      obtain ⟨_, rfl⟩ := h
      exact ⟨[_], rfl, Quiet.single (fun _ => rfl) fun _ _ h => by cases h⟩
    · obtain ⟨l, hl, hq⟩ := ih _ _ _ _ _ h
      exact ⟨l ++ [Ev.checkCall ("::".intercalate f) v.render g.uctx], by rw [hl]; simp [Global.emit],
        hq.append (Quiet.single (fun _ => rfl) fun _ _ h => by cases h)⟩

theorem exists_least {p : Nat → Prop} (h : ∃ n, p n) : ∃ n, p n ∧ ∀ m, m < n → ¬ p m := by
  obtain ⟨n, hn⟩ := h
  induction n using Nat.strongRecOn with
  | _ n ih =>
    by_cases hex : ∃ m, m < n ∧ p m
    · obtain ⟨m, hm, hpm⟩ := hex; exact ih m hm hpm
    · exact ⟨n, hn, fun m hm hp => hex ⟨m, hm, hp⟩⟩

theorem charChecks_quiet (name : String) :
    ∀ fs c s (g : Global) o g', charChecks env name fs c s g = (o, g') →
      ∃ l, g'.log = l ++ g.log ∧ Quiet l := by
  intro fs c s g o g' h
  obtain ⟨l, hl, he⟩ := charChecks_eq env name fs c
  rw [he] at h
  cases h
  refine ⟨l, rfl, fun e hm => ?_⟩
  obtain ⟨f, rfl⟩ := hl e hm
  exact ⟨fun _ => rfl, fun _ _ h => by cases h⟩

end

end Peg
