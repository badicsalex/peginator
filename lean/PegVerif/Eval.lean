import PegVerif.Syntax
import PegVerif.Runtime
import PegVerif.Fields
import PegVerif.Value
import PegVerif.Literal
/-
  `Peg.eval`: the model of a *generated parser*.  It follows the code templates of codegen/src
  construct by construct (field plumbing, whitespace call sites, error bookkeeping, rule wrappers
  for @string / override / struct rules, @check, @char, @extern, tracer callbacks, @memoize,
  @leftrec), not the PEG textbook.

  Style: open recursion + fuel.  `step rec n` is non-recursive in the evaluator; list/loop helpers
  are structurally recursive; `eval 0 = ⊥`, `eval (n+1) = step (eval n) n`.
  `none` always and only means "out of fuel"; a Rust panic is `Res.panic`.

  The memoized / left-recursive wrapper models the code *after* the fix F1 (the rule body is
  evaluated in its own closure, so its early exits cannot skip the cache insert).
-/
namespace Peg

/-- `CodegenSettings` (the parts that influence behaviour) -/
structure Settings where
  skipWhitespace : Bool := true
  hasUserContext : Bool := false
  derives : List String := ["Debug", "Clone"]
deriving Repr, Inhabited

/-- user functions.  Keyed by the `::`-joined path written in the grammar.  The user context is
    modelled as a `Nat` threaded through every call (`&mut T`). -/
structure Hooks where
  extern : String → List UInt8 → Nat → Except String (Val × Nat) × Nat
  check : String → Val → Nat → Bool × Nat
  charCheck : String → Char → Bool

instance : Inhabited Hooks :=
  ⟨{ extern := fun _ _ u => (.error "no such extern", u), check := fun _ _ u => (true, u),
     charCheck := fun _ _ => true }⟩

/-- ghost events: tracer callbacks and user-function invocations, newest first -/
inductive Ev where
  | traceStart (rule : String) (off : Nat)
  | traceOk (off : Nat)
  | traceErr (spec : Spec)
  | info (msg : String)
  | externCall (fn : String) (off : Nat) (uctx : Nat)
  | checkCall (fn : String) (arg : String) (uctx : Nat)
  | charCheckCall (fn : String) (c : Char)
  | bodyEval (rule : String) (off : Nat)      -- ghost: a memoized / leftrec body evaluation starts
deriving Repr, Inhabited

/-- `ParseGlobal`: cache (`ParseCache`, one map per rule, keyed by offset), tracer (as a log),
    user context -/
structure Global where
  cache : List ((String × Nat) × Res Val)
  log : List Ev
  uctx : Nat
deriving Inhabited

def Global.init (uctx : Nat) : Global := { cache := [], log := [], uctx := uctx }

def Global.emit (g : Global) (e : Ev) : Global := { g with log := e :: g.log }

def Global.lookup (g : Global) (k : String × Nat) : Option (Res Val) :=
  (g.cache.find? (fun kv => kv.1 == k)).map (·.2)

def Global.insert (g : Global) (k : String × Nat) (v : Res Val) : Global :=
  { g with cache := (k, v) :: g.cache }

/-- the result of one construct: values of the (filtered) rule fields it contains -/
abbrev Parsed := List (String × Val)

def Parsed.get (p : Parsed) (n : String) : Option Val := (p.find? (·.1 == n)).map (·.2)

def Parsed.set (p : Parsed) (n : String) (v : Val) : Parsed :=
  if p.any (·.1 == n) then p.map fun kv => if kv.1 == n then (n, v) else kv else p ++ [(n, v)]

/-- per-rule generation context: the settings after `@no_skip_ws`, and the rule-level fields -/
structure Ctx where
  skipWs : Bool
  ruleFields : List FieldDesc
deriving Repr, Inhabited

/-- static environment of a parse -/
structure Env where
  g : Grammar
  settings : Settings
  hooks : Hooks
  /-- fuel for `getFields` (any bound on AST depth + include chain length) -/
  nf : Nat

abbrev Out (α : Type) := Option (Res α × Global)

structure Rec where
  expr : Ctx → Expr → St → Global → Out Parsed
  rule : String → St → Global → Out Val

/-- sequencing on success; errors, panics and fuel exhaustion propagate -/
@[inline] def bindR {α β} (x : Out α) (k : α → St → Global → Out β) : Out β :=
  match x with
  | none => none
  | some (.ok v s, g) => k v s g
  | some (.err e, g) => some (.err e, g)
  | some (.panic m, g) => some (.panic m, g)

def pureR {α} (r : Res α) (g : Global) : Out α := some (r, g)

/-- names of the fields of a sub-expression (`[]` when `get_fields` fails: such grammars are
    rejected by `Compile.errors`) -/
def ownFields (env : Env) (e : Expr) : List FieldDesc :=
  match getFields env.g env.nf e with
  | .ok fs => fs
  | _ => []

/-- `generate_skip_ws`: `parse_Whitespace(state, global).and_then(|ParseOk{state, ..}| …)` -/
def withSkipWs {α} (rec : Rec) (ctx : Ctx) (s : St) (g : Global)
    (k : St → Global → Out α) : Out α :=
  if ctx.skipWs then bindR (rec.rule "Whitespace" s g) (fun _ s' g' => k s' g') else k s g

/-! ### field plumbing (sequence.rs, choice.rs, optional.rs, closure.rs, field.rs) -/

/-- `Choice::generate_default_field` / `Default::default()` of a declared field type -/
def defaultField (f : FieldDesc) : Except String Val :=
  match f.arity with
  | .one => .error "Outer field cannot be One if inner does not exist"
  | .optional => .ok .none
  | .multiple => .ok (.list [])

def defaults : List FieldDesc → Except String Parsed
  | [] => .ok []
  | f :: fs => match defaultField f, defaults fs with
    | .ok v, .ok p => .ok ((f.name, v) :: p)
    | .error m, _ => .error m
    | _, .error m => .error m

/-- `field.rs: generate_postprocess_calls`: box, enum-wrap, then `Some` / `vec![…]` according to
    the rule-level descriptor -/
def postprocessField (ruleFields : List FieldDesc) (name typ : String) (v : Val) : Except String Val :=
  match findField ruleFields name with
  | none => .error "Field not found in rule_fields"
  | some f =>
    match f.types.find? (·.1 == typ) with
    | none => .error "Field type not found in field"
    | some (_, boxed) =>
      let v := if boxed then Val.boxed v else v
      let v := if f.types.length > 1 then Val.variant typ v else v
      .ok (match f.arity with
        | .one => v
        | .optional => .some v
        | .multiple => .list [v])

/-- `Vec::extend` -/
def extendVal : Val → Val → Except String Val
  | .list a, .list b => .ok (.list (a ++ b))
  | _, _ => .error "extend on a non-Vec"

/-- one part of `Sequence::generate_parse_function`: bind on first sight, `extend` afterwards -/
def mergePart : List FieldDesc → List String → Parsed → Parsed → Except String (List String × Parsed)
  | [], seen, env, _ => .ok (seen, env)
  | f :: fs, seen, env, r =>
    match r.get f.name with
    | none => .error "sequence part result lacks a field"
    | some v =>
      if !seen.contains f.name then
        mergePart fs (f.name :: seen) (env.set f.name v) r
      else if f.arity != .multiple then
        .error "assertion failed: field.arity == Arity::Multiple"
      else match env.get f.name with
        | none => .error "extend of an unbound field"
        | some old => match extendVal old v with
          | .error m => .error m
          | .ok nv => mergePart fs seen (env.set f.name nv) r

/-- the final `Parsed { … }` of a construct: its filtered rule fields, in rule-field order -/
def project : List FieldDesc → Parsed → Except String Parsed
  | [], _ => .ok []
  | f :: fs, env =>
    match env.get f.name, project fs env with
    | some v, .ok p => .ok ((f.name, v) :: p)
    | none, _ => .error "unbound field in result"
    | _, .error m => .error m

/-- `Choice::generate_result_converter` -/
def convertArm (fields : List FieldDesc) (inner : List FieldDesc) (r : Parsed) : Except String Parsed :=
  match fields with
  | [] => .ok []
  | [f] =>
    if inner.isEmpty then (match defaultField f with | .ok v => .ok [(f.name, v)] | .error m => .error m)
    else match r.get f.name with
      | some v => .ok [(f.name, v)]
      | none => .error "arm result lacks the field"
  | _ =>
    let rec go : List FieldDesc → Except String Parsed
      | [] => .ok []
      | f :: fs =>
        let v := if hasField inner f.name then
            (match r.get f.name with | some v => Except.ok v | none => .error "arm result lacks a field")
          else defaultField f
        match v, go fs with
        | .ok v, .ok p => .ok ((f.name, v) :: p)
        | .error m, _ => .error m
        | _, .error m => .error m
    go fields

/-- the closure's `name.extend(__result.name)` for every field -/
def extendAll : List FieldDesc → Parsed → Parsed → Except String Parsed
  | [], acc, _ => .ok acc
  | f :: fs, acc, r =>
    match acc.get f.name, r.get f.name with
    | some a, some b => (match extendVal a b with
      | .ok v => extendAll fs (acc.set f.name v) r
      | .error m => .error m)
    | _, _ => .error "closure result lacks a field"

/-- the closure's `let mut name: <declared type> = Vec::new();` – ill-typed unless `Multiple` -/
def closureInit : List FieldDesc → Except String Parsed
  | [] => .ok []
  | f :: fs =>
    if f.arity != .multiple then .error "closure field is not declared as Vec"
    else match closureInit fs with
      | .ok p => .ok ((f.name, .list []) :: p)
      | .error m => .error m

/-! ### list / loop helpers -/

/-- `Sequence::generate_parse_function` (≥ 2 parts) -/
def evalSeq (env : Env) (rec : Rec) (ctx : Ctx) :
    List Expr → List String → Parsed → St → Global → Out (List String × Parsed)
  | [], seen, acc, s, g => some (.ok (seen, acc) s, g)
  | p :: ps, seen, acc, s, g =>
    bindR (rec.expr ctx p s g) fun r s' g' =>
      let inner := filterRuleFields ctx.ruleFields (ownFields env p)
      match mergePart inner seen acc r with
      | .error m => some (.panic ("codegen: " ++ m), g')
      | .ok (seen', acc') => evalSeq env rec ctx ps seen' acc' s' g'

/-- `ChoiceHelper::new(state).choice(…)….end()` with the per-arm result converter -/
def evalAlts (env : Env) (rec : Rec) (ctx : Ctx) (fields : List FieldDesc) :
    List Expr → St → Global → Out Parsed
  | [], s, g => some (.err s.reportFarthest, g)
  | a :: as, s, g =>
    match rec.expr ctx a s g with
    | none => none
    | some (.ok r s', g') =>
      (match convertArm fields (ownFields env a) r with
       | .ok p => some (.ok p s', g')
       | .error m => some (.panic ("codegen: " ++ m), g'))
    | some (.err e, g') => evalAlts env rec ctx fields as (s.recordError e) g'
    | some (.panic m, g') => some (.panic m, g')

/-- the `loop` of closure.rs; the counter is loop fuel -/
def evalLoop (body : St → Global → Out Parsed) (fields : List FieldDesc) :
    Nat → Nat → Parsed → St → Global → Out (Nat × Parsed)
  | 0, _, _, _, _ => none
  | k+1, iters, acc, s, g =>
    match body s g with
    | none => none
    | some (.ok r s', g') =>
      (match extendAll fields acc r with
       | .ok acc' => evalLoop body fields k (iters + 1) acc' s' g'
       | .error m => some (.panic ("codegen: " ++ m), g'))
    | some (.err e, g') => some (.ok (iters, acc) (s.recordError e), g')
    | some (.panic m, g') => some (.panic m, g')

/-! ### one construct -/

def stepExpr (env : Env) (rec : Rec) (n : Nat) (ctx : Ctx) (e : Expr) (s : St) (g : Global) : Out Parsed :=
  match e with
  | .choice [] => some (.panic "index out of bounds: choices[0]", g)
  | .choice [a] => rec.expr ctx a s g
  | .choice alts =>
    evalAlts env rec ctx (filterRuleFields ctx.ruleFields (ownFields env e)) alts s g
  | .seq [] => some (.ok [] s, g)
  | .seq [p] => rec.expr ctx p s g
  | .seq parts =>
    bindR (evalSeq env rec ctx parts [] [] s g) fun (_, acc) s' g' =>
      match project (filterRuleFields ctx.ruleFields (ownFields env e)) acc with
      | .ok p => some (.ok p s', g')
      | .error m => some (.panic ("codegen: " ++ m), g')
  | .group b => rec.expr ctx b s g
  | .opt b =>
    match rec.expr ctx b s g with
    | none => none
    | some (.ok r s', g') => some (.ok r s', g')
    | some (.err err, g') =>
      (match defaults (filterRuleFields ctx.ruleFields (ownFields env b)) with
       | .ok p => some (.ok p (s.recordError err), g')
       | .error m => some (.panic ("codegen: " ++ m), g'))
    | some (.panic m, g') => some (.panic m, g')
  | .closure b atLeastOne =>
    let fields := filterRuleFields ctx.ruleFields (ownFields env b)
    match closureInit fields with
    | .error m => some (.panic ("codegen: " ++ m), g)
    | .ok init =>
      bindR (evalLoop (rec.expr ctx b) fields n 0 init s g) fun (iters, acc) s' g' =>
        if atLeastOne && iters == 0 then some (.err s'.reportFarthest, g')
        else some (.ok acc s', g')
  | .neg b =>
    match rec.expr ctx b s g with
    | none => none
    | some (.ok _ _, g') => some (.err (s.reportError .negativeLookaheadFailed), g')
    | some (.err _, g') => some (.ok [] s, g')
    | some (.panic m, g') => some (.panic m, g')
  | .pos b =>
    bindR (rec.expr ctx b s g) fun _ _ g' => some (.ok [] s, g')
  | .range lo hi =>
    match lo.toChar, hi.toChar with
    | .ok lo, .ok hi =>
      withSkipWs rec ctx s g fun s g => some ((parseCharacterRange s lo hi).map (fun _ => []), g)
    | _, _ => some (.panic "uncompilable: range bound", g)
  | .lit ins body =>
    match compileLit ins body with
    | .ok m =>
      withSkipWs rec ctx s g fun s g =>
        match m with
        | .charLit c => some ((parseCharacterLiteral s c).map (fun _ => []), g)
        | .strLit l => some ((parseStringLiteral s l).map (fun _ => []), g)
        | .charLitI c => some ((parseCharacterLiteralInsensitive s c).map (fun _ => []), g)
        | .strLitI l => some ((parseStringLiteralInsensitive s l).map (fun _ => []), g)
    | _ => some (.panic "uncompilable: literal", g)
  | .eoi => withSkipWs rec ctx s g fun s g => some ((parseEndOfInput s).map (fun _ => []), g)
  | .incl r =>
    match env.g.findRule r with
    | none => some (.panic "uncompilable: include of a missing rule", g)
    | some rule => rec.expr ctx rule.definition s g
  | .field name boxed typ =>
    let _ := boxed
    withSkipWs rec ctx s g fun s g =>
      bindR (rec.rule typ s g) fun v s' g' =>
        match name with
        | none => some (.ok [] s', g')
        | some nm =>
          match postprocessField ctx.ruleFields nm.key typ v with
          | .ok fv => some (.ok [(nm.key, fv)] s', g')
          | .error m => some (.panic ("codegen: " ++ m), g')

/-! ### rule wrappers (rule.rs, char_rule.rs, extern_rule.rs) -/

/-- `generate_check_calls`: every `@check` in source order on the finished value -/
def runChecks (env : Env) : List (List String) → Val → St → Global → Out Val
  | [], v, s, g => some (.ok v s, g)
  | f :: fs, v, s, g =>
    let fname := "::".intercalate f
    let (b, u) := env.hooks.check fname v g.uctx
    let g := ({ g with uctx := u }).emit (.checkCall fname v.render g.uctx)
    if !b then some (.err (s.reportError (.checkFunctionFailed fname)), g)
    else runChecks env fs v s g

/-- the three rule bodies of `Rule::generate_code`, without tracing and caching -/
def ruleBody (env : Env) (rec : Rec) (r : Rule) (s : St) (g : Global) : Out Val :=
  let flags := r.flags
  match getFields env.g env.nf r.definition with
  | .ok fields =>
    let ctx : Ctx := { skipWs := env.settings.skipWhitespace && !flags.noSkipWs, ruleFields := fields }
    if flags.string then
      bindR (rec.expr ctx r.definition s g) fun _ s' g' =>
        let str := Val.str (s.sliceUntil s')
        let v := if flags.position then Val.node r.name [("string", str)] (some (s.off, s'.off)) else str
        runChecks env r.checks v s' g'
    else if fields.length == 1 && (fields.head?.map (·.name)) == some "_override" then
      bindR (rec.expr ctx r.definition s g) fun p s' g' =>
        match p.get "_override" with
        | some v => runChecks env r.checks v s' g'
        | none => some (.panic "codegen: override value missing", g')
    else if hasField fields "_override" then
      some (.panic "uncompilable: Mixing simple and override fields is not allowed.", g)
    else
      bindR (rec.expr ctx r.definition s g) fun p s' g' =>
        match project fields p with
        | .ok fs =>
          let v := Val.node r.name fs (if flags.position then some (s.off, s'.off) else none)
          runChecks env r.checks v s' g'
        | .error m => some (.panic ("codegen: " ++ m), g')
  | _ => some (.panic "uncompilable: get_fields failed", g)

/-- the grow loop of the `left_recursive` branch of `generate_memoized_body` -/
def growLoop (body : St → Global → Out Val) (key : String × Nat) (s : St) :
    Nat → Res Val → Global → Out Val
  | 0, _, _ => none
  | k+1, best, g =>
    let g := (g.emit (.info "Starting new left recursive loop")).emit (.bodyEval key.1 key.2)
    match body s g with
    | none => none
    | some (.panic m, g') => some (.panic m, g')
    | some (.ok v ns, g') =>
      (match best with
       | .ok _ bs =>
         if ns.isFurtherThan bs then growLoop body key s k (.ok v ns) (g'.insert key (.ok v ns))
         else some (best, g')
       | _ => growLoop body key s k (.ok v ns) (g'.insert key (.ok v ns)))
    | some (.err e, g') =>
      (match best with
       | .ok _ _ => some (best, g')
       | _ => some (.err e, g'.insert key (.err e)))

/-- `generate_memoized_body` -/
def memoBody (flags : RuleFlags) (name : String) (body : St → Global → Out Val) (n : Nat)
    (s : St) (g : Global) : Out Val :=
  let key := (name, s.off)
  if flags.leftRecursive then
    match g.lookup key with
    | some cached => some (cached, g.emit (.info "Cache hit (left recursive)"))
    | none =>
      let best : Res Val := .err (s.reportError .leftRecursionSentinel)
      growLoop body key s n best (g.insert key best)
  else if flags.memoize then
    match g.lookup key with
    | some cached => some (cached, g.emit (.info "Cache hit"))
    | none =>
      match body s (g.emit (.bodyEval name s.off)) with
      | none => none
      | some (.panic m, g') => some (.panic m, g')
      | some (r, g') => some (r, g'.insert key r)
  else body s g

def traceResult (g : Global) : Res Val → Global
  | .ok _ s => g.emit (.traceOk s.off)
  | .err e => g.emit (.traceErr e.spec)
  | .panic _ => g

/-- `Rule::generate_code`: trace start, (cached) body in a closure, trace result -/
def normalRule (env : Env) (rec : Rec) (n : Nat) (r : Rule) (s : St) (g : Global) : Out Val :=
  let g := g.emit (.traceStart r.name s.off)
  match memoBody r.flags r.name (ruleBody env rec r) n s g with
  | none => none
  | some (res, g') => some (res, traceResult g' res)

/-- `CharRule::generate_check_calls`: the first failing check yields the class error -/
def charChecks (env : Env) (name : String) : List (List String) → Char → St → Global → Option PErr × Global
  | [], _, _, g => (none, g)
  | f :: fs, c, s, g =>
    let fname := "::".intercalate f
    let g := g.emit (.charCheckCall fname c)
    if !env.hooks.charCheck fname c then (some (s.reportError (.expectedCharacterClass name)), g)
    else charChecks env name fs c s g

/-- the alternatives of a `@char` rule: first success wins, errors of the parts are dropped -/
def charParts (rec : Rec) (name : String) : List CharRulePart → St → Global → Out Val
  | [], s, g => some (.err (s.reportError (.expectedCharacterClass name)), g)
  | p :: ps, s, g =>
    let r : Out Val := match p with
      | .chr item => (match item.toChar with
        | .ok c => some ((parseCharacterLiteral s c).map .chr, g)
        | _ => some (.panic "uncompilable: char rule literal", g))
      | .range lo hi => (match lo.toChar, hi.toChar with
        | .ok lo, .ok hi => some ((parseCharacterRange s lo hi).map .chr, g)
        | _, _ => some (.panic "uncompilable: char rule range", g))
      | .ident id => rec.rule id s g
    match r with
    | none => none
    | some (.ok v s', g') => some (.ok v s', g')
    | some (.err _, g') => charParts rec name ps s g'
    | some (.panic m, g') => some (.panic m, g')

/-- `CharRule::generate_code` -/
def charRule (env : Env) (rec : Rec) (r : CharRule) (s : St) (g : Global) : Out Val :=
  if r.directives.isEmpty then charParts rec r.name r.choices s g
  else match decodeHead s.rest with
    | none => some (.err (s.reportError (.expectedCharacterClass r.name)), g)
    | some c =>
      match charChecks env r.name r.directives c s g with
      | (some e, g') => some (.err e, g')
      | (none, g') => charParts rec r.name r.choices s g'

/-- `ExternRule::generate_code` -/
def externRule (env : Env) (r : ExternRule) (s : St) (g : Global) : Out Val :=
  let fname := "::".intercalate r.function
  let (res, u) := env.hooks.extern fname s.rest g.uctx
  let g := ({ g with uctx := u }).emit (.externCall fname s.off g.uctx)
  match res with
  | .ok (v, adv) => some (s.advanceSafe adv v, g)
  | .error msg => some (.err (s.reportError (.externRuleFailed msg)), g)

/-- a call of `parse_<name>` inside the generated module -/
def stepRule (env : Env) (rec : Rec) (n : Nat) (name : String) (s : St) (g : Global) : Out Val :=
  match env.g.find name with
  | some (.rule r) => normalRule env rec n r s g
  | some (.charRule r) => charRule env rec r s g
  | some (.externRule r) => externRule env r s g
  | none =>
    if name == "char" then some ((parseChar s).map .chr, g)
    else if name == "Whitespace" then some ((parseWhitespace s).map (fun _ => .unit), g)
    else some (.panic ("uncompilable: undefined rule " ++ name), g)

def step (env : Env) (rec : Rec) (n : Nat) : Rec :=
  { expr := stepExpr env rec n, rule := stepRule env rec n }

def eval (env : Env) : Nat → Rec
  | 0 => { expr := fun _ _ _ _ => none, rule := fun _ _ _ => none }
  | n+1 => step env (eval env n) n

/-- the generated `PegParserAdvanced::parse_advanced`: fresh state, fresh global (empty cache) -/
def parseAdvanced (env : Env) (fuel : Nat) (rule : String) (inp : List UInt8) (uctx : Nat) : Out Val :=
  (eval env fuel).rule rule (St.new inp) (Global.init uctx)

end Peg
