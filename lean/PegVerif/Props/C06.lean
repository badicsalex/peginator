import PegVerif.Proofs.Packrat
import PegVerif.Proofs.NonVacuity
/-
  C06 – a memoized rule body runs at most once per input position (packrat bound).
  The ghost event `bodyEval name off` is emitted by the model of `generate_memoized_body` right
  before a memoized body is evaluated (cache miss); `evals log k` counts those events for a key.
  Model after fix F1 (failures are cached too).
-/
namespace Peg.Props
open Peg

/-- **At most once per position.** In one parse, for every (rule, offset): the body of a memoized
    rule is evaluated at most once – whether that evaluation succeeded or failed. -/
theorem C06_once {env : Env} (hp : PureHooks env.hooks) (hnl : NoLeftrec env.g)
    {n : Nat} {rule : String} {inp : List UInt8} {u : Nat} {r : Res Val} {g' : Global}
    (h : parseAdvanced env n rule inp u = some (r, g')) (k : String × Nat) : evals g'.log k ≤ 1 :=
  C06_parse_once_pure hp hnl h k

/-- **The bound**: at most (number of memoized rules) × (input length + 1) body evaluations -/
theorem C06_bound {env : Env} (hp : PureHooks env.hooks) (hnl : NoLeftrec env.g)
    {n : Nat} {rule : String} {inp : List UInt8} {u : Nat} {r : Res Val} {g' : Global}
    (h : parseAdvanced env n rule inp u = some (r, g')) :
    (bodyKeys g'.log).length ≤ (memoNames env.g).length * (inp.length + 1) :=
  C06_bound_pure hp hnl h

/-- whatever a memoized rule returns – success or failure – is in the cache afterwards -/
theorem C06_result_is_cached {env : Env} (hnl : NoLeftrec env.g) {n : Nat} {name : String} {s : St} {g g' : Global}
    {r : Res Val} {r0 : Rule} (h : (eval env n).rule name s g = some (r, g')) (hp : ∀ m, r ≠ .panic m)
    (hf : env.g.find name = some (.rule r0)) (hm : r0.flags.memoize = true) :
    g'.lookup (name, s.off) = some r :=
  C06_evaluated_cached hnl h hp hf hm

/-- every further attempt at that position is answered from the cache: no body evaluation, the
    cached entry is returned as is -/
theorem C06_answered_from_cache {env : Env} (hnl : NoLeftrec env.g) {n : Nat} {name : String} {s : St} {g g' : Global}
    {r c : Res Val} {r0 : Rule} (h : (eval env n).rule name s g = some (r, g'))
    (hf : env.g.find name = some (.rule r0)) (hm : r0.flags.memoize = true)
    (hc : g.lookup (name, s.off) = some c) :
    r = c ∧ ∀ l, g'.log = l ++ g.log → ∀ k, evals l k = 0 :=
  PLR.C06_hit h hf (.inr hm) hc

/-- two successive evaluations: what the first evaluated to completion the second never evaluates again
    (no hypothesis on user functions) -/
theorem C06_no_reevaluation {env : Env} (hnl : NoLeftrec env.g) {g g1 g2 : Global} {b : Bool}
    (h1 : Run env g false g1) (h2 : Run env g1 b g2) {l1 l2 : List Ev}
    (hl1 : g1.log = l1 ++ g.log) (hl2 : g2.log = l2 ++ g1.log) {k : String × Nat}
    (hk : 0 < evals l1 k) : evals l2 k = 0 :=
  Peg.C06_no_reevaluation hnl h1 h2 hl1 hl2 hk

/-! ## non-vacuity -/
namespace C06_nv
open Peg.NV

/-! instance: `NV.envH [.memoize]` = `@export S = a:Num '+' b:Num | a:Num '-' b:Num | w:Word; @string @memoize Num = …`
    on `"1-2"`: `Num` is attempted twice at offset 0 (first and second alternative) and once at offset 2 -/
def envM : Env := envH [.memoize]
theorem hp : PureHooks envM.hooks := pure_default
theorem hnl : NoLeftrec envM.g := envHM_noLeftrec
theorem hf : envM.g.find "Num" = some (.rule (ruleNum [.memoize])) := rfl
theorem hm : (ruleNum [.memoize]).flags.memoize = true := rfl

theorem run_some : (parseAdvanced envM 20 "S" inpH 0).isSome = true := envHM_run
def gEnd : Global := ((parseAdvanced envM 20 "S" inpH 0).get run_some).2

example : evals gEnd.log ("Num", 0) ≤ 1 := C06_once hp hnl (run_eq run_some) ("Num", 0)
example : (bodyKeys gEnd.log).length ≤ (memoNames envM.g).length * (inpH.length + 1) := C06_bound hp hnl (run_eq run_some)
/-- what happened in that run: two attempts at `("Num", 0)` – one body evaluation and one cache hit; two keys evaluated out
    of the 1 × 4 the bound allows -/
example : evals gEnd.log ("Num", 0) = 1 ∧ hits gEnd.log = 1 ∧ bodyKeys gEnd.log = [("Num", 2), ("Num", 0)] ∧
    memoNames envM.g = ["Num"] := by decide +kernel

/-- `C06_result_is_cached`, a success (`Num` at offset 0) and a failure (`Num` at offset 1, in front of `-`) -/
example : ∃ v s' g', (eval envM 20).rule "Num" (St.new inpH) (Global.init 0) = some (.ok v s', g') ∧
    g'.lookup ("Num", 0) = some (.ok v s') := by
  obtain ⟨v, s', g', h, -⟩ := ok_of (o := (eval envM 20).rule "Num" (St.new inpH) (Global.init 0)) (fun _ s _ => s.off == 1)
    (by decide +kernel)
  exact ⟨v, s', g', h, C06_result_is_cached hnl h (fun m hm => by cases hm) hf hm⟩
def sMinus : St := ⟨[45, 50], 1, none⟩
example : ∃ e g', (eval envM 20).rule "Num" sMinus (Global.init 0) = some (.err e, g') ∧
    g'.lookup ("Num", 1) = some (.err e) := by
  obtain ⟨e, g', h, -⟩ := err_of (o := (eval envM 20).rule "Num" sMinus (Global.init 0)) (fun e _ => e.pos == 1) (by decide +kernel)
  exact ⟨e, g', h, C06_result_is_cached hnl h (fun m hm => by cases hm) hf hm⟩

/-! two successive evaluations: `Num` at offset 0 from the fresh global, then the whole of `S` from the global the first
    one left (`C06_answered_from_cache`, `C06_no_reevaluation`) -/
theorem first_some : ((eval envM 20).rule "Num" (St.new inpH) (Global.init 0)).isSome = true := envHM_first
def g1 : Global := (((eval envM 20).rule "Num" (St.new inpH) (Global.init 0)).get first_some).2
theorem g1_hit : (g1.lookup ("Num", 0)).isSome = true := by decide +kernel

theorem again_some : ((eval envM 20).rule "Num" (St.new inpH) g1).isSome = true := by decide +kernel
example : (((eval envM 20).rule "Num" (St.new inpH) g1).get again_some).1 = (g1.lookup ("Num", 0)).get g1_hit ∧
    ∀ l, (((eval envM 20).rule "Num" (St.new inpH) g1).get again_some).2.log = l ++ g1.log → ∀ k, evals l k = 0 :=
  C06_answered_from_cache hnl (run_eq again_some) hf hm (Option.some_get g1_hit).symm

theorem second_some : ((eval envM 20).rule "S" (St.new inpH) g1).isSome = true := envHM_second
def g2 : Global := (((eval envM 20).rule "S" (St.new inpH) g1).get second_some).2
theorem run1 : Run envM (Global.init 0) false g1 := by
  have h := Run.rule (env := envM) (run_eq first_some)
  have hb : (((eval envM 20).rule "Num" (St.new inpH) (Global.init 0)).get first_some).1.isPanic = false := by decide +kernel
  rw [hb] at h; exact h
example : ∀ l2, g2.log = l2 ++ g1.log → evals l2 ("Num", 0) = 0 := fun l2 hl2 =>
  C06_no_reevaluation hnl run1 (Run.rule (run_eq second_some)) (l1 := g1.log) (by simp [Global.init]) hl2
    (by decide +kernel)
/-- the second evaluation did happen, used the entry twice and evaluated only the new key `("Num", 2)` -/
example : hits g2.log = 2 ∧ evals g2.log ("Num", 0) = 1 ∧ evals g2.log ("Num", 2) = 1 ∧ evals g1.log ("Num", 0) = 1 := by
  decide +kernel

end C06_nv

end Peg.Props

/-! ## grammars that may contain `@leftrec` rules

  The statements above with `NoLeftrec env.g` replaced by the weakest hypothesis each of them needs:

  * the cache discipline (`C06_result_is_cached`, `C06_answered_from_cache`, `C06_no_reevaluation`): NO
    hypothesis on the grammar; the key / rule in question must not itself be `@leftrec`
    (`PLR.IsLR env k.1` false – for a `@leftrec` key the grow loop evaluates the body once per iteration
    and re-inserts the key, by design);
  * the counting forms (`C06_once`, `C06_bound`): pure user functions and the grammar in the class `LROk`
    (SpecLR.lean).  `PLR.ExampleBad` (PackratLR.lean) is a grammar outside the class, with pure hooks,
    in which a memoized rule on a left-recursive cycle is evaluated twice at one offset.

  They hold wherever the memoized rule is called from – in particular from inside a grow loop, where
  the same memoized rule is called at the same offset in every iteration and answered from the cache
  from the second iteration on (`PLR.Example`: `@leftrec E = l:*E '+' r:Num | b:Num`, `@memoize Num`).
-/
namespace Peg.Props.LR
open Peg PLR

theorem C06_once {env : Env} (hp : PureHooks env.hooks) (hok : LROk env.g env.settings)
    {n : Nat} {rule : String} {inp : List UInt8} {u : Nat} {r : Res Val} {g' : Global}
    (h : parseAdvanced env n rule inp u = some (r, g')) (k : String × Nat) (hk : ¬ IsLR env k.1) :
    evals g'.log k ≤ 1 :=
  C06_parse_once_pureLR hp hok h k hk

/-- **The bound**: at most (number of memoized non-`@leftrec` rules) × (input length + 1) body
    evaluations of such rules -/
theorem C06_bound {env : Env} (hp : PureHooks env.hooks) (hok : LROk env.g env.settings)
    {n : Nat} {rule : String} {inp : List UInt8} {u : Nat} {r : Res Val} {g' : Global}
    (h : parseAdvanced env n rule inp u = some (r, g')) :
    (bodyKeysM env g'.log).length ≤ (memoNamesM env.g).length * (inp.length + 1) :=
  C06_bound_pureLR hp hok h

/-- whatever a memoized rule returns – success or failure – is in the cache afterwards -/
theorem C06_result_is_cached {env : Env} {n : Nat} {name : String} {s : St} {g g' : Global}
    {r : Res Val} {r0 : Rule} (h : (eval env n).rule name s g = some (r, g')) (hp : ∀ m, r ≠ .panic m)
    (hf : env.g.find name = some (.rule r0)) (hm : r0.flags.memoize = true)
    (hlr : r0.flags.leftRecursive = false) :
    g'.lookup (name, s.off) = some r :=
  PLR.C06_evaluated_cached h hp hf hm hlr

/-- every further attempt at that position is answered from the cache: no body evaluation, the
    cached entry is returned as is -/
theorem C06_answered_from_cache {env : Env} {n : Nat} {name : String} {s : St} {g g' : Global}
    {r c : Res Val} {r0 : Rule} (h : (eval env n).rule name s g = some (r, g'))
    (hf : env.g.find name = some (.rule r0)) (hm : r0.flags.memoize = true)
    (hlr : r0.flags.leftRecursive = false)
    (hc : g.lookup (name, s.off) = some c) :
    r = c ∧ ∀ l, g'.log = l ++ g.log → ∀ k, evals l k = 0 :=
  PLR.C06_hit h hf (.inr hm) hc

/-- two successive evaluations: what the first evaluated to completion the second never evaluates
    again (no hypothesis on user functions, none on the grammar) -/
theorem C06_no_reevaluation {env : Env} {g g1 g2 : Global} {b : Bool}
    (h1 : Run env g false g1) (h2 : Run env g1 b g2) {l1 l2 : List Ev}
    (hl1 : g1.log = l1 ++ g.log) (hl2 : g2.log = l2 ++ g1.log) {k : String × Nat}
    (hn : ¬ IsLR env k.1) (hk : 0 < evals l1 k) : evals l2 k = 0 :=
  PLR.C06_no_reevaluation h1 h2 hl1 hl2 hn hk

/-- without `@leftrec` rules the bound holds for every key, as in `Props.C06_once` -/
theorem C06_once_noLeftrec {env : Env} (hp : PureHooks env.hooks) (hok : LROk env.g env.settings)
    (hnl : NoLeftrec env.g)
    {n : Nat} {rule : String} {inp : List UInt8} {u : Nat} {r : Res Val} {g' : Global}
    (h : parseAdvanced env n rule inp u = some (r, g')) (k : String × Nat) : evals g'.log k ≤ 1 :=
  C06_parse_once_pure hp hnl h k

end Peg.Props.LR
