import PegVerif.Proofs.LeftRec
import PegVerif.Proofs.LeftRecShape
import PegVerif.Proofs.RefineLR
import PegVerif.Proofs.NonVacuity
/-
  C07 – `@leftrec` rules terminate and build the left-nested tree of the longest growth.
  Model: `memoBody` (left_recursive branch) / `growLoop` in Eval.lean – the seed-and-grow loop of
  `generate_memoized_body` after fix F1.
-/
namespace Peg.Props
open Peg

/-- **Termination of the growth.** The grow loop of a `@leftrec` rule never needs more than
    (remaining input length + 2) iterations: every continuing iteration strictly extends the match
    and matches cannot extend beyond the input (proved for the real rule body, not assumed).
    Termination is relative to termination of the body evaluations themselves.  (The fresh state of `parse_advanced`
    satisfies the hypotheses `LR.Within`/`LR.CacheW` of `C07_terminates_rule`; every state reached later does by
    `LR.eval_inv`.) -/
theorem C07_terminates (env : Env) (n : Nat) (r : Rule) (hlr : r.flags.leftRecursive = true)
    (inp : List UInt8) (u : Nat) {k : Nat} {x : Res Val × Global}
    (h : normalRule env (eval env n) k r (St.new inp) (Global.init u) = some x) :
    ∃ k0, k0 ≤ inp.length + 2 ∧
      ∀ k', k0 ≤ k' → normalRule env (eval env n) k' r (St.new inp) (Global.init u) = some x :=
  C07_terminates_rule env n r hlr (L := inp.length) (by simp [LR.Within, St.new]) (LR.CacheW.init _ _) h

/-- **Result = longest growth.** A successful answer of the loop (entered with the failing seed) is
    the last element of a chain of body results with strictly increasing end offsets. -/
theorem C07_longest_growth {body : St → Global → Out Val} {key : String × Nat} {s : St} {k : Nat}
    {e0 : PErr} {g : Global} {v : Val} {ns : St} {g' : Global}
    (h : growLoop body key s k (.err e0) g = some (.ok v ns, g')) :
    ∃ chain : List (Val × St), chain.getLast? = some (v, ns) ∧
      (∀ x ∈ chain, x.2.off ≤ ns.off) ∧ (∃ g0 g1, body s g0 = some (.ok v ns, g1)) := by
  obtain ⟨chain, _, hr⟩ := growLoop_run k _ g _ g' h
  have hres := hr.result
  cases hres with
  | panic m hr' => cases hr'
  | failed e gb hc hbest hb hr' hg => cases hr'
  | longest v' ns' hl hr' =>
    cases hr'
    have hlast : chain.getLast? = some (v, ns) := by
      unfold lastOk at hl
      split at hl
      · rename_i x hx; rw [hx, hl]
      · simp [Res.okPair] at hl
    have hmem : (v, ns) ∈ chain := List.mem_of_getLast? hlast
    refine ⟨chain, hlast, ?_, hr.chain_body _ hmem⟩
    intro x hx
    have hp := hr.increasing.pairwise
    obtain ⟨init, hi⟩ : ∃ init, chain = init ++ [(v, ns)] := List.getLast?_eq_some_iff.1 hlast
    subst hi
    rw [List.pairwise_append] at hp
    rcases List.mem_append.1 hx with hx | hx
    · exact Nat.le_of_lt (hp.2.2 x hx (v, ns) (List.mem_singleton.2 rfl))
    · rw [List.mem_singleton.1 hx]; exact Nat.le_refl _

/-- **The usual shape `A = A x | b`.**  If with a failing seed the body yields the base result `b0`,
    with seed `v_i` it yields the extension `ext i v_i` ending strictly further (for i < m), and with
    seed `v_m` it fails or does not get further, then the rule returns
    `ext (m-1) (… (ext 0 b0))` – the tree nested to the left, each extension holding the previous
    result – after exactly m+2 body evaluations, and that is what the cache holds. -/
theorem C07_direct {flags : RuleFlags} {name : String} {body : St → Global → Out Val} {s : St}
    {b0 : Val} {ext : Nat → Val → Val} {st : Nat → St} {m : Nat} (hlr : flags.leftRecursive = true)
    (H : DirectLeftRec body (name, s.off) s (s.reportError .leftRecursionSentinel) b0 ext st m)
    {g : Global} (hmiss : g.lookup (name, s.off) = none) :
    ∃ g', (∀ n, m + 2 ≤ n → memoBody flags name body n s g = some (.ok (nestL ext b0 m) (st m), g')) ∧
          (∀ n, n ≤ m + 1 → memoBody flags name body n s g = none) :=
  C07_direct_memoBody hlr H hmiss

/-- the failing seed never stays in the cache: after a non-panic answer the cache holds that answer
    (`MemoRun.cached`; the real rule body never touches an existing entry).  Caveat, see the example `A = l:*A 'x'`
    in Proofs/LeftRec.lean: the body's error can itself be the sentinel error propagated from the seed; it is then
    cached *as the result*. -/
theorem C07_seed_replaced (env : Env) (n : Nat) (r : Rule) (hlr : r.flags.leftRecursive = true)
    {s : St} {g : Global} (hmiss : g.lookup (r.name, s.off) = none) {k : Nat} {res : Res Val} {g' : Global}
    (h : memoBody r.flags r.name (ruleBody env (eval env n) r) k s g = some (res, g'))
    (hnp : ∀ m, res ≠ .panic m) : g'.lookup (r.name, s.off) = some res :=
  (memoBody_run h).cached (.inl hlr) (fun _ => ruleBody_keepsKey env n r _ s) hnp

/-- non-vacuity: `@export @leftrec E = l:*E '+' r:Num | b:Num; @string Num = {'0'..'9'}+;` on "1+2+3"
    satisfies the hypotheses of `C07_direct` (m = 2) for the real rule body – see
    `LeftRecExample.direct` / `LeftRecExample.parse_123` in Proofs/LeftRec.lean -/
example : ∃ g', parseAdvanced LeftRecExample.envE 12 "E" LeftRecExample.inp 0 =
    some (.ok (LeftRecExample.extE 1 (LeftRecExample.extE 0 LeftRecExample.b0E)) (LeftRecExample.stE 2), g') :=
  LeftRecExample.parse_123

/-! ### the usual shape `A = l:*A xs… | base…`, from the syntax of the grammar (Proofs/LeftRecShape.lean)

  `LRS.LeftRecShape` is purely syntactic (closed by `rfl`/`decide` on a concrete grammar): `A` is `@leftrec`, its
  first alternative starts with the boxed field `l:*A` followed by `xs ≠ []`, the other alternatives `rest ≠ []`
  and `xs` only reach rules of a reference-closed set `R` without `@memoize`/`@leftrec` rules (so they cannot
  reach `A`), no `@check`/`@string` on `A`.  `LRS.Greedy` is the greedy iteration written in the reference
  semantics only: base match at `pos 0`, `m` strictly growing matches of `xs` from `pos i` to `pos (i+1)`, and
  the `(m+1)`-th attempt of `xs` fails or makes no progress.  `LRS.NoLeadWs`: the rule is not entered in front
  of skippable whitespace (see the finding below – this restriction is real). -/

/-- **"accepts exactly `b x*` (greedy) and returns the tree nested to the left"**: for every large enough fuel
    the parser returns `leftTree` = `ext (m-1) (… (ext 0 base))` and stops at `pos m`. -/
theorem C07_usual_shape {env : Env} {r : Rule} {A l : String} {xs rest : List Expr} {R : List String}
    {F : List FieldDesc} {fl : FieldDesc} {pos : Nat → St} {fs0 : Parsed} {fsx : Nat → Val → Parsed} {m : Nat}
    (H : LRS.LeftRecShape env r A l xs rest R F fl) (inp : List UInt8) (u : Nat)
    (hws : LRS.NoLeadWs env u r (St.new inp))
    (G : LRS.Greedy env u r A l xs rest F fl (St.new inp) pos fs0 fsx m) :
    ∃ (se : St) (N : Nat), Spec.clr se = pos m ∧ ∀ n, N ≤ n → ∃ g',
      parseAdvanced env n A inp u = some (.ok (LRS.leftTree r A (St.new inp) pos fs0 fsx m) se, g') :=
  LRS.shape_parse H inp u hws G

/-- each extension holds the previous result in its recursive field (`Some(Box(prev))` for the usual
    single-type optional field) -/
theorem C07_extension_holds_previous {env : Env} {u : Nat} {r : Rule} {A l : String} {xs rest : List Expr}
    {F : List FieldDesc} {fl : FieldDesc} {s : St} {pos : Nat → St} {fs0 : Parsed} {fsx : Nat → Val → Parsed} {m : Nat}
    (G : LRS.Greedy env u r A l xs rest F fl s pos fs0 fsx m) (hr : LRS.RecFieldOnly env F l A xs rest)
    (i : Nat) (hi : i < m) (v : Val) : (fsx i v).get l = some (LRS.recVal fl A v) :=
  LRS.Greedy.rec_field G hr i hi v

/-- non-vacuity: the hypotheses hold for `E = l:*E '+' r:Num | b:Num` on "1+2+3" and give the same answer as
    the direct computation -/
example : ∃ (se : St) (N : Nat), se.off = 5 ∧ se.rest = [] ∧ ∀ n, N ≤ n → ∃ g',
    parseAdvanced LeftRecExample.envE n "E" LeftRecExample.inp 0 =
      some (.ok (LeftRecExample.extE 1 (LeftRecExample.extE 0 LeftRecExample.b0E)) se, g') :=
  LRS.ShapeExample.parse_123_shape

/-- **`NoLeadWs` cannot be dropped (finding K4).**  With whitespace skipping on, `E = l:*E '+' r:Num | b:Num` on
    `" 1+2+3"` (one leading blank) returns only `E{b:"1"}` and stops after 2 bytes: the recursive reference is
    evaluated after the blank, at offset 1, where no seed is planted, so a nested complete parse of `1+2+3`
    happens there, the outer `'+'` then fails, and the base alternative wins.  (Model level here; the replay on
    the real generated parser is a known finding of the C07 check.) -/
example :
    (match parseAdvanced LeftRecExample.envE 60 "E" [32, 49, 43, 50, 43, 51] 0 with
     | some (.ok _ s, _) => s.off == 2
     | _ => false) = true := by decide +kernel

/-! ### the result *is* "the one obtained by growing a match" (SpecLR.lean, Proofs/RefineLR.lean)

  `SpecLR.eval` spells the sentence of the property out as a semantics: a `@leftrec` rule at offset `p` is
  answered by growing – seed := failure; evaluate the body with references to the rule at `p` standing for the
  seed; keep the result while it is a success strictly further than the seed; stop otherwise – with no cache and
  nothing remembered afterwards.  For every grammar of the class the property quantifies over (`LROk`: left
  recursion through `@leftrec` rules only, direct or indirect through non-memoized rules, no other memoized or
  left-recursive rule reachable inside the cycle before input is consumed) the generated parser computes exactly
  that – although it keeps finished results of `@leftrec` and `@memoize` rules in its cache for the rest of the
  parse. -/
theorem C07_result_is_the_growth (env : Env) (hp : PureHooks env.hooks) (hok : LROk env.g env.settings)
    {n : Nat} {rule : String} {inp : List UInt8} {u : Nat} {r g}
    (h : parseAdvanced env n rule inp u = some (r, g)) :
    ∃ m, SpecLR.parse env u m rule inp = some (Spec.abs r) :=
  eval_refLR env hp hok h

/-- the side condition is needed: with a second `@leftrec` rule inside the cycle the class check fails – and the
    model really answers differently from the growth semantics there (`LRExample.mutEnv` in RefineLR.lean) -/
example : ¬ LROk LRExample.mutEnv.g LRExample.mutEnv.settings := LRExample.not_lrOk_mutEnv

/-! ## non-vacuity -/
namespace C07_nv
open Peg.NV Peg.LeftRecExample

/-! instance: `LeftRecExample.envE` = `@export @leftrec E = l:*E '+' r:Num | b:Num; @string Num = {'0'..'9'}+;`
    on `"1+2+3"` (two growth steps); `parseAdvanced envE 12 "E"` is `normalRule envE (eval envE 11) 11 ruleE …` -/

def body : St → Global → Out Val := ruleBody envE (eval envE 11) ruleE

/-- `C07_terminates`: the premise holds with loop fuel 11, the conclusion bounds the needed loop fuel by 5 + 2 -/
theorem top_some : (normalRule envE (eval envE 11) 11 ruleE (St.new inp) (Global.init 0)).isSome = true :=
  let ⟨_, h⟩ := parse_123
  Option.isSome_iff_exists.2 ⟨_, h⟩
example : ∃ k0, k0 ≤ inp.length + 2 ∧ ∀ k', k0 ≤ k' →
    normalRule envE (eval envE 11) k' ruleE (St.new inp) (Global.init 0) =
      some ((normalRule envE (eval envE 11) 11 ruleE (St.new inp) (Global.init 0)).get top_some) :=
  C07_terminates envE 11 ruleE rfl inp 0 (Option.some_get top_some).symm
/-- the loop really iterated: four body evaluations (seed, two growth steps, the failing last one) -/
example : (match normalRule envE (eval envE 11) 11 ruleE (St.new inp) (Global.init 0) with
    | some (.ok _ s, g) => s.off == 5 && bodyEvals g.log "E" 0 == 4
    | _ => false) = true := by decide +kernel

/-- `C07_longest_growth`: the grow loop entered with the failing seed -/
def e0 : PErr := s0.reportError .leftRecursionSentinel
def gSeed : Global := (Global.init 0).insert ("E", 0) (.err e0)
example : ∃ v ns g', growLoop body ("E", 0) s0 11 (.err e0) gSeed = some (.ok v ns, g') ∧ ns.off = 5 ∧
    ∃ chain : List (Val × St), chain.getLast? = some (v, ns) ∧ (∀ x ∈ chain, x.2.off ≤ ns.off) ∧
      (∃ g0 g1, body s0 g0 = some (.ok v ns, g1)) := by
  obtain ⟨v, ns, g', h, hp⟩ := ok_of (o := growLoop body ("E", 0) s0 11 (.err e0) gSeed) (fun _ s _ => s.off == 5) (by decide +kernel)
  exact ⟨v, ns, g', h, by simpa using hp, C07_longest_growth h⟩

/-- `C07_direct`: its semantic hypothesis is `LeftRecExample.direct` (the real body, m = 2); the cache miss holds for
    the fresh global -/
example : ∃ g', (∀ n, 2 + 2 ≤ n → memoBody ruleE.flags "E" body n s0 (Global.init 0) =
      some (.ok (nestL extE b0E 2) (stE 2), g')) ∧
    (∀ n, n ≤ 2 + 1 → memoBody ruleE.flags "E" body n s0 (Global.init 0) = none) :=
  C07_direct (flags := ruleE.flags) (name := "E") rfl direct rfl
example : (nestL extE b0E 2).render =
    "E { l: Some(E { l: Some(E { l: None, r: None, b: Some(S\"31\") }), r: Some(S\"32\"), b: None }), r: Some(S\"33\"), b: None }" ∧
    (stE 2).off = 5 := ⟨render_123, rfl⟩

/-- `C07_seed_replaced` on a success (`"1+2+3"`) and on a failure (`"+"`): the cache ends with the answer, not the seed -/
example : ∃ v s g', memoBody ruleE.flags ruleE.name body 11 s0 (Global.init 0) = some (.ok v s, g') ∧
    g'.lookup ("E", 0) = some (.ok v s) := by
  obtain ⟨g', h, -⟩ := C07_direct (flags := ruleE.flags) (name := "E") (g := Global.init 0) rfl direct rfl
  exact ⟨_, _, g', h 11 (by decide), C07_seed_replaced envE 11 ruleE rfl (s := s0) rfl (h 11 (by decide)) (fun m hm => by cases hm)⟩
example : ∃ e g', memoBody ruleE.flags ruleE.name body 11 (St.new [43]) (Global.init 0) = some (.err e, g') ∧
    e.spec ≠ .leftRecursionSentinel ∧ g'.lookup ("E", 0) = some (.err e) := by
  obtain ⟨e, g', h, hp⟩ := err_of (o := memoBody ruleE.flags ruleE.name body 11 (St.new [43]) (Global.init 0))
    (fun e _ => e.spec != .leftRecursionSentinel) (by decide +kernel)
  exact ⟨e, g', h, by simpa using hp, C07_seed_replaced envE 11 ruleE rfl (s := St.new [43]) rfl h (fun m hm => by cases hm)⟩

/-! `C07_usual_shape` / `C07_extension_holds_previous`: the syntactic and semantic hypotheses are
    `LRS.ShapeExample.shapeE`, `noLeadWsE`, `greedyE`, `recFieldOnlyE` (the `E` grammar on `"1+2+3"`) and
    `LRS.ShapeExample2.shapeA`, `noLeadWsA`, `greedyA` (a `@position` rule, a grammar-defined `Whitespace`, input
    `"y x x"` with whitespace between the tokens) -/
open LRS in
example : ∃ (se : St) (N : Nat), Spec.clr se = ShapeExample.posE 2 ∧ ∀ n, N ≤ n → ∃ g',
    parseAdvanced envE n "E" inp 0 =
      some (.ok (leftTree ruleE "E" (St.new inp) ShapeExample.posE ShapeExample.fs0E ShapeExample.fsxE 2) se, g') :=
  C07_usual_shape ShapeExample.shapeE inp 0 ShapeExample.noLeadWsE ShapeExample.greedyE
open LRS in
example (v : Val) : (ShapeExample.fsxE 1 v).get "l" = some (recVal ShapeExample.flE "E" v) :=
  C07_extension_holds_previous ShapeExample.greedyE ShapeExample.recFieldOnlyE 1 (by decide) v
open LRS ShapeExample2 in
example : ∃ (se : St) (N : Nat), Spec.clr se = posA 2 ∧ ∀ n, N ≤ n → ∃ g',
    parseAdvanced envA n "A" inpA 0 = some (.ok (leftTree ruleA "A" (St.new inpA) posA fs0A fsxA 2) se, g') :=
  C07_usual_shape shapeA inpA 0 noLeadWsA greedyA
open LRS ShapeExample2 in
example : (leftTree ruleA "A" (St.new inpA) posA fs0A fsxA 2).render =
    "A { l: Some(A { l: Some(A { l: None, x: None, y: Some(Y), position: 0..1 }), x: Some(X), y: None, position: 0..3 }), x: Some(X), y: None, position: 0..5 }" := by
  decide +kernel

end C07_nv

end Peg.Props
