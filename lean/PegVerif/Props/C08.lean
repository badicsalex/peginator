import PegVerif.Proofs.Whitespace
import PegVerif.Proofs.NonVacuity
/-
  C08 – whitespace is skipped before every token of skipping rules and nowhere else.
-/
namespace Peg.Props
open Peg Peg.WS

/-- **Nowhere else.** Constructs that are not tokens (choice, sequence, group, optional, closure,
    lookaheads, include) never call `Whitespace` and never read the flag: they only pass the
    context down. -/
theorem C08_only_tokens {env : Env} {rec rec' : Spec.SRec} {n : Nat} {ctx ctx' : Ctx} {e : Expr}
    (he : isToken e = false) (hrf : ctx'.ruleFields = ctx.ruleFields)
    (hexpr : ∀ b s, rec'.expr ctx' b s = rec.expr ctx b s) (s : St) :
    Spec.stepExpr env rec' n ctx' e s = Spec.stepExpr env rec n ctx e s :=
  WS.C08_only_tokens he hrf hexpr s

/-- **Before every token.** Skipping is exactly "an explicit call of `Whitespace` in front of every
    literal, range, `$` and rule/field reference": evaluating `e` with skipping equals evaluating the
    desugared expression without skipping (include-free, compilable `e`). -/
theorem C08_desugar_expr (env : Env) (u : Nat) (e : Expr) (ctx : Ctx) (s : St) (r : Res Parsed)
    (hg : GoodE env.nf e) (hu : UniqueNames ctx.ruleFields) :
    (∃ n, (Spec.eval env u n).expr { ctx with skipWs := true } e s = some r) ↔
    (∃ m, (Spec.eval env u m).expr { ctx with skipWs := false } (desugarE e) s = some r) :=
  WS.C08_desugar_expr env u e ctx s r hg hu

/-- the same for whole grammars: every skipping rule desugared and marked `@no_skip_ws` -/
theorem C08_desugar_grammar (env : Env) (u : Nat) (rule : String) (inp : List UInt8) (r : Res Val)
    (hskip : env.settings.skipWhitespace = true) (hG : GoodG env.nf env.g) :
    (∃ n, Spec.parse env u n rule inp = some r) ↔ (∃ m, Spec.parse (desugarEnv env) u m rule inp = some r) :=
  WS.C08_desugar_grammar env u rule inp r hskip hG

/-- the builtin skipper never fails and skips exactly the maximal prefix of SPACE, TAB, LF, FF, CR -/
theorem C08_builtin (s : St) :
    parseWhitespace s = .ok () { s with rest := s.rest.dropWhile isAsciiWhitespace,
                                        off := s.off + (s.rest.takeWhile isAsciiWhitespace).length } :=
  WS.C08_builtin s

/-- a disabled flag means no skipping at all: `withSkipWs` with `skipWs = false` is the identity -/
theorem C08_no_flag_no_skip {α} (rec : Spec.SRec) (ctx : Ctx) (s : St) (k : St → Spec.SOut α) :
    Spec.withSkipWs rec { ctx with skipWs := false } s k = k s :=
  WS.C08_withSkipWs_false rec ctx s k

/-- an included body uses the setting of the including rule -/
theorem C08_include_inherits (env : Env) (rec : Spec.SRec) (n : Nat) (ctx : Ctx) (name : String) (r : Rule) (s : St)
    (h : env.g.findRule name = some r) :
    Spec.stepExpr env rec n ctx (.incl name) s = rec.expr ctx r.definition s := by
  simp only [Spec.stepExpr, h]

/-- a grammar-defined `Whitespace` rule replaces the builtin -/
theorem C08_custom_whitespace {env : Env} {u : Nat} {rec : Spec.SRec} {r : Rule} (s : St)
    (h : env.g.find "Whitespace" = some (.rule r)) :
    Spec.stepRule env u rec "Whitespace" s = Spec.ruleBody env u rec r s :=
  WS.C08_custom_rule s h

/-! ## non-vacuity -/
namespace C08_nv
open Peg.NV

/-! instance: `NV.env0` = `@export S = first:Num {'+' rest:Num} | word:Word; …` (skipping on) on `"1 + 23"`:
    whitespace between the tokens -/

/-- Bool form of `GoodG` -/
theorem goodG_of {nf : Nat} {g : Grammar}
    (h : g.rules.all (fun e => match e with
      | .rule r => noIncl r.definition && compilable r.definition && decide (depthE r.definition < nf)
      | _ => true) = true) : GoodG nf g := by
  intro r hr
  have := (List.all_eq_true.mp h) _ hr
  simpa [GoodE, and_assoc] using this

theorem hG : GoodG env0.nf env0.g := goodG_of (by decide +kernel)
theorem spec_some : (Spec.parse env0 0 20 "S" inp1).isSome = true := env0_spec

/-- `C08_desugar_grammar`: the skipping grammar and its desugared `@no_skip_ws` form answer alike … -/
example : ∃ m, Spec.parse (desugarEnv env0) 0 m "S" inp1 = some ((Spec.parse env0 0 20 "S" inp1).get spec_some) :=
  (C08_desugar_grammar env0 0 "S" inp1 _ rfl hG).mp ⟨20, (Option.some_get spec_some).symm⟩
/-- … and here are the two runs: the same tree, 6 bytes, two blanks skipped; the desugared rules are `@no_skip_ws` and
    call `Whitespace` explicitly -/
example : (match Spec.parse env0 0 20 "S" inp1, Spec.parse (desugarEnv env0) 0 25 "S" inp1 with
    | some (.ok v s), some (.ok v' s') =>
        v.render == "S { first: Some(S\"31\"), rest: [S\"3233\"], word: None }" && v'.render == v.render && s.off == 6 && s'.off == 6
    | _, _ => false) = true := by decide +kernel
example : ((desugarEnv env0).g.findRule "S").map (fun r => (r.flags.noSkipWs, depthE r.definition == depthE (ruleS []).definition + 1)) =
    some (true, true) := by decide +kernel
/-- with skipping switched off the same input stops after `1` (the blank is not skipped: "nowhere else" needs the flag) -/
example : (match Spec.parse { env0 with settings := { skipWhitespace := false } } 0 20 "S" inp1 with
    | some (.ok _ s) => s.off == 1 | _ => false) = true := by decide +kernel

/-- `C08_desugar_expr` at the definition of `S` -/
def ctxS : Ctx := ⟨true, ownFields env0 (ruleS []).definition⟩
theorem hgE : GoodE env0.nf (ruleS []).definition := ⟨by decide +kernel, by decide +kernel, by decide +kernel⟩
theorem hu : UniqueNames ctxS.ruleFields := by unfold UniqueNames; decide +kernel
theorem def_some : ((Spec.eval env0 0 20).expr { ctxS with skipWs := true } (ruleS []).definition (St.new inp1)).isSome = true := by
  decide +kernel
example : ∃ m, (Spec.eval env0 0 m).expr { ctxS with skipWs := false } (desugarE (ruleS []).definition) (St.new inp1) =
    some (((Spec.eval env0 0 20).expr { ctxS with skipWs := true } (ruleS []).definition (St.new inp1)).get def_some) :=
  (C08_desugar_expr env0 0 (ruleS []).definition ctxS (St.new inp1) _ hgE hu).mp ⟨20, (Option.some_get def_some).symm⟩

/-- `C08_only_tokens` with two DIFFERENT contexts: the closure `{'+' rest:Num}` evaluated with the flag off over a
    recursion that forces the flag on equals the evaluation with the flag on – the closure itself never reads it -/
def R : Spec.SRec := Spec.eval env0 0 19
def R' : Spec.SRec := ⟨fun c b s => R.expr { c with skipWs := true } b s, R.rule⟩
def cl : Expr := .closure (.choice [.seq [lit '+', .field (some (.ident "rest")) false "Num"]]) false
def mid : St := ⟨inp1.drop 1, 1, none⟩
example : Spec.stepExpr env0 R' 19 ⟨false, ctxS.ruleFields⟩ cl mid = Spec.stepExpr env0 R 19 ctxS cl mid :=
  C08_only_tokens (rec := R) (rec' := R') (ctx := ctxS) (ctx' := ⟨false, ctxS.ruleFields⟩) rfl rfl (fun _ _ => rfl) mid
example : (match Spec.stepExpr env0 R 19 ctxS cl mid with | some (.ok _ s) => s.off == 6 | _ => false) = true := by decide +kernel
/-- a token does read it: `'+'` at offset 1 (in front of `" + 23"`) matches with the flag and fails without -/
example : (match Spec.stepExpr env0 R 19 ctxS (lit '+') mid, Spec.stepExpr env0 R 19 ⟨false, ctxS.ruleFields⟩ (lit '+') mid with
    | some (.ok _ s), some (.err _) => s.off == 3 | _, _ => false) = true := by decide +kernel

/-- `C08_builtin` on blank, TAB, LF, `+` -/
example : parseWhitespace ⟨[32, 9, 10, 43], 1, none⟩ = .ok () ⟨[43], 4, none⟩ := by
  rw [C08_builtin]; rfl
example : Spec.withSkipWs R { ctxS with skipWs := false } mid (fun s => some (.ok s.off s)) = some (.ok 1 mid) :=
  C08_no_flag_no_skip R ctxS mid _
/-- `C08_include_inherits`: `>Num` inside a skipping context -/
example : Spec.stepExpr env0 R 19 ctxS (.incl "Num") mid = R.expr ctxS (ruleNum []).definition mid :=
  C08_include_inherits env0 R 19 ctxS "Num" (ruleNum []) mid rfl

/-- `C08_custom_whitespace`: `@no_skip_ws Whitespace = {'_'};` replaces the builtin – `"1_+_23"` parses, `"1 + 23"`
    stops after `1` -/
def ruleW : Rule := ⟨[.noSkipWs], "Whitespace", .choice [.seq [.closure (.choice [.seq [lit '_']]) false]]⟩
def envW : Env := { env0 with g := ⟨env0.g.rules ++ [.rule ruleW]⟩ }
example (s : St) : Spec.stepRule envW 0 (Spec.eval envW 0 19) "Whitespace" s = Spec.ruleBody envW 0 (Spec.eval envW 0 19) ruleW s :=
  C08_custom_whitespace s rfl
example : (match Spec.parse envW 0 25 "S" [49, 95, 43, 95, 50, 51], Spec.parse envW 0 25 "S" inp1 with
    | some (.ok _ s), some (.ok _ s') => s.off == 6 && s'.off == 1 | _, _ => false) = true := by decide +kernel

end C08_nv

end Peg.Props
