import PegVerif.Proofs.FrontEndConf
import PegVerif.Proofs.MetaChecks
/-
  C17 – the bootstrapped grammar parser is a fixpoint of the generator.
  Logical core: any parser that conforms to the PEG reading of grammar.ebnf reads every text alike
  (uniqueness of the reference answer), the shipped front end is tied to that reading by the
  three-way `frontend` comparison, and the generator model accepts grammar.ebnf.  The multi-stage
  builds themselves (stage 2 = current generator on grammar.ebnf compared with the shipped
  generated.rs) are real builds run by the check: tests, labelled as such.
-/
namespace Peg.Props
open Peg

/-- the tree's own generator (model) accepts grammar.ebnf – re-checked on the extracted grammar -/
theorem C17_generator_accepts_its_grammar : Compile.accepts Extracted.metaGrammar {} 64 = true := metaGrammar_accepted

/-- two front ends that both conform to the reference reading of grammar.ebnf agree on every text:
    the reference answer is unique -/
theorem C17_conforming_front_ends_agree (text : List UInt8) {m m' : Nat} {r r'}
    (h : Spec.parse FrontEnd.metaEnv 0 m "Grammar" text = some r)
    (h' : Spec.parse FrontEnd.metaEnv 0 m' "Grammar" text = some r') : r = r' :=
  Spec.eval_rule_det FrontEnd.metaEnv 0 h h'

/-- the model front end conforms (valid texts and invalid ones) -/
theorem C17_model_front_end_conforms (fuel : Nat) (text : List UInt8) :
    (∀ g, FrontEnd.parse fuel text = .grammar g →
      ∃ m v s, Spec.parse FrontEnd.metaEnv 0 m "Grammar" text = some (.ok v s) ∧ FrontEnd.toGrammar fuel v = some g) ∧
    (∀ e, FrontEnd.parse fuel text = .parseError e →
      ∃ m, Spec.parse FrontEnd.metaEnv 0 m "Grammar" text = some (.err Spec.noErr)) :=
  C12_conformance_sound fuel text

/-- more fuel never changes what was read -/
theorem C17_front_end_stable {n n' : Nat} (hnn : n ≤ n') {text g} (h : FrontEnd.parse n text = .grammar g) :
    FrontEnd.parse n' text = .grammar g :=
  FrontEnd.parse_mono hnn h nofun nofun

/-! ## non-vacuity -/
namespace C17_nv

/-! instance: the text `#c⏎@export A=B;` (`textExport`, Proofs/FrontEndProofs.lean; a comment line, a directive, an
    unnamed field), read with fuels 64 and 72; its runs are evaluated once, in Proofs/FrontEndConf.lean
    (`textExport_runs`) -/

theorem spec64 : (Spec.parse FrontEnd.metaEnv 0 64 "Grammar" textExport).isSome = true := by
  obtain ⟨v, s, hs, _⟩ := textExport_spec
  rw [hs]
  rfl

theorem spec72 : (Spec.parse FrontEnd.metaEnv 0 72 "Grammar" textExport).isSome = true := by
  obtain ⟨r, h⟩ := Option.isSome_iff_exists.mp spec64
  have h72 : Spec.parse FrontEnd.metaEnv 0 72 "Grammar" textExport = some r :=
    (Spec.eval_mono FrontEnd.metaEnv 0 (by decide : 64 ≤ 72)).rule _ _ _ h
  rw [h72]
  rfl

/-- `C17_conforming_front_ends_agree`: both premises hold (two different fuels), the answers coincide – and the answer
    is a success that consumed all 15 bytes -/
example : (Spec.parse FrontEnd.metaEnv 0 64 "Grammar" textExport).get spec64 =
    (Spec.parse FrontEnd.metaEnv 0 72 "Grammar" textExport).get spec72 :=
  C17_conforming_front_ends_agree textExport (Option.some_get spec64).symm (Option.some_get spec72).symm
example : (match Spec.parse FrontEnd.metaEnv 0 64 "Grammar" textExport with
    | some (.ok _ s) => s.off == 15 && s.rest == [] | _ => false) = true := by
  obtain ⟨v, s, hs, h, _⟩ := textExport_spec
  rw [hs]
  exact h

/-- `C17_front_end_stable` / `C17_model_front_end_conforms`: the premise `FrontEnd.parse 64 … = .grammar g` holds -/
example : ∃ g, FrontEnd.parse 64 textExport = .grammar g ∧ FrontEnd.parse 72 textExport = .grammar g ∧
    ∃ m v s, Spec.parse FrontEnd.metaEnv 0 m "Grammar" textExport = some (.ok v s) ∧ FrontEnd.toGrammar 64 v = some g := by
  have h := frontend_example_export
  cases hp : FrontEnd.parse 64 textExport with
  | grammar g => exact ⟨g, rfl, C17_front_end_stable (by decide) hp, (C17_model_front_end_conforms 64 textExport).1 g hp⟩
  | parseError e => rw [hp] at h; cases h
  | other msg => rw [hp] at h; cases h
/-- … and the grammar read with the larger fuel is `@export A = B;` -/
example : isExportAB (FrontEnd.parse 72 textExport) = true := by
  have h := frontend_example_export
  cases hp : FrontEnd.parse 64 textExport with
  | grammar g => rw [C17_front_end_stable (by decide : 64 ≤ 72) hp, ← hp]; exact h
  | parseError e => rw [hp] at h; cases h
  | other msg => rw [hp] at h; cases h
/-- with too little fuel the front end says so (so stability is about a real threshold) -/
example : (match FrontEnd.parse 30 textExport with | .other m => m == "out of fuel" | _ => false) = true := by
  have h := textExport_runs.2
  revert h
  cases FrontEnd.parse 30 textExport <;> exact id

/-- the invalid text `A=`: the model front end reports a parse error, and so does the reference reading -/
example : ∃ e, FrontEnd.parse 64 textBad = .parseError e ∧
    ∃ m, Spec.parse FrontEnd.metaEnv 0 m "Grammar" textBad = some (.err Spec.noErr) := by
  have h := frontend_example_error
  cases hp : FrontEnd.parse 64 textBad with
  | grammar g => rw [hp] at h; cases h
  | parseError e => exact ⟨e, rfl, (C17_model_front_end_conforms 64 textBad).2 e hp⟩
  | other msg => rw [hp] at h; cases h

/-- `accepts` is not constantly `true` on the meta-grammar: with an invalid derive name it is rejected -/
example : Compile.accepts Extracted.metaGrammar { derives := ["Cl one"] } 64 = false := by decide +kernel

end C17_nv

end Peg.Props
