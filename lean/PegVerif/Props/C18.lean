import PegVerif.Proofs.BuildProofs
import PegVerif.Proofs.BuildFmtProofs
import PegVerif.Proofs.BuildDirProofs
/-
  C18 – build-script compilation leaves the destination matching the current grammar.
  Model: Build.lean (`Compile::run` on a single file after fix F6, CRC-32/ISO-HDLC, header),
  tied to the real helper by `fsdiff` (operation histories against the real `Compile` in a scratch
  directory: Result, destination content, rewritten-or-untouched).
-/
namespace Peg.Props
open Peg Peg.Build

/-- a failing run returns an error and leaves the file-system state exactly as it was -/
theorem C18_failure_preserves (k : Consts) (compile : List UInt8 → Option (List UInt8)) (fs : FS)
    (h : (Build.step k compile fs .run).2 = .err) : (Build.step k compile fs .run).1 = fs :=
  Peg.C18_failure_preserves k compile fs h

/-- a destination produced by a successful run is left untouched by the next run -/
theorem C18_untouched (k : Consts) (compile : List UInt8 → Option (List UInt8)) (fs fs' : FS) (w : Bool)
    (h : Build.step k compile fs .run = (fs', .ok w)) : Build.step k compile fs' .run = (fs', .ok false) :=
  Peg.C18_untouched k compile fs fs' w h

/-- a destination that already is the compilation of the current grammar and prefix is not rewritten -/
theorem C18_rewrite_only_when_needed (k : Consts) (compile : List UInt8 → Option (List UInt8)) (fs : FS)
    (g code : List UInt8) (hg : fs.grammar = some g) (hd : fs.dest = some (output k g fs.pfx code)) :
    Build.step k compile fs .run = (fs, .ok false) :=
  Peg.C18_rewrite_only_when_needed k compile fs g code hg hd

/-- **Freshness over histories (partial: CRC-32 must not collide on the texts of the history).**
    After any finite sequence of grammar edits, prefix changes, destination deletions and runs that
    started without a destination, a successful run leaves `header ++ prefix ++ code` of the grammar
    and prefix as they are now.  The hypothesis is finite and decidable for a concrete history. -/
theorem C18_fresh_partial (k : Consts) (compile : List UInt8 → Option (List UInt8))
    (fs0 : FS) (ops : List Op) (fs' : FS) (w : Bool) (h0 : fs0.dest = none)
    (hcG : CrcInjOn (· ∈ grammarTexts fs0 ops)) (hcP : CrcInjOn (· ∈ prefixTexts fs0 ops))
    (h : Build.step k compile (runOps k compile fs0 ops) .run = (fs', .ok w)) :
    ∃ g code, fs'.grammar = some g ∧ compile g = some code ∧ fs'.dest = some (output k g fs'.pfx code) :=
  C18F_fresh_partial_history (fmt := id) (format := false) keepsHeader_false h0 hcG hcP
    (by rw [← step_runOps]; exact h)

/-- the unconditional statement is **false** (known finding K1): two concrete grammar texts with
    the same CRC-32 (fd872ce9) – the second run reports success and keeps the stale destination -/
theorem C18_fresh_is_false_without_crc_hypothesis : ¬ C18_fresh_statement := by
  intro h
  obtain ⟨_, _, _, _, hinv, hrun, _, _, hn⟩ := C18_crc_collision_witness
  exact hn (h _ _ _ _ _ _ hinv hrun)

/-! ### with `.format()` (BuildFmt.lean, Proofs/BuildFmtProofs.lean)

  rustfmt is an external program: a parameter `fmt` of the model (the correspondence run gives the model a table built
  with the real rustfmt).  The only assumption: `KeepsHeaderLines k fmt` – formatting an output of the helper leaves its
  header lines (the common header and the line with the CRC-32 of the prefix) as they are.  `stepF … false` *is* `step`
  (`stepF_false`), so the theorems above are the no-formatting instance. -/

theorem C18_format_failure_preserves (k : Consts) (compile : List UInt8 → Option (List UInt8))
    (fmt : List UInt8 → List UInt8) (format : Bool) (fs : FS)
    (h : (stepF k compile fmt format fs .run).2 = .err) : (stepF k compile fmt format fs .run).1 = fs :=
  C18F_failure_preserves h

/-- a formatted destination produced by a successful run is left untouched by the next run – whatever rustfmt did to
    the prefix text.  (False for the code before fix F8: `C18_format_untouched_was_false`.) -/
theorem C18_format_untouched (k : Consts) (compile : List UInt8 → Option (List UInt8)) (fmt : List UInt8 → List UInt8)
    (hk : KeepsHeaderLines k fmt) (fs fs' : FS) (w : Bool)
    (h : stepF k compile fmt true fs .run = (fs', .ok w)) :
    stepF k compile fmt true fs' .run = (fs', .ok false) :=
  C18F_untouched hk.keepsHeader h

/-- freshness over histories with formatting (partial in the same sense as `C18_fresh_partial`; with formatting *any* two
    prefixes with equal CRC-32 are indistinguishable, not only an initial-segment pair: `C18F_prefix_collision_witness`) -/
theorem C18_format_fresh_partial (k : Consts) (compile : List UInt8 → Option (List UInt8)) (fmt : List UInt8 → List UInt8)
    (hk : KeepsHeaderLines k fmt) (fs0 : FS) (ops : List Op) (fs' : FS) (w : Bool) (h0 : fs0.dest = none)
    (hcG : CrcInjOn (· ∈ grammarTexts fs0 ops)) (hcP : CrcInjOn (· ∈ prefixTexts fs0 ops))
    (h : stepF k compile fmt true (runOpsF k compile fmt true fs0 ops) .run = (fs', .ok w)) :
    ∃ g code, fs'.grammar = some g ∧ compile g = some code ∧ fs'.dest = some (fmt (output k g fs'.pfx code)) :=
  C18F_fresh_partial_history hk.keepsHeader h0 hcG hcP h

/-- the behaviour before fix F8 (compare header lines *and prefix text* also when formatting): with a formatter that
    keeps the header lines but collapses the double blank in the prefix `use  a;`, two consecutive runs both rewrite -/
theorem C18_format_untouched_was_false : ¬ C18F_old_untouched_statement := by
  intro h
  obtain ⟨hk, h1, h2⟩ := C18F_old_untouched_fails
  have h3 := h _ _ _ hk _ _ _ h1
  rw [h2] at h3
  cases h3

/-- non-vacuity of the assumption: a formatter that is not the identity and keeps the header lines -/
example : KeepsHeaderLines Witness.k0 FmtWitness.fmtSq := FmtWitness.keeps_fmtSq

/-! ### directory mode (`Compile::directory`, BuildDir.lean, Proofs/BuildDirProofs.lean)

  The recursive walk compiles every `.ebnf` file next to itself with the single-file routine, in the order `read_dir`
  yields them (the list order: an environment parameter), and stops at the first error.  Every theorem above is about
  one file; these lift them to the walk. -/

/-- a successful walk gave every file exactly its own single-file run – no file's outcome depends on another file – and
    every one of these runs succeeded (so `C18_fresh_partial` applies to each file separately) -/
theorem C18_dir_success_is_per_file (k : Consts) (compile : List UInt8 → Option (List UInt8)) (fs : List FS) (w : Bool)
    (h : dirResult (runDir k compile fs) = .ok w) :
    runDir k compile fs = fs.map (runEntry k compile) ∧ ∀ f ∈ fs, ∃ w', (runEntry k compile f).2 = .ok w' := by
  rcases runDir_cases k compile fs with ⟨_, e⟩ | ⟨he, _⟩
  · exact e
  · rw [he] at h; cases h

/-- a failing walk: the files before the first failing one got their own (successful) run; the failing file and all
    files after it are byte for byte as before -/
theorem C18_dir_failure_preserves (k : Consts) (compile : List UInt8 → Option (List UInt8)) (fs : List FS)
    (h : dirResult (runDir k compile fs) = .err) :
    ∃ pre f post, fs = pre ++ f :: post ∧ (∀ x ∈ pre, ∃ w, (runEntry k compile x).2 = .ok w) ∧
      (runEntry k compile f).2 = .err ∧
      runDir k compile fs = pre.map (runEntry k compile) ++ (f, .err) :: post.map (fun x => (x, Out.none)) := by
  rcases runDir_cases k compile fs with ⟨⟨w, hw⟩, _⟩ | ⟨_, e⟩
  · rw [hw] at h; cases h
  · exact e

/-- the walk succeeds exactly when every file's own run succeeds -/
theorem C18_dir_ok_iff (k : Consts) (compile : List UInt8 → Option (List UInt8)) (fs : List FS) :
    (∃ w, dirResult (runDir k compile fs) = .ok w) ↔ ∀ f ∈ fs, ∃ w', (runEntry k compile f).2 = .ok w' := by
  rcases runDir_cases k compile fs with ⟨hw, _, e2⟩ | ⟨he, pre, f, post, e1, _, e3, _⟩
  · exact ⟨fun _ => e2, fun _ => hw⟩
  · refine ⟨fun ⟨w, h⟩ => (by rw [he] at h; cases h), fun hall => ?_⟩
    obtain ⟨w', hw⟩ := hall f (by rw [e1]; exact List.mem_append_right _ List.mem_cons_self)
    rw [e3] at hw; cases hw

/-- on success the outcome does not depend on the order in which the operating system lists the directory -/
theorem C18_dir_order_irrelevant (k : Consts) (compile : List UInt8 → Option (List UInt8)) (fs fs' : List FS)
    (hp : fs.Perm fs') (w : Bool) (h : dirResult (runDir k compile fs) = .ok w) :
    (∃ w', dirResult (runDir k compile fs') = .ok w') ∧ (runDir k compile fs).Perm (runDir k compile fs') := by
  have hall := (C18_dir_success_is_per_file k compile fs w h).2
  have hex : ∃ w', dirResult (runDir k compile fs') = .ok w' :=
    (C18_dir_ok_iff k compile fs').mpr (fun f hf => hall f (hp.mem_iff.mpr hf))
  obtain ⟨w', hw'⟩ := hex
  refine ⟨⟨w', hw'⟩, ?_⟩
  rw [(C18_dir_success_is_per_file k compile fs w h).1, (C18_dir_success_is_per_file k compile fs' w' hw').1]
  exact hp.map _

/-- a walk directly after a successful walk rewrites no file -/
theorem C18_dir_untouched (k : Consts) (compile : List UInt8 → Option (List UInt8)) (fs : List FS) (w : Bool)
    (h : dirResult (runDir k compile fs) = .ok w) :
    runDir k compile ((runDir k compile fs).map (·.1)) = (runDir k compile fs).map (fun e => (e.1, .ok false)) := by
  obtain ⟨e1, e2⟩ := C18_dir_success_is_per_file k compile fs w h
  rw [e1]
  clear e1 h
  induction fs with
  | nil => rfl
  | cons f rest ih =>
    obtain ⟨w1, h1⟩ := e2 f (by simp)
    have := runEntry_again (Prod.ext rfl h1)
    simp only [List.map_cons, runDir, this]
    rw [ih (fun x hx => e2 x (List.mem_cons_of_mem _ hx))]

/-- with an error the order **does** matter (which files were compiled before the walk stopped): a checked instance -/
theorem C18_dir_order_matters_on_failure :
    ∃ (k : Consts) (compile : List UInt8 → Option (List UInt8)) (a b : FS),
      dirResult (runDir k compile [a, b]) = .err ∧ dirResult (runDir k compile [b, a]) = .err ∧
      ((runDir k compile [a, b]).map (·.1)) ≠ [a, b] ∧ ((runDir k compile [b, a]).map (·.1)) = [b, a] :=
  ⟨⟨str "0.7.0", str "2024"⟩, fun g => if g == str "A=" then none else some (str "/*code*/" ++ g),
   ⟨some (str "A='a';"), none, []⟩, ⟨some (str "A="), none, []⟩, by decide +kernel⟩

/-! ## non-vacuity -/
namespace C18_nv

/-! instance: grammar texts `A='a';`, `A='b';` and the uncompilable `A=`, prefixes `//p⏎` and `//q⏎`, a compiler that
    fails exactly on `A=`; the history
    run · edit grammar · run · change prefix · run · delete destination · edit to the bad grammar · run (fails) ·
    edit back – followed by the final run -/
def k0 : Consts := ⟨str "0.7.0", str "2024"⟩
def gA : List UInt8 := str "A='a';"
def gB : List UInt8 := str "A='b';"
def gBad : List UInt8 := str "A="
def pP : List UInt8 := str "//p\n"
def pQ : List UInt8 := str "//q\n"
def comp (g : List UInt8) : Option (List UInt8) := if g == gBad then none else some (str "/*code*/" ++ g)

def fs0 : FS := ⟨some gA, none, pP⟩
def ops : List Op :=
  [.run, .editGrammar (some gB), .run, .setPrefix pQ, .run, .deleteDest, .editGrammar (some gBad), .run,
   .editGrammar (some gB)]

/-- the hypotheses of `C18_fresh_partial` -/
theorem hcG : CrcInjOn (· ∈ grammarTexts fs0 ops) := crcInjOn_of_list _ (by decide +kernel)
theorem hcP : CrcInjOn (· ∈ prefixTexts fs0 ops) := crcInjOn_of_list _ (by decide +kernel)
example : grammarTexts fs0 ops = [gA, gB, gBad, gB] ∧ prefixTexts fs0 ops = [pP, pQ] := ⟨rfl, rfl⟩

/-! what the history below is followed with (`runOpsF_run`, `runOnceF_fresh` … in `Proofs/BuildProofs.lean`): the compiler
    on the three grammar texts, and the CRC-32 values that differ -/
theorem comp_gA : comp gA = some (str "/*code*/" ++ gA) := if_neg (by simp only [gA, gBad, str_eq]; decide +kernel)
theorem comp_gB : comp gB = some (str "/*code*/" ++ gB) := if_neg (by simp only [gB, gBad, str_eq]; decide +kernel)
theorem comp_gBad : comp gBad = none := if_pos (beq_self_eq_true _)
theorem crc_gB_gA : crc32 gB ≠ crc32 gA := by simp only [gA, gB, str_eq]; decide +kernel
theorem crc_gBad_gA : crc32 gBad ≠ crc32 gA := by simp only [gA, gBad, str_eq]; decide +kernel
theorem crc_pQ_pP : crc32 pQ ≠ crc32 pP := by simp only [pP, pQ, str_eq]; decide +kernel

theorem run1 :
    runOnceF k0 comp id false fs0 = (⟨some gA, some (output k0 gA pP (str "/*code*/" ++ gA)), pP⟩, .ok true) :=
  runOnceF_fresh comp_gA

/-- the history up to the change of the prefix -/
theorem ops_eq (ops : List Op) :
    runOpsF k0 comp id false fs0 (.run :: .editGrammar (some gB) :: .run :: .setPrefix pQ :: ops) =
      runOpsF k0 comp id false ⟨some gB, some (output k0 gB pP (str "/*code*/" ++ gB)), pQ⟩ ops := by
  rw [runOpsF_run run1, runOpsF_edit, runOpsF_run (runOnceF_changed (format := false)
      (mt fullHeader_prefix_output.mp fun h => crc_gB_gA h.1) comp_gB), runOpsF_setPrefix]

/-- the state before the final run (the failing run left no destination behind), and the final run -/
def fsPre : FS := runOps k0 comp fs0 ops
def fsEnd : FS := ⟨some gB, some (output k0 gB pQ (str "/*code*/" ++ gB)), pQ⟩
theorem pre_eq : fsPre = ⟨some gB, none, pQ⟩ := by
  rw [fsPre, ← runOpsF_false_apply id, ops, ops_eq, runOpsF_run (runOnceF_changed (format := false)
      (mt fullHeader_prefix_output.mp fun h => crc_pQ_pP h.2.1) comp_gB), runOpsF_deleteDest, runOpsF_edit,
    runOpsF_run (runOnceF_fresh_err comp_gBad), runOpsF_edit, runOpsF]
theorem last_run : Build.step k0 comp (runOps k0 comp fs0 ops) .run = (fsEnd, .ok true) := by
  rw [← fsPre, pre_eq, ← stepF_false id, stepF_run]
  exact runOnceF_fresh comp_gB

example : ∃ g code, fsEnd.grammar = some g ∧ comp g = some code ∧ fsEnd.dest = some (output k0 g fsEnd.pfx code) :=
  C18_fresh_partial k0 comp fs0 ops fsEnd true rfl hcG hcP last_run

/-- `C18_failure_preserves`: the bad grammar with an existing (stale) destination – the run fails, nothing changes -/
def fsStale : FS := runOps k0 comp fs0 [.run, .editGrammar (some gBad)]
theorem stale_eq : runOps k0 comp fs0 [.run, .editGrammar (some gBad)] =
    ⟨some gBad, some (output k0 gA pP (str "/*code*/" ++ gA)), pP⟩ := by
  rw [← runOpsF_false_apply id, runOpsF_run run1, runOpsF_edit, runOpsF]
theorem stale_fails : (Build.step k0 comp fsStale .run).2 = .err := by
  rw [fsStale, stale_eq, ← stepF_false id, stepF_run,
    runOnceF_changed_err (format := false) (mt fullHeader_prefix_output.mp fun h => crc_gBad_gA h.1) comp_gBad]
example : (Build.step k0 comp fsStale .run).1 = fsStale := C18_failure_preserves k0 comp fsStale stale_fails
example : fsStale.dest = some (output k0 gA pP (str "/*code*/" ++ gA)) := by rw [fsStale, stale_eq]

/-- intermediate steps of the same history: after the first run the destination is the compilation of `A='a';` with
    prefix `//p`; the run after the prefix change rewrites; the run on the bad grammar fails -/
example : (runOps k0 comp fs0 [.run]).dest = some (output k0 gA pP (str "/*code*/" ++ gA)) ∧
    (Build.step k0 comp (runOps k0 comp fs0 [.run, .editGrammar (some gB), .run, .setPrefix pQ]) .run).2 = .ok true ∧
    (Build.step k0 comp (runOps k0 comp fs0 [.run, .editGrammar (some gBad)]) .run).2 = .err := by
  refine ⟨?_, ?_, ?_⟩
  · rw [← runOpsF_false_apply id, runOpsF_run run1, runOpsF]
  · rw [step_runOps id, ops_eq, runOpsF, stepF_run,
      runOnceF_changed (format := false) (mt fullHeader_prefix_output.mp fun h => crc_pQ_pP h.2.1) comp_gB]
  · rw [← fsStale, stale_fails]

/-- `C18_untouched`: the run after `last_run` leaves `fsEnd` alone and reports "not written" -/
example : Build.step k0 comp fsEnd .run = (fsEnd, .ok false) := C18_untouched k0 comp _ fsEnd true last_run
/-- `C18_rewrite_only_when_needed` at `fsEnd` -/
example : Build.step k0 comp fsEnd .run = (fsEnd, .ok false) :=
  C18_rewrite_only_when_needed k0 comp fsEnd gB (str "/*code*/" ++ gB) rfl rfl

/-! directory mode: three files (one already up to date, one new, one without an `.ebnf` file), then the same with the bad
    grammar in the middle -/
def dA : FS := fsEnd
def dB : FS := ⟨some gA, none, pQ⟩
def dGone : FS := ⟨none, some (str "left over"), pQ⟩
def dBad : FS := ⟨some gBad, some (str "old"), pQ⟩

theorem entry_dA : runEntry k0 comp dA = (dA, .ok false) := by
  rw [dA, fsEnd, runEntry_mk_some, ← runOnceF_false id]
  exact runOnceF_stale (fullHeader_prefix_output.mpr ⟨rfl, rfl, List.prefix_append _ _⟩)
theorem entry_dB : runEntry k0 comp dB = (⟨some gA, some (output k0 gA pQ (str "/*code*/" ++ gA)), pQ⟩, .ok true) := by
  rw [dB, runEntry_mk_some, ← runOnceF_false id]
  exact runOnceF_fresh comp_gA
theorem entry_dBad : runEntry k0 comp dBad = (dBad, .err) := by
  rw [dBad, runEntry_mk_some]
  exact runOnce_invalid rfl (not_upToDate_of_short rfl (by decide +kernel)) comp_gBad
theorem dir_ok_eq : runDir k0 comp [dA, dB, dGone] =
    [(dA, .ok false), (⟨some gA, some (output k0 gA pQ (str "/*code*/" ++ gA)), pQ⟩, .ok true), (dGone, .ok false)] := by
  rw [runDir_cons_ok entry_dA, runDir_cons_ok entry_dB, runDir_cons_ok (w := false) rfl, runDir]
theorem dir_err_eq : runDir k0 comp [dB, dBad, dA] =
    [(⟨some gA, some (output k0 gA pQ (str "/*code*/" ++ gA)), pQ⟩, .ok true), (dBad, .err), (dA, .none)] := by
  rw [runDir_cons_ok entry_dB, runDir_cons_err entry_dBad]; rfl

theorem dir_ok : dirResult (runDir k0 comp [dA, dB, dGone]) = .ok true := by rw [dir_ok_eq]; rfl
example : runDir k0 comp [dA, dB, dGone] = [dA, dB, dGone].map (runEntry k0 comp) :=
  (C18_dir_success_is_per_file k0 comp _ true dir_ok).1
example : (runDir k0 comp [dA, dB, dGone]).map (·.2) = [.ok false, .ok true, .ok false] := by rw [dir_ok_eq]; rfl
example : (runDir k0 comp [dGone, dB, dA]).Perm (runDir k0 comp [dA, dB, dGone]) :=
  ((C18_dir_order_irrelevant k0 comp [dA, dB, dGone] [dGone, dB, dA] (List.reverse_perm [dGone, dB, dA]).symm.symm true dir_ok).2).symm
example : runDir k0 comp ((runDir k0 comp [dA, dB, dGone]).map (·.1)) =
    (runDir k0 comp [dA, dB, dGone]).map (fun e => (e.1, .ok false)) := C18_dir_untouched k0 comp _ true dir_ok
theorem dir_err : dirResult (runDir k0 comp [dB, dBad, dA]) = .err := by rw [dir_err_eq]; rfl
example : (runDir k0 comp [dB, dBad, dA]).map (·.2) = [.ok true, .err, .none] ∧
    ((runDir k0 comp [dB, dBad, dA]).map (·.1)).drop 1 = [dBad, dA] := by rw [dir_err_eq]; exact ⟨rfl, rfl⟩
example : ∃ pre f post, [dB, dBad, dA] = pre ++ f :: post ∧ (runEntry k0 comp f).2 = .err := by
  obtain ⟨pre, f, post, h1, _, h3, _⟩ := C18_dir_failure_preserves k0 comp _ dir_err
  exact ⟨pre, f, post, h1, h3⟩

end C18_nv

end Peg.Props
