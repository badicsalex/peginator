import PegVerif.Proofs.CompileProofs
import PegVerif.Proofs.NonVacuity
/-
  C15 – the grammar compiler always answers: code, or an error – and says so.
  `Compile.errors` (model of the restriction checks of `CodegenGrammar::generate_code`, after fixes
  F4/F5) is a total function; every documented restriction makes it non-empty.  Totality of the
  *real* generator (no panic, no stack overflow, no hang) and the exit status of the tools are
  observed by gendiff / routes in isolated processes.
-/
namespace Peg.Props
open Peg Peg.Compile

theorem C15_accepts_iff (g : Grammar) (st : Settings) (fuel : Nat) : accepts g st fuel = true ↔ errors g st fuel = [] :=
  List.isEmpty_iff

theorem C15_string_export {g st fuel} {r : Rule} (hr : RuleEntry.rule r ∈ g.rules)
    (h : r.flags.exported = true ∧ r.flags.string = true) : accepts g st fuel = false :=
  reject_of_entry hr (by simp [entryErrors, ruleErrors, h.1, h.2])

theorem C15_skipping_whitespace {g st fuel} {r : Rule} (hr : RuleEntry.rule r ∈ g.rules)
    (h : r.name = "Whitespace" ∧ r.flags.noSkipWs = false) : accepts g st fuel = false :=
  reject_of_entry hr (by simp [entryErrors, ruleErrors, h.1, h.2])

theorem C15_memoize_without_clone {g st fuel} {r : Rule} (hr : RuleEntry.rule r ∈ g.rules)
    (h : r.flags.memoize = true ∧ "Clone" ∉ st.derives) : accepts g st fuel = false :=
  reject_of_entry hr (by simp [entryErrors, ruleErrors, h.1, h.2])

/-- `@leftrec` clones its results out of the cache exactly like `@memoize` (fix F11) -/
theorem C15_leftrec_without_clone {g st fuel} {r : Rule} (hr : RuleEntry.rule r ∈ g.rules)
    (h : r.flags.leftRecursive = true ∧ "Clone" ∉ st.derives) : accepts g st fuel = false :=
  reject_of_entry hr (by simp [entryErrors, ruleErrors, h.1, h.2])

/-- `crate` cannot name a rule (it is only legal as a segment of a function path; fix F11) -/
theorem C15_rule_named_crate {g st fuel} {r : Rule} (hr : RuleEntry.rule r ∈ g.rules) (h : r.name = "crate") :
    accepts g st fuel = false := by
  have : nameErr "crate" ≠ [] := by decide +kernel
  exact reject_of_entry hr (by simp [entryErrors, ruleErrors, h, this])

/-- fields inside lookaheads, including a missing / @char / @extern rule: `get_fields` fails -/
theorem C15_field_analysis_error {g st fuel} {r : Rule} {m : String} (hr : RuleEntry.rule r ∈ g.rules)
    (h : getFields g fuel r.definition = .err m) : accepts g st fuel = false :=
  reject_of_entry hr (by simp [entryErrors, ruleErrors, h])

theorem C15_fields_in_lookahead {g : Grammar} {n : Nat} {b : Expr} {f : FieldDesc} {fs : List FieldDesc}
    (h : getFields g n b = .ok (f :: fs)) :
    getFields g (n+1) (.neg b) = .err "The body of negative lookaheads should not contain named fields" := by
  simp only [getFields, h]

theorem C15_include_missing {g : Grammar} {n : Nat} {name : String} (h : g.findRule name = none) :
    getFields g (n+1) (.incl name) = .err s!"Could not find normal (not char or extern) rule named {name}" := by
  simp only [getFields, h]

theorem C15_export_plain_override {g st fuel} {r : Rule} {f : FieldDesc} (hr : RuleEntry.rule r ∈ g.rules)
    (hf : getFields g fuel r.definition = .ok [f]) (hn : f.name = "_override") (hs : r.flags.string = false)
    (h : f.types.length ≤ 1 ∧ r.flags.exported = true) : accepts g st fuel = false :=
  reject_of_entry hr (by simp [entryErrors, ruleErrors, hf, hn, hs, h.1, h.2])

theorem C15_position_plain_override {g st fuel} {r : Rule} {f : FieldDesc} (hr : RuleEntry.rule r ∈ g.rules)
    (hf : getFields g fuel r.definition = .ok [f]) (hn : f.name = "_override") (hs : r.flags.string = false)
    (h : f.types.length ≤ 1 ∧ r.flags.position = true) : accepts g st fuel = false :=
  reject_of_entry hr (by simp [entryErrors, ruleErrors, hf, hn, hs, h.1, h.2])

theorem C15_multitype_override_not_once {g st fuel} {r : Rule} {f : FieldDesc} (hr : RuleEntry.rule r ∈ g.rules)
    (hf : getFields g fuel r.definition = .ok [f]) (hn : f.name = "_override") (hs : r.flags.string = false)
    (h : f.types.length > 1 ∧ f.arity ≠ .one) : accepts g st fuel = false :=
  reject_of_entry hr (by simp [entryErrors, ruleErrors, hf, hn, hs, Nat.not_le.2 h.1, h.2])

theorem C15_mixing {g st fuel} {r : Rule} {fields : List FieldDesc} (hr : RuleEntry.rule r ∈ g.rules)
    (hf : getFields g fuel r.definition = .ok fields) (ho : hasField fields "_override" = true) (hs : r.flags.string = false)
    (hm : ¬ ((fields.length == 1 && fields.head?.map (·.name) == some "_override") = true)) :
    accepts g st fuel = false :=
  reject_of_entry hr (by simp only [entryErrors, ruleErrors, hf, hs, if_neg hm, ho]; simp)

/-- non-ASCII case-insensitive literals and invalid code points are errors of the body -/
theorem C15_literal_problem {g st fuel} {r : Rule} {m : String} (hr : RuleEntry.rule r ∈ g.rules)
    (h : m ∈ exprErrors g fuel r.definition) : accepts g st fuel = false := reject_exprError hr h

theorem C15_nonascii_insensitive (items : List StringItem) (lit : List Char) (h : decodeLit items = .ok lit)
    (hna : lit.all isAscii = false) :
    compileLit true items = .err "Case insensitive matching only works for ascii strings." := by
  simp [compileLit, h, hna]

theorem C15_invalid_code_point {ds : List Char} {n : Nat} (h : hexFold ds 0 = some n) (hc : charFromU32 n = none) :
    StringItem.toChar (.utf8 ds) = .err "Invalid utf-8 codepoint" := toChar_utf8_invalid h hc

/-- names that are not Rust identifiers (defect F4) and include cycles (defect F5) are errors -/
theorem C15_bad_rule_name {g st fuel} {r : Rule} (hr : RuleEntry.rule r ∈ g.rules) (h : identOk r.name = false) :
    accepts g st fuel = false :=
  reject_of_entry hr (by simp [entryErrors, ruleErrors, nameErr_ne_nil h])
theorem C15_bad_derive {g : Grammar} {st : Settings} {fuel : Nat} {d : String} (hd : d ∈ st.derives) (h : identOk d = false) :
    accepts g st fuel = false := by
  rw [accepts_false_iff]; unfold errors
  exact List.append_ne_nil_of_left_ne_nil (pathErrors_ne_nil hd h) _
theorem C15_include_cycle {g : Grammar} {st : Settings} {fuel : Nat} (h : hasIncludeCycle g fuel = true) :
    accepts g st fuel = false := by
  rw [accepts_false_iff]; unfold errors
  simp [h]

/-! ## non-vacuity -/
namespace C15_nv
open Peg.NV

/-! instances: the accepted running example `NV.env0.g`, and for each restriction the grammar
    `bad r = [r, Num, Word]` with one offending rule `r` in front -/
def bad (r : Rule) : Grammar := ⟨[.rule r, .rule (ruleNum []), .rule ruleWord]⟩
theorem mem (r : Rule) : RuleEntry.rule r ∈ (bad r).rules := List.mem_cons_self ..
def ov (t : String) : Expr := .field (some .override) false t

/-- the accepted case: `accepts` is not constantly `false` -/
example : accepts env0.g {} 10 = true ∧ errors env0.g {} 10 = [] := ⟨by decide +kernel, (C15_accepts_iff _ _ _).mp (by decide +kernel)⟩

def rStrExp : Rule := ⟨[.export, .string], "X", .choice [.seq [lit 'x']]⟩
example : accepts (bad rStrExp) {} 10 = false := C15_string_export (mem _) ⟨rfl, rfl⟩
example : errors (bad rStrExp) {} 10 = ["@string rules cannot be @export-ed"] := by decide +kernel

def rWs : Rule := ⟨[], "Whitespace", .choice [.seq [.closure (.choice [.seq [lit ' ']]) false]]⟩
example : accepts (bad rWs) {} 10 = false := C15_skipping_whitespace (mem _) ⟨rfl, rfl⟩
example : errors (bad rWs) {} 10 =
    ["The 'Whitespace' rule (and all called rules) must be @no_skip_ws to prevent recursion"] := by decide +kernel

def rMemo : Rule := ⟨[.memoize], "X", .choice [.seq [lit 'x']]⟩
example : accepts (bad rMemo) { derives := ["Debug"] } 10 = false :=
  C15_memoize_without_clone (mem _) ⟨rfl, by decide +kernel⟩
example : accepts (bad rMemo) {} 10 = true := by decide +kernel

/-- a named field inside a negative lookahead -/
def rLook : Rule := ⟨[], "X", .choice [.seq [.neg (fld "a" "Num"), lit 'x']]⟩
example : getFields (bad rLook) 8 (.neg (fld "a" "Num")) =
    .err "The body of negative lookaheads should not contain named fields" :=
  C15_fields_in_lookahead (g := bad rLook) (n := 7) (b := fld "a" "Num") (f := ⟨"a", [("Num", false)], .one⟩) (fs := []) rfl
example : accepts (bad rLook) {} 10 = false :=
  C15_field_analysis_error (m := "The body of negative lookaheads should not contain named fields") (mem _) rfl

/-- an include of a rule that does not exist -/
def rIncl : Rule := ⟨[], "X", .choice [.seq [.incl "Nope"]]⟩
example : getFields (bad rIncl) 8 (.incl "Nope") = .err s!"Could not find normal (not char or extern) rule named {"Nope"}" :=
  C15_include_missing (g := bad rIncl) (n := 7) rfl
example : accepts (bad rIncl) {} 10 = false := by decide +kernel

/-! override rules -/
def fOv (ts : List (String × Bool)) (a : Arity) : FieldDesc := ⟨"_override", ts, a⟩
def rOvExp : Rule := ⟨[.export], "X", .choice [.seq [ov "Num"]]⟩
example : accepts (bad rOvExp) {} 10 = false :=
  C15_export_plain_override (f := fOv [("Num", false)] .one) (mem _) rfl rfl rfl ⟨by decide +kernel, rfl⟩
def rOvPos : Rule := ⟨[.position], "X", .choice [.seq [ov "Num"]]⟩
example : accepts (bad rOvPos) {} 10 = false :=
  C15_position_plain_override (f := fOv [("Num", false)] .one) (mem _) rfl rfl rfl ⟨by decide +kernel, rfl⟩
/-- (without `@export` / `@position` the same rule is accepted) -/
example : accepts (bad ⟨[], "X", .choice [.seq [ov "Num"]]⟩) {} 10 = true := by decide +kernel
def rOvEnum : Rule := ⟨[], "X", .choice [.seq [.closure (.choice [.seq [ov "Num"], .seq [ov "Word"]]) false]]⟩
example : accepts (bad rOvEnum) {} 10 = false :=
  C15_multitype_override_not_once (f := fOv [("Num", false), ("Word", false)] .multiple) (mem _)
    (by with_unfolding_all rfl) rfl rfl ⟨by decide +kernel, by decide +kernel⟩
def rMix : Rule := ⟨[], "X", .choice [.seq [ov "Num", fld "a" "Word"]]⟩
example : accepts (bad rMix) {} 10 = false :=
  C15_mixing (fields := [fOv [("Num", false)] .one, ⟨"a", [("Word", false)], .one⟩]) (mem _) rfl (by decide +kernel) rfl (by decide +kernel)
example : errors (bad rMix) {} 10 = ["Mixing simple and override fields is not allowed."] := by decide +kernel

/-! literals -/
def rCI : Rule := ⟨[], "X", .choice [.seq [.lit true [.chr 'é']]]⟩
example : compileLit true [.chr 'é'] = .err "Case insensitive matching only works for ascii strings." :=
  C15_nonascii_insensitive [.chr 'é'] ['é'] rfl (by decide +kernel)
example : accepts (bad rCI) {} 10 = false :=
  C15_literal_problem (m := "Case insensitive matching only works for ascii strings.") (mem _) (by decide +kernel)
example : StringItem.toChar (.utf8 ['d', '8', '0', '0']) = .err "Invalid utf-8 codepoint" :=
  C15_invalid_code_point (n := 0xD800) (by decide +kernel) (by decide +kernel)
def rCP : Rule := ⟨[], "X", .choice [.seq [.lit false [.utf8 ['d', '8', '0', '0']]]]⟩
example : errors (bad rCP) {} 10 = ["Invalid utf-8 codepoint"] := by decide +kernel

/-! names and include cycles -/
def rSelf : Rule := ⟨[], "self", .choice [.seq [lit 'x']]⟩
example : accepts (bad rSelf) {} 10 = false := C15_bad_rule_name (mem _) (by decide +kernel)
example : accepts env0.g { derives := ["Debug", "Cl one"] } 10 = false :=
  C15_bad_derive (d := "Cl one") (by decide +kernel) (by decide +kernel)
def gCyc : Grammar := ⟨[.rule ⟨[], "A", .choice [.seq [lit 'a', .incl "B"]]⟩, .rule ⟨[], "B", .choice [.seq [.opt (.incl "A")]]⟩]⟩
theorem gCyc_cycle : hasIncludeCycle gCyc 10 = true := by decide +kernel
example : hasIncludeCycle gCyc 10 = true := gCyc_cycle
example : accepts gCyc {} 10 = false := C15_include_cycle gCyc_cycle
example : errors gCyc {} 10 = ["includes itself (directly or through other rules)"] := by decide +kernel

end C15_nv

end Peg.Props
