import PegVerif.Proofs.PathMatches
import PegVerif.Proofs.PathMatchesLR
import PegVerif.Proofs.NonVacuity
/-
  C02 – the returned tree holds exactly the matches on the successful path, in order.

  `PM.eval` is a second reference evaluator with *no field plumbing at all*: every construct returns
  the list of field matches on its successful path (sequence = concatenation in order, choice = the
  matches of the first alternative that succeeded, optional = body's or none, closure =
  concatenation over successful iterations, lookaheads/terminals/unnamed references = none, named
  field = one match carrying the type that matched), and a rule shapes the list once, at the end, by
  the rule-level arity (`shapeParsed`).  The generated plumbing (sequence bind/extend, choice result
  converters with defaults, optional defaults, closure extend, box/enum-wrap/Some/vec!) computes
  exactly that.
-/
namespace Peg.Props
open Peg

/-- **Main theorem** (expression level): the `Parsed` value a construct returns is the shaping of
    the matches on its successful path. -/
theorem C02_tree (env : Env) (u n : Nat) {ctx : Ctx} {e : Expr} {own : List FieldDesc} {s s' : St} {p : Parsed}
    (hn : (ctx.ruleFields.map (·.name)).Nodup) (hget : getFields env.g env.nf e = .ok own)
    (hsub : SubFields own ctx.ruleFields)
    (h : (Spec.eval env u n).expr ctx e s = some (.ok p s')) :
    ∃ ms, (PM.eval env u n).expr ctx e s = some (.ok ms s') ∧
      shapeParsed ctx.ruleFields (filterRuleFields ctx.ruleFields own) ms = some p ∧ PathOk own ms :=
  Peg.C02_tree env u n hn hget hsub h

/-- rule level, no hypothesis on the grammar: the two reference semantics return the same value -/
theorem C02_rule (env : Env) (u n : Nat) {name s r}
    (h : (Spec.eval env u n).rule name s = some r) : (PM.eval env u n).rule name s = some r :=
  Peg.C02_rule env u n h

/-- **The generated parser** (model, any memo set) returns the tree built from the matches on the
    successful path. -/
theorem C02_parse (env : Env) (hp : PureHooks env.hooks) (hnl : NoLeftrec env.g) (rule : String)
    (inp : List UInt8) (u n : Nat) {v : Val} {s : St} {g : Global}
    (h : parseAdvanced env n rule inp u = some (.ok v s, g)) :
    ∃ m, PM.parse env u m rule inp = some (.ok v (Spec.clr s)) :=
  Peg.C02_parse env hp hnl rule inp u n h

/-- abandoned lookaheads leave no trace: a lookahead contributes no match and consumes nothing
    (for alternatives, optionals and closure iterations see `PM.evalAlts_failed`, `PM.opt_failed`,
    `PM.evalLoop_last` in Proofs/PathMatches.lean) -/
theorem C02_lookahead_no_trace (env : Env) (rec : PM.PRec) (n : Nat) (ctx : Ctx) (b : Expr) (s s' : St)
    {ms : List FMatch} :
    (PM.stepExpr env rec n ctx (.neg b) s = some (.ok ms s') → ms = [] ∧ s' = s) ∧
    (PM.stepExpr env rec n ctx (.pos b) s = some (.ok ms s') → ms = [] ∧ s' = s) := by
  constructor
  · intro h
    rw [PM.stepExpr, PM.caseS_eq] at h
    rcases Spec.caseS_ok_inv h with ⟨_, _, _, h⟩ | h <;> cases h
    exact ⟨rfl, rfl⟩
  · intro h
    obtain ⟨_, _, _, h⟩ := Spec.bindS_ok h
    cases h
    exact ⟨rfl, rfl⟩

/-- a multi-type field carries the variant named after the rule that actually matched -/
theorem C02_variant {RF : List FieldDesc} {m : FMatch} {f : FieldDesc} {w : Val}
    (hf : findField RF m.key = some f) (hlen : f.types.length > 1) (h : wrapMatch RF m = some w) :
    ∃ x, w = .variant m.typ x ∧ (x = m.val ∨ x = .boxed m.val) := by
  obtain ⟨x, hx, rfl⟩ := wrapMatch_inv hf h
  exact ⟨x, if_pos hlen, hx⟩

/-- `@string` rules yield exactly the input slice they consumed -/
theorem C02_string {env : Env} {u : Nat} {rec : Spec.SRec} {r0 : Rule} {s s' : St} {v : Val}
    (hstr : r0.flags.string = true) (h : Spec.ruleBody env u rec r0 s = some (.ok v s')) :
    v = (if r0.flags.position then
          Val.node r0.name [("string", .str (s.sliceUntil s'))] (some (s.off, s'.off))
        else .str (s.sliceUntil s')) := by
  unfold Spec.ruleBody at h
  split at h
  · simp only [hstr, if_true] at h
    obtain ⟨_, s1, _, h⟩ := Spec.bindS_ok h
    obtain ⟨rfl, rfl⟩ := Spec.runChecks_ok _ h
    rfl
  · cases h

/-- `char` yields the character consumed -/
theorem C02_char {env : Env} {u : Nat} {rec : Spec.SRec} {s s' : St} {v : Val}
    (hno : env.g.find "char" = none) (h : Spec.stepRule env u rec "char" s = some (.ok v s')) :
    ∃ c, decodeHead s.rest = some c ∧ v = .chr c ∧ s'.off = s.off + c.utf8Size := by
  unfold Spec.stepRule at h
  simp only [hno, beq_self_eq_true, if_true, Option.some.injEq] at h
  unfold parseChar at h
  cases hd : decodeHead s.rest with
  | none => rw [hd] at h; cases h
  | some c =>
    rw [hd] at h
    simp only [St.advance] at h
    split at h
    · cases h
    · simp only [Res.map, Spec.abs, Res.ok.injEq] at h
      exact ⟨c, rfl, h.1.symm, by rw [← h.2]; rfl⟩

/-- override rules yield the overridden value itself (shaped by the arity of the `@:` field) -/
theorem C02_override {env : Env} {u : Nat} {rec : PM.PRec} {r0 : Rule} {f : FieldDesc} {s s' : St} {v : Val}
    (hget : getFields env.g env.nf r0.definition = .ok [f]) (hname : f.name = "_override")
    (hstr : r0.flags.string = false) (h : PM.ruleBody env u rec r0 s = some (.ok v s')) :
    ∃ ms, rec.expr ⟨env.settings.skipWhitespace && !r0.flags.noSkipWs, [f]⟩ r0.definition s = some (.ok ms s') ∧
      shapeField [f] f (ms.filter (·.key == "_override")) = some v := by
  unfold PM.ruleBody at h
  simp only [hget, hstr, Bool.false_eq_true, if_false, List.length_cons, List.length_nil,
    List.head?_cons, Option.map_some, hname, beq_self_eq_true, Bool.and_self, if_true] at h
  obtain ⟨ms, s1, hx, h⟩ := Spec.bindS_ok h
  split at h
  · rename_i w hw
    obtain ⟨rfl, rfl⟩ := Spec.runChecks_ok _ h
    refine ⟨ms, hx, ?_⟩
    simp only [shapeParsed] at hw
    cases hsf : shapeField [f] f (flt ms f.name) with
    | none => rw [hsf] at hw; cases hw
    | some x =>
      rw [hsf] at hw
      simp only [Option.bind_some, Parsed.get_cons, hname, if_true, Option.some.injEq] at hw
      rw [← hw, ← hsf, hname]; rfl
  · cases h

/-- the same for grammars with `@leftrec` rules in the class `LROk` (PathMatchesLR.lean): `PMLR` is the path-match
    reference with the growth meaning of `@leftrec`; the returned tree is, node by node, the shaping of the matches on
    the successful path (through the last growth iteration of every left-recursive rule) -/
theorem C02_parse_leftrec (env : Env) (hp : PureHooks env.hooks) (hok : LROk env.g env.settings)
    (rule : String) (inp : List UInt8) (u n : Nat) {v : Val} {s : St} {g : Global}
    (h : parseAdvanced env n rule inp u = some (.ok v s, g)) :
    ∃ m, PMLR.parse env u m rule inp = some (.ok v (Spec.clr s)) :=
  C02_parse_resLR env hp hok rule inp u n h

/-! ## non-vacuity -/
namespace C02_nv
open Peg.NV Peg.PathExamples

/-! instance 1: `PathExamples.exEnv` (Proofs/PathMatches.lean)
    `X = 'x'; Y = 'y'; R = (a:X b:Y 'z' | a:X) {c:Y} [d:X 'q'] !(X 'q') {v:X | v:Y};` on `"xyyxyx"`:
    an abandoned alternative, an abandoned optional, a lookahead, two closures, a two-type field -/

def RF : List FieldDesc := ownFields exEnv (.incl "R")
def ctxR : Ctx := ⟨false, RF⟩

example : RF = [⟨"a", [("X", false)], .one⟩, ⟨"b", [("Y", false)], .optional⟩, ⟨"c", [("Y", false)], .multiple⟩,
     ⟨"d", [("X", false)], .optional⟩, ⟨"v", [("X", false), ("Y", false)], .multiple⟩] := by decide +kernel

/-- the hypotheses of `C02_tree` -/
theorem hget : getFields exEnv.g exEnv.nf (.incl "R") = .ok RF := getFields_ok_of (by decide +kernel)
theorem hn : (ctxR.ruleFields.map (·.name)).Nodup := by decide +kernel
example : PureHooks exEnv.hooks ∧ NoLeftrec exEnv.g := ⟨pure_default, exEnv_noLeftrec⟩

/-- `C02_tree` instantiated: the reference run succeeds at offset 6 and its `Parsed` is the shaping of the path
    matches -/
example : ∃ p s', (Spec.eval exEnv 0 8).expr ctxR (.incl "R") (St.new exInp) = some (.ok p s') ∧ s'.off = 6 ∧
    ∃ ms, (PM.eval exEnv 0 8).expr ctxR (.incl "R") (St.new exInp) = some (.ok ms s') ∧
      shapeParsed RF (filterRuleFields RF RF) ms = some p ∧ PathOk RF ms := by
  obtain ⟨p, s', h, hp⟩ := sok_of (o := (Spec.eval exEnv 0 8).expr ctxR (.incl "R") (St.new exInp))
    (fun _ s => s.off == 6) (by decide +kernel)
  exact ⟨p, s', h, by simpa using hp, C02_tree exEnv 0 8 hn hget (SubFields.refl _) h⟩

/-- the matches in question (six of them; the abandoned `a:X b:Y`, `d:X` and the `X` in the lookahead are absent) -/
example : (match (PM.eval exEnv 0 8).expr ctxR (.incl "R") (St.new exInp) with
    | some (.ok ms s) => ms.map (fun m => (m.key, m.typ)) == [("a", "X"), ("c", "Y"), ("c", "Y"), ("v", "X"), ("v", "Y"), ("v", "X")]
        && s.off == 6
    | _ => false) = true := by decide +kernel

/-- `C02_rule` and `C02_parse` instantiated -/
example : ∃ v s, (Spec.eval exEnv 0 8).rule "R" (St.new exInp) = some (.ok v s) ∧
    (PM.eval exEnv 0 8).rule "R" (St.new exInp) = some (.ok v s) ∧
    v.render = "R { a: X, b: None, c: [Y, Y], d: None, v: [X(X), Y(Y), X(X)] }" := by
  exact ⟨_, _, spec_run, C02_rule exEnv 0 8 spec_run, by decide +kernel⟩

example : ∃ v s g, parseAdvanced exEnv 8 "R" exInp 0 = some (.ok v s, g) ∧ s.off = 6 ∧
    ∃ m, PM.parse exEnv 0 m "R" exInp = some (.ok v (Spec.clr s)) := by
  obtain ⟨v, s, g, h, hp⟩ := ok_of (o := parseAdvanced exEnv 8 "R" exInp 0) (fun _ s _ => s.off == 6) (by decide +kernel)
  exact ⟨v, s, g, h, by simpa using hp, C02_parse exEnv pure_default exEnv_noLeftrec "R" exInp 0 8 h⟩

/-- `C02_lookahead_no_trace`: the lookahead `!(X 'q')` of `R` at offset 3 (`"xyx"` remains: `X` matches, `'q'` does
    not, so the lookahead succeeds) over the real evaluator -/
def la : Expr := .seq [.field none false "X", lx 'q']
def s3 : St := ⟨exInp.drop 3, 3, none⟩
example : ∃ ms s', PM.stepExpr exEnv (PM.eval exEnv 0 5) 5 ctxR (.neg la) s3 = some (.ok ms s') ∧ ms = [] ∧ s' = s3 := by
  obtain ⟨ms, s', h, -⟩ := sok_of (o := PM.stepExpr exEnv (PM.eval exEnv 0 5) 5 ctxR (.neg la) s3)
    (fun _ _ => true) (by decide +kernel)
  exact ⟨ms, s', h, (C02_lookahead_no_trace exEnv (PM.eval exEnv 0 5) 5 ctxR la s3 s').1 h⟩

/-- `C02_variant`: the match `v:Y` of the two-type field `v` -/
example : ∃ f w, findField RF "v" = some f ∧ f.types.length > 1 ∧ wrapMatch RF ⟨"v", "Y", Y⟩ = some w ∧
    ∃ x, w = .variant "Y" x ∧ (x = Y ∨ x = .boxed Y) := by
  have hf : findField RF "v" = some ⟨"v", [("X", false), ("Y", false)], .multiple⟩ := by decide +kernel
  have hw : wrapMatch RF ⟨"v", "Y", Y⟩ = some (.variant "Y" Y) := by
    unfold wrapMatch; rw [hf]; rfl
  exact ⟨_, _, hf, by decide, hw, C02_variant (m := ⟨"v", "Y", Y⟩) hf (by decide) hw⟩

/-! instance 2: `NV` grammar with `@position` on `Num`, plus an override rule `Item = @:Num | @:Word` -/

def envP : Env := envWith [] [.position] default

/-- `C02_string`: `@string @position Num` on `"12+"` yields the slice `"12"` and the range 0..2 -/
example : ∃ v s', Spec.ruleBody envP 0 (Spec.eval envP 0 10) (ruleNum [.position]) (St.new [49, 50, 43]) = some (.ok v s') ∧
    s'.off = 2 ∧ v = Val.node "Num" [("string", .str [49, 50])] (some (0, 2)) := by
  obtain ⟨v, s', h, hp⟩ := sok_of (o := Spec.ruleBody envP 0 (Spec.eval envP 0 10) (ruleNum [.position]) (St.new [49, 50, 43]))
    (fun _ s => s.off == 2 && s.rest == [43]) (by decide +kernel)
  have hv := C02_string (r0 := ruleNum [.position]) rfl h
  simp only [Bool.and_eq_true, beq_iff_eq] at hp
  refine ⟨v, s', h, hp.1, ?_⟩
  rw [hv]
  simp [ruleNum, Rule.flags, RuleFlags.add, St.sliceUntil, St.new, hp.1]

/-- `C02_char`: the builtin `char` on `"éx"` -/
example : ∃ v s', Spec.stepRule envP 0 (Spec.eval envP 0 1) "char" (St.new (enc ['é', 'x'])) = some (.ok v s') ∧
    ∃ c, decodeHead (enc ['é', 'x']) = some c ∧ v = .chr c ∧ s'.off = 0 + c.utf8Size := by
  obtain ⟨v, s', h, -⟩ := sok_of (o := Spec.stepRule envP 0 (Spec.eval envP 0 1) "char" (St.new (enc ['é', 'x'])))
    (fun _ s => s.off == 2) (by decide +kernel)
  have := C02_char (by decide +kernel) h
  -- spelt out so that the unifier does not evaluate `enc` to see `(St.new inp).rest = inp`
  simp only [St.new] at this
  exact ⟨v, s', h, this⟩
example : decodeHead (enc ['é', 'x']) = some 'é' := by decide +kernel

/-- `C02_override`: `Item = @:Num | @:Word` (a two-type override field) on `"ab"` -/
def ruleItem : Rule := ⟨[], "Item", .choice [.seq [.field (some .override) false "Num"],
                                            .seq [.field (some .override) false "Word"]]⟩
def envO : Env := { g := ⟨[.rule ruleItem, .rule (ruleNum []), .rule ruleWord]⟩, settings := {}, hooks := default, nf := 10 }
def fO : FieldDesc := ⟨"_override", [("Num", false), ("Word", false)], .one⟩
theorem hgetO : getFields envO.g envO.nf ruleItem.definition = .ok [fO] := by
  have := getFields_ok_of (env := envO) (e := ruleItem.definition) (by decide +kernel)
  rw [this]; congr 1; decide +kernel
example : ∃ v s', PM.ruleBody envO 0 (PM.eval envO 0 14) ruleItem (St.new [97, 98]) = some (.ok v s') ∧
    v.render = "Word(S\"6162\")" ∧
    ∃ ms, (PM.eval envO 0 14).expr ⟨true, [fO]⟩ ruleItem.definition (St.new [97, 98]) = some (.ok ms s') ∧
      shapeField [fO] fO (ms.filter (·.key == "_override")) = some v := by
  obtain ⟨v, s', h, hp⟩ := sok_of (o := PM.ruleBody envO 0 (PM.eval envO 0 14) ruleItem (St.new [97, 98]))
    (fun v _ => v.render == "Word(S\"6162\")") (by decide +kernel)
  have := C02_override hgetO rfl rfl h
  exact ⟨v, s', h, by simpa using hp, this⟩

end C02_nv

end Peg.Props
