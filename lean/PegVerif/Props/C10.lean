import PegVerif.Proofs.Attempts
import PegVerif.Proofs.BoundaryEval
import PegVerif.Proofs.Sentinel
import PegVerif.Proofs.NonVacuity
/-
  C10 – a failed parse reports a real failure offset – the furthest one without memo.

  `Att.eval` is the reference semantics instrumented with the chronological list of *counted* failed
  attempts (terminals, checks, externs, lookaheads as a whole; attempts inside a lookahead only when
  the lookahead as a whole made the parse fail there; forgetting the list gives `Spec.eval` exactly:
  `C10_attempt_semantics_is_spec`).  For grammars without `@memoize`/`@leftrec` the error the generated parser reports
  is the last attempt at the furthest offset of that list.  With memoization the statement is only
  "a boundary offset inside the input" (C04) – the stronger claims are shown false by two concrete
  grammars in Proofs/Attempts.lean (a cache hit replays the stored state with its old furthest
  error), which is what the property itself allows.
-/
namespace Peg.Props
open Peg

/-- the reported error is an attempt that really failed during that parse -/
theorem C10_is_attempt (env : Env) (hp : PureHooks env.hooks) (hnm : NoMemoG env.g) (n : Nat) (rule : String)
    (inp : List UInt8) (u : Nat) {e : PErr} {g' : Global} (h : parseAdvanced env n rule inp u = some (.err e, g')) :
    ∃ atts, Att.parse env u n rule inp = some (.err Spec.noErr, atts) ∧ e ∈ atts :=
  Peg.C10_is_attempt env hp hnm n rule inp u h

/-- it is the furthest one … -/
theorem C10_furthest (env : Env) (hp : PureHooks env.hooks) (hnm : NoMemoG env.g) (n : Nat) (rule : String)
    (inp : List UInt8) (u : Nat) {e : PErr} {g' : Global} (h : parseAdvanced env n rule inp u = some (.err e, g')) :
    ∃ atts, Att.parse env u n rule inp = some (.err Spec.noErr, atts) ∧ e ∈ atts ∧ ∀ a ∈ atts, a.pos ≤ e.pos :=
  Peg.C10_furthest env hp hnm n rule inp u h

/-- … and, among the attempts at that offset, the last one -/
theorem C10_last_at_position (env : Env) (hp : PureHooks env.hooks) (hnm : NoMemoG env.g) (n : Nat) (rule : String)
    (inp : List UInt8) (u : Nat) {e : PErr} {g' : Global} (h : parseAdvanced env n rule inp u = some (.err e, g')) :
    ∃ atts pre post, Att.parse env u n rule inp = some (.err Spec.noErr, atts) ∧ atts = pre ++ e :: post ∧
      (∀ a ∈ pre, a.pos ≤ e.pos) ∧ (∀ a ∈ post, a.pos < e.pos) :=
  Peg.C10_last_at_position env hp hnm n rule inp u h

/-- never the internal sentinel (nor the catch-all `Other`) – for grammars without `@memoize` / `@leftrec`
    rules; with them: `C10_no_sentinel` below -/
theorem C10_no_sentinel_partial (env : Env) (hp : PureHooks env.hooks) (hnm : NoMemoG env.g) (n : Nat) (rule : String)
    (inp : List UInt8) (u : Nat) {e : PErr} {g' : Global} (h : parseAdvanced env n rule inp u = some (.err e, g')) :
    e.spec ≠ .leftRecursionSentinel ∧ e.spec ≠ .other := by
  obtain ⟨atts, hax, hmem⟩ := Peg.C10_is_attempt env hp hnm n rule inp u h
  exact Att.no_sentinel env u n rule (St.new inp) hax e hmem

/-- the instrumented semantics is the reference semantics with an extra output -/
theorem C10_attempt_semantics_is_spec (env : Env) (u n : Nat) (rule : String) (inp : List UInt8) :
    (Att.parse env u n rule inp).map (·.1) = Spec.parse env u n rule inp :=
  ((eval_decor (env := env) (u := u) n).rule _ _).1

/-- with or without memoization and left recursion: the reported position is a character boundary
    inside the input -/
theorem C10_boundary (env : Env) (cs : List Char) (hx : GoodExterns env.hooks) (rule : String) (n u : Nat)
    {e : PErr} {g : Global} (h : parseAdvanced env n rule (enc cs) u = some (.err e, g)) :
    IsBoundary cs e.pos ∧ e.pos ≤ (enc cs).length :=
  (C04_offsets_on_boundaries env cs hx rule n u h).2 e rfl

/-- **never the sentinel when left-recursive rules list their recursive alternatives first** – with `@leftrec`
    and `@memoize` rules present.  `RecFirst g settings lvl fuel` is a decidable syntactic check: in every
    `@leftrec` rule the positions that can make the body fail before input is consumed (last alternative of a
    choice, sequence parts, …) reach no `@leftrec`/`@memoize` rule of the same or a lower precedence level `lvl`;
    for `lvl = fun _ => 0` it says "the last alternative is a real base alternative" (`RecFirst.of_shape`); levels
    admit precedence towers `E = E '+' T | T; T = T '*' F | F`.  No purity hypothesis. -/
theorem C10_no_sentinel (env : Env) (lvl : String → Nat) (fuel : Nat)
    (hrf : RecFirst env.g env.settings lvl fuel = true)
    (n : Nat) (rule : String) (inp : List UInt8) (u : Nat) {e : PErr} {g' : Global}
    (h : parseAdvanced env n rule inp u = some (.err e, g')) : e.spec ≠ .leftRecursionSentinel :=
  Peg.C10_no_sentinel env lvl fuel hrf n rule inp u h

/-- the shape named by the property satisfies the check -/
theorem C10_recursive_first_shape (g : Grammar) (st : Settings) (lvl : String → Nat) (d m : Nat) (w : Bool)
    (recs bases : List Expr) (hne : bases ≠ [])
    (hrecs : ∀ a ∈ recs, SN.chk g st lvl d m w false a = true)
    (hbases : ∀ a ∈ bases, SN.chk g st lvl d m w true a = true) :
    SN.chk g st lvl (d + 1) m w true (.choice (recs ++ bases)) = true :=
  RecFirst.of_shape g st lvl d m w recs bases hne hrecs hbases

/-- non-vacuity: the calculator-style tower passes the check (with levels) and a failing input reports a real error -/
example : RecFirst SentinelExample.envT.g SentinelExample.envT.settings SentinelExample.lvlT 10 = true :=
  SentinelExample.recFirst_envT

/-- the side condition is needed: base alternative first ⇒ the sentinel is reported (`A = 'b' | A 'x'` on "c") -/
example : reportedErr SentinelExample.envBaseFirst 30 "A" [99] = some ⟨0, .leftRecursionSentinel⟩ :=
  SentinelExample.envBaseFirst_reported

/-- **finding K5**: a `@memoize` rule that takes part in the left recursion leaks the sentinel although the
    `@leftrec` rule lists its recursive alternative first and has a base alternative:
    `@export S = A 'w' | M; @leftrec A = M 'x' | 'b'; @memoize M = A 'y';` on "z" (model level here; the replay on
    the real generated parser is a known finding of the C10 check) -/
theorem C10_memoized_rule_in_cycle_leaks_sentinel :
    reportedErr SentinelExample.envMemo 30 "S" [122] = some ⟨0, .leftRecursionSentinel⟩ :=
  SentinelExample.envMemo_reported

/-! ## non-vacuity -/
namespace C10_nv
open Peg.NV

theorem noMemoG_of {g : Grammar} (h : noMemoB g = true) : NoMemoG g := by
  intro r hr
  have := (List.all_eq_true.mp h) _ hr
  simpa [noMemoB] using this

/-! instance: `@export S = first:Num {'+' rest:Num} $ | word:Word $; @string Num = {'0'..'9'}+; @string Word = {'a'..'z'}+;`
    on `"1+2?"`: failed attempts at three different offsets – `Word` at 0, a further digit at 1, and at the furthest
    offset 3 a digit, `'+'` and finally `$` -/
def ruleS10 : Rule :=
  ⟨[.export], "S",
    .choice [.seq [.field (some (.ident "first")) false "Num",
                   .closure (.choice [.seq [lit '+', .field (some (.ident "rest")) false "Num"]]) false, .eoi],
             .seq [.field (some (.ident "word")) false "Word", .eoi]]⟩
def env10 : Env := { g := ⟨[.rule ruleS10, .rule (ruleNum []), .rule ruleWord]⟩, settings := {}, hooks := default, nf := 10 }
def txt : List Char := ['1', '+', '2', '?']
def inp : List UInt8 := enc txt

theorem hp : PureHooks env10.hooks := pure_default
theorem hnm : NoMemoG env10.g := noMemoG_of (by decide +kernel)
theorem hx : GoodExterns env10.hooks := fun _ _ _ _ _ _ h => by cases h

/-- the attempts, chronologically, and the reported error: the LAST attempt at the FURTHEST offset -/
example : (Att.parse env10 0 20 "S" inp).map (·.2) =
      some [⟨1, .expectedCharacterRange '0' '9'⟩, ⟨3, .expectedCharacterRange '0' '9'⟩, ⟨3, .expectedCharacter '+'⟩,
            ⟨3, .expectedEoi⟩, ⟨0, .expectedCharacterRange 'a' 'z'⟩] ∧
    reported (parseAdvanced env10 20 "S" inp 0) = some ⟨3, .expectedEoi⟩ := by decide +kernel

/-- the failing run the examples below start from -/
theorem run10 : ∃ g', parseAdvanced env10 20 "S" inp 0 = some (.err ⟨3, .expectedEoi⟩, g') := by
  obtain ⟨e, g', h, he⟩ := err_of (o := parseAdvanced env10 20 "S" inp 0) (fun e _ => e == ⟨3, .expectedEoi⟩)
    (by decide +kernel)
  exact ⟨g', h.trans (by rw [eq_of_beq he])⟩

/-- the premise `parseAdvanced … = some (.err e, g')`, then the four theorems, `C10_boundary` and the projection -/
example : ∃ e g', parseAdvanced env10 20 "S" inp 0 = some (.err e, g') ∧ e = ⟨3, .expectedEoi⟩ ∧
    (∃ atts, Att.parse env10 0 20 "S" inp = some (.err Spec.noErr, atts) ∧ e ∈ atts ∧ ∀ a ∈ atts, a.pos ≤ e.pos) ∧
    (∃ atts pre post, Att.parse env10 0 20 "S" inp = some (.err Spec.noErr, atts) ∧ atts = pre ++ e :: post ∧
      (∀ a ∈ pre, a.pos ≤ e.pos) ∧ (∀ a ∈ post, a.pos < e.pos)) ∧
    (e.spec ≠ .leftRecursionSentinel ∧ e.spec ≠ .other) ∧
    (IsBoundary txt e.pos ∧ e.pos ≤ (enc txt).length) := by
  obtain ⟨g', h⟩ := run10
  exact ⟨_, g', h, rfl, C10_furthest env10 hp hnm 20 "S" inp 0 h, C10_last_at_position env10 hp hnm 20 "S" inp 0 h,
    C10_no_sentinel_partial env10 hp hnm 20 "S" inp 0 h, C10_boundary env10 txt hx "S" 20 0 h⟩
example : ∃ e g', parseAdvanced env10 20 "S" inp 0 = some (.err e, g') ∧
    ∃ atts, Att.parse env10 0 20 "S" inp = some (.err Spec.noErr, atts) ∧ e ∈ atts := by
  obtain ⟨g', h⟩ := run10
  exact ⟨_, g', h, C10_is_attempt env10 hp hnm 20 "S" inp 0 h⟩
example : (Att.parse env10 0 20 "S" inp).map (·.1) = Spec.parse env10 0 20 "S" inp :=
  C10_attempt_semantics_is_spec env10 0 20 "S" inp

/-! `C10_no_sentinel` on the precedence tower `SentinelExample.envT`
    (`@export @leftrec E = E '+' T | T; @leftrec T = T '*' F | F; F = Num | '(' E ')';`), failing input `"(1"` -/
open SentinelExample in
example : ∃ e g', parseAdvanced envT 60 "E" [40, 49] 0 = some (.err e, g') ∧ e = ⟨2, .expectedCharacter ')'⟩ ∧
    e.spec ≠ .leftRecursionSentinel := by
  obtain ⟨g', h⟩ := reportedErr_some envT_reported
  exact ⟨_, g', h, rfl, C10_no_sentinel envT lvlT 10 recFirst_envT 60 "E" [40, 49] 0 h⟩

/-! `C10_recursive_first_shape` at the rule `E` of `LeftRecExample.envE` (`recs` = the recursive alternative, `bases` =
    `b:Num`): its hypotheses hold and the concluded check evaluates to `true` -/
open LeftRecExample in
example : SN.chk envE.g envE.settings (fun _ => 0) (8 + 1) 0 true true ruleE.definition = true := by
  have := C10_recursive_first_shape envE.g envE.settings (fun _ => 0) 8 0 true
    [.seq [.field (some (.ident "l")) true "E", .lit false [.chr '+'], .field (some (.ident "r")) false "Num"]]
    [.seq [.field (some (.ident "b")) false "Num"]] (List.cons_ne_nil _ _)
    (fun a ha => by simp only [List.mem_singleton] at ha; subst ha; decide +kernel)
    (fun a ha => by simp only [List.mem_singleton] at ha; subst ha; decide +kernel)
  exact this

end C10_nv

end Peg.Props
