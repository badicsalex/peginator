import PegVerif.Proofs.RefineRule
import PegVerif.Proofs.Complete
import PegVerif.Proofs.Boundary
import PegVerif.Proofs.PegRelation
import PegVerif.Proofs.Termination
import PegVerif.Proofs.TerminationMeta
import PegVerif.Proofs.ImplBridge
import PegVerif.Proofs.RefineLR
import PegVerif.Proofs.CompleteLR
import PegVerif.Proofs.NonVacuity
/-
  C01 – generated parsers recognise exactly the PEG language of the grammar.

  `eval` is the model of the generated parser (Eval.lean, tied to the real generator + runtime by
  the `pegdiff` correspondence runs); `Spec.eval` is the PEG reading of the grammar (Spec.lean).
  Theorems here: the model's answer *is* the PEG answer (acceptance, tree, consumed bytes), for
  every grammar, exported rule and input; the PEG answer is unique; and the PEG laws the property
  sentence lists hold of `Spec` by construction (stated explicitly below).
  Scope of the proved statements: user functions that do not modify the user context; grammars
  without `@leftrec` rules, except in the section on `@leftrec` below (grammars of the class `LROk`;
  the property about `@leftrec` itself is C07).
-/
namespace Peg.Props
open Peg Spec

/-- **Soundness.** Whatever the generated parser (model) answers on an exported rule is the PEG
    answer: same success/failure, same tree, same number of consumed bytes (`abs` keeps exactly
    those and drops the error payload).  Holds for every set of memoized rules. -/
theorem C01_sound (env : Env) (hp : PureHooks env.hooks) (hnl : NoLeftrec env.g)
    (rule : String) (inp : List UInt8) (u n : Nat) {r g}
    (h : parseAdvanced env n rule inp u = some (r, g)) :
    ∃ m, Spec.parse env u m rule inp = some (abs r) :=
  parse_sound env hp hnl rule inp u n h

/-- the same for every sub-expression and start state: "every (sub)rule consumes exactly the number
    of bytes PEG semantics determines" -/
theorem C01_sound_expr (env : Env) (hp : PureHooks env.hooks) (hnl : NoLeftrec env.g) (inp : List UInt8)
    (u n : Nat) (ctx : Ctx) (e : Expr) (s : St) (g : Global) {r g'}
    (hw : WfSt inp s) (hg : Good env u inp g)
    (h : (eval env n).expr ctx e s g = some (r, g')) :
    ∃ m, (Spec.eval env u m).expr ctx e (clr s) = some (abs r) :=
  ((eval_ref (inp := inp) hp hnl n).expr ctx e s g r g' h hw hg).1.exists

/-- **The PEG answer is unique** (PEG semantics is deterministic): two fuels that both answer agree. -/
theorem C01_unique (env : Env) (u : Nat) (rule : String) (inp : List UInt8) {n m r r'}
    (h : Spec.parse env u n rule inp = some r) (h' : Spec.parse env u m rule inp = some r') : r = r' :=
  Spec.eval_rule_det env u h h'

/-- hence two runs of the generated parser (any fuels, any memo sets with the same reference
    semantics) agree on acceptance, tree and consumed bytes -/
theorem C01_deterministic (env : Env) (hp : PureHooks env.hooks) (hnl : NoLeftrec env.g)
    (rule : String) (inp : List UInt8) (u n n' : Nat) {r g r' g'}
    (h : parseAdvanced env n rule inp u = some (r, g))
    (h' : parseAdvanced env n' rule inp u = some (r', g')) : abs r = abs r' := by
  obtain ⟨m, hm⟩ := C01_sound env hp hnl rule inp u n h
  obtain ⟨m', hm'⟩ := C01_sound env hp hnl rule inp u n' h'
  exact C01_unique env u rule inp hm hm'

/-- **Completeness.** Whenever the PEG reading answers, the generated parser (model) answers too,
    with enough fuel, and abstracts to the same answer – in particular it terminates exactly when the
    PEG reading does ("the parse terminates" for every grammar/input on which PEG semantics is
    defined; the unconditional statement for well-formed grammars is `C01_terminates` below). -/
theorem C01_complete (env : Env) (hp : PureHooks env.hooks) (hnl : NoLeftrec env.g) (rule : String)
    (inp : List UInt8) (u m : Nat) {r} (h : Spec.parse env u m rule inp = some r) :
    ∃ n r' g', parseAdvanced env n rule inp u = some (r', g') ∧ abs r' = r :=
  parse_complete env hp hnl rule inp u m h

/-! ### termination on every input (Proofs/Termination.lean)

  `wfCheck g settings` is a decidable syntactic check (Ford's well-formedness): every referenced rule is
  defined, no include cycle, no closure over a nullable body (through rules and includes), and no rule
  reaches itself in left position (a rank that strictly decreases along every left-call edge exists) – under
  the whitespace-skipping settings, so a `Whitespace` rule that skips is rejected. It is conservative. -/

/-- **C01, "for every such grammar and input the parse terminates".** For a grammar that passes the
    well-formedness check, the PEG reading answers every (rule, input) – with any user functions, any
    user context. -/
theorem C01_terminates (env : Env) (u : Nat) (hwf : wfCheck env.g env.settings = true)
    (rule : String) (inp : List UInt8) : ∃ n r, Spec.parse env u n rule inp = some r :=
  Peg.C01_terminates env u hwf rule inp

/-- … and so does the generated parser (model), and its answer is the PEG answer. -/
theorem C01_terminates_impl (env : Env) (hp : PureHooks env.hooks) (hnl : NoLeftrec env.g)
    (hwf : wfCheck env.g env.settings = true) (rule : String) (inp : List UInt8) (u : Nat) :
    ∃ n r' g', parseAdvanced env n rule inp u = some (r', g') ∧
      ∃ m, Spec.parse env u m rule inp = some (abs r') :=
  Peg.C01_terminates_impl env hp hnl hwf rule inp u

/-- non-vacuity on the largest grammar at hand: peginator's own grammar (re-extracted from
    /repo/grammar.ebnf on every run) passes the check, hence the front end terminates on every text -/
theorem C01_metaGrammar_wellformed : wfCheck Extracted.metaGrammar {} = true := metaGrammar_wf

theorem C01_frontEnd_terminates (text : List UInt8) : ∃ n, FrontEnd.parse n text ≠ .other "out of fuel" :=
  frontEnd_terminates text

/-- the check is not vacuous in the other direction either: the textbook non-terminating grammars are rejected -/
example :
    let g : Grammar := ⟨[.rule { directives := [.export], name := "A", definition := .choice [.seq [.closure (.choice [.seq [.opt (.choice [.seq [.lit false [.chr 'x']]])]]) false]] }]⟩
    wfCheck g {} = false := by
  decide +kernel

/-! ### grammars WITH `@leftrec` rules (SpecLR.lean, Proofs/RefineLR.lean)

  `SpecLR.eval` is the reference semantics extended by the documented meaning of `@leftrec` (grow the match from
  the failing seed while it gets strictly further; nothing is remembered afterwards; `@memoize` is ignored).  It is
  fuel-monotone, deterministic, and *equal* to `Spec.eval` on grammars without `@leftrec` rules.  `LROk` is the
  decidable class the property's quantifier describes: left recursion goes through `@leftrec` rules only, and no
  other `@leftrec` or `@memoize` rule is reachable inside a cycle before input is consumed (precedence towers
  `E → T → F` are in the class). -/

/-- **soundness with left recursion**: the generated parser (model) computes the answer of the reference
    semantics with left recursion – acceptance, tree, consumed bytes – for every grammar of the class, any set of
    `@memoize` rules outside the cycles, every rule and input -/
theorem C01_sound_leftrec (env : Env) (hp : PureHooks env.hooks) (hok : LROk env.g env.settings)
    {n : Nat} {rule : String} {inp : List UInt8} {u : Nat} {r g}
    (h : parseAdvanced env n rule inp u = some (r, g)) :
    ∃ m, SpecLR.parse env u m rule inp = some (abs r) :=
  eval_refLR env hp hok h

/-- the extended reference semantics is deterministic … -/
theorem C01_leftrec_reference_unique (env : Env) (u : Nat) {n m : Nat} {rule inp r r'}
    (h : SpecLR.parse env u n rule inp = some r) (h' : SpecLR.parse env u m rule inp = some r') : r = r' :=
  SpecLR.parse_det env u h h'

/-- … and conservative: without `@leftrec` rules it *is* the PEG reading, at the same fuel -/
theorem C01_leftrec_reference_conservative {env : Env} (hnl : NoLeftrec env.g) (u fuel : Nat) (rule : String)
    (inp : List UInt8) : SpecLR.parse env u fuel rule inp = Spec.parse env u fuel rule inp :=
  SpecLR.parse_eq_spec hnl u fuel rule inp

/-- **completeness with left recursion**: whenever the growth semantics answers, the generated parser (model)
    answers too, with enough fuel, and abstracts to that answer -/
theorem C01_complete_leftrec (env : Env) (hp : PureHooks env.hooks) (hok : LROk env.g env.settings)
    (rule : String) (inp : List UInt8) (u m : Nat) {r} (h : SpecLR.parse env u m rule inp = some r) :
    ∃ n r' g', parseAdvanced env n rule inp u = some (r', g') ∧ abs r' = r :=
  parse_completeLR env hp hok rule inp u m h

/-- both directions: the model answers `r` (up to the error payload) iff the reference semantics with left recursion
    does; in particular the generated parser terminates exactly when that semantics is defined -/
theorem C01_iff_leftrec (env : Env) (hp : PureHooks env.hooks) (hok : LROk env.g env.settings)
    (rule : String) (inp : List UInt8) (u : Nat) (r : Res Val) :
    (∃ n r' g', parseAdvanced env n rule inp u = some (r', g') ∧ abs r' = r) ↔
      (∃ m, SpecLR.parse env u m rule inp = some r) :=
  ⟨fun ⟨_, _, _, h, ha⟩ => ha ▸ eval_refLR env hp hok h, fun ⟨m, h⟩ => parse_completeLR env hp hok rule inp u m h⟩

/-- non-vacuity: the calculator tower `E = l:*E '+' r:T | t:T; T = l:*T '*' r:F | f:F; F = '(' e:*E ')' | n:Num` is
    in the class -/
example : LROk LRExample.calcEnv.g LRExample.calcEnv.settings := LRExample.lrOk_calc

/-! ### terminals match exactly the characters the syntax reference says (at a character boundary
    of valid UTF-8: `At cs pre rem s` = consumed `pre`, remaining `rem`) -/

theorem C01_char_literal {cs pre rem : List Char} {s : St} (hat : At cs pre rem s) (c v : Char) (s' : St) :
    parseCharacterLiteral s c = .ok v s' ↔
      v = c ∧ ∃ r, rem = c :: r ∧ s' = { s with rest := enc r, off := s.off + c.utf8Size } ∧ At cs (pre ++ [c]) r s' :=
  parseCharacterLiteral_ok_iff hat

theorem C01_char_range {cs pre rem : List Char} {s : St} (hat : At cs pre rem s) (lo hi v : Char) (s' : St) :
    parseCharacterRange s lo hi = .ok v s' ↔
      ∃ r, rem = v :: r ∧ lo ≤ v ∧ v ≤ hi ∧ s' = { s with rest := enc r, off := s.off + v.utf8Size } ∧ At cs (pre ++ [v]) r s' :=
  parseCharacterRange_ok_iff hat

theorem C01_string_literal {cs pre rem : List Char} {s : St} (hat : At cs pre rem s) (l : List Char) (v : Unit) (s' : St) :
    parseStringLiteral s l = .ok v s' ↔
      ∃ t, rem = l ++ t ∧ s' = { s with rest := enc t, off := s.off + (enc l).length } ∧ At cs (pre ++ l) t s' :=
  parseStringLiteral_ok_iff hat

theorem C01_end_of_input {cs pre rem : List Char} {s : St} (hat : At cs pre rem s) (v : Unit) (s' : St) :
    parseEndOfInput s = .ok v s' ↔ rem = [] ∧ s' = s :=
  parseEndOfInput_ok_iff hat

theorem C01_insensitive_literal {cs pre rem : List Char} {s : St} (hat : At cs pre rem s) (l : List Char)
    (hl : l.all isAscii = true) (v : Unit) (s' : St) :
    parseStringLiteralInsensitive s l = .ok v s' ↔
      ∃ p t, rem = p ++ t ∧ p.map charToAsciiLower = l ∧ s' = { s with rest := enc t, off := s.off + (enc p).length } ∧
        At cs (pre ++ p) t s' :=
  parseStringLiteralInsensitive_ok_iff hl hat

/-! ### the reference semantics is the textbook big-step PEG relation `Sem` (Proofs/PegRelation.lean:
    one constructor per rule of the semantics, readable in minutes) -/

/-- the functional reference semantics and the relation coincide (no hypotheses) -/
theorem C01_relation_iff_reference {env : Env} {u : Nat} {name : String} {s : St} {r : Res Val} :
    Sem env u (.rule name) s r ↔ ∃ n, (Spec.eval env u n).rule name s = some r :=
  Sem.rule_iff

/-- **C01, relational form.** The generated parser (model) answers `r` on (rule, input) iff `r` is
    derivable in the PEG relation – "succeeds exactly when that rule, read as a parsing expression
    grammar applied at offset 0, matches", with the tree and the consumed bytes. -/
theorem C01_exactly_the_peg_language (env : Env) (hp : PureHooks env.hooks) (hnl : NoLeftrec env.g)
    (rule : String) (inp : List UInt8) (u : Nat) {r : Res Val} :
    Sem env u (.rule rule) (St.new inp) r ↔ ∃ n r' g', parseAdvanced env n rule inp u = some (r', g') ∧ abs r' = r := by
  constructor
  · intro h
    obtain ⟨m, hm⟩ := Spec.eval_complete_rule h
    exact parse_complete env hp hnl rule inp u m hm
  · rintro ⟨n, r', g', h, rfl⟩
    obtain ⟨m, hm⟩ := parse_sound env hp hnl rule inp u n h
    exact Spec.eval_sound_rule hm

/-- the relation is deterministic -/
theorem C01_relation_deterministic {env : Env} {u : Nat} {j : Judg} {s : St} {r r' : Res j.Out}
    (h : Sem env u j s r) (h' : Sem env u j s r') : r = r' := Sem.det h h'

/-! ### the PEG laws of the reference semantics, one by one -/

/-- sequences match left to right and fail as soon as a part fails (two-part case) -/
theorem C01_seq_fail_first (env : Env) (rec : SRec) (n : Nat) (ctx : Ctx) (a b : Expr) (rest : List Expr) (s : St)
    (h : rec.expr ctx a s = some (.err noErr)) :
    Spec.stepExpr env rec n ctx (.seq (a :: b :: rest)) s = some (.err noErr) := by
  simp [Spec.stepExpr, Spec.evalSeq, h, bindS]

/-- ordered choice commits to the first alternative that matches: later alternatives are not tried -/
theorem C01_choice_commits (env : Env) (rec : SRec) (n : Nat) (ctx : Ctx) (a b : Expr) (rest : List Expr) (s : St)
    {r s'} (h : rec.expr ctx a s = some (.ok r s')) :
    ∃ out, Spec.stepExpr env rec n ctx (.choice (a :: b :: rest)) s = some out ∧
      (∀ p s'', out = .ok p s'' → s'' = s') := by
  simp only [Spec.stepExpr, Spec.evalAlts, h]
  split
  · exact ⟨_, rfl, fun p s'' h => by cases h; rfl⟩
  · exact ⟨_, rfl, fun p s'' h => by cases h⟩

/-- an alternative is tried only after every earlier one failed, from the same position -/
theorem C01_choice_next (env : Env) (rec : SRec) (ctx : Ctx) (fields) (a : Expr) (rest : List Expr) (s : St)
    (h : rec.expr ctx a s = some (.err noErr)) :
    Spec.evalAlts env rec ctx fields (a :: rest) s = Spec.evalAlts env rec ctx fields rest s := by
  rw [Spec.evalAlts_step, h]; rfl

/-- optionals never fail -/
theorem C01_opt_never_fails (env : Env) (rec : SRec) (n : Nat) (ctx : Ctx) (b : Expr) (s : St) {out}
    (h : Spec.stepExpr env rec n ctx (.opt b) s = some out) : out ≠ .err noErr := by
  simp only [Spec.stepExpr] at h
  split at h
  · cases h
  · cases h; intro h; cases h
  · split at h <;> (cases h; intro h; cases h)
  · cases h; intro h; cases h

/-- lookaheads consume nothing: a successful `!e` / `&e` returns the state it started from -/
theorem C01_lookahead_consumes_nothing (env : Env) (rec : SRec) (n : Nat) (ctx : Ctx) (b : Expr) (s : St) {p s'} :
    (Spec.stepExpr env rec n ctx (.neg b) s = some (.ok p s') → s' = s) ∧
    (Spec.stepExpr env rec n ctx (.pos b) s = some (.ok p s') → s' = s) := by
  constructor
  · intro h
    simp only [Spec.stepExpr] at h
    split at h <;> cases h
    rfl
  · intro h
    simp only [Spec.stepExpr, bindS] at h
    split at h <;> cases h
    rfl

/-- closures are greedy and never give characters back: the loop stops only when the body fails,
    and then keeps everything matched so far -/
theorem C01_closure_stops_on_failure (body : St → SOut Parsed) (fields) (k iters : Nat) (acc : Parsed) (s : St)
    (h : body s = some (.err noErr)) :
    Spec.evalLoop body fields (k + 1) iters acc s = some (.ok (iters, acc) s) := by
  rw [Spec.evalLoop_step, h]; rfl

theorem C01_closure_continues_on_success (body : St → SOut Parsed) (fields) (k iters : Nat) (acc acc' : Parsed)
    (s s' : St) (r : Parsed) (h : body s = some (.ok r s')) (he : extendAll fields acc r = .ok acc') :
    Spec.evalLoop body fields (k + 1) iters acc s = Spec.evalLoop body fields k (iters + 1) acc' s' := by
  rw [Spec.evalLoop_step, h]; simp only [caseS, he]

/-- trailing input is accepted: the exported entry point does not look at what follows the match
    (concretely: `A = 'a';` accepts "ab" and stops after one byte) -/
example :
    let g : Grammar := ⟨[.rule { directives := [.export], name := "A", definition := .choice [.seq [.lit false [.chr 'a']]] }]⟩
    let env : Env := { g := g, settings := {}, hooks := default, nf := 10 }
    (match parseAdvanced env 10 "A" [97, 98] 0 with
     | some (.ok _ s, _) => s.off == 1 && s.rest == [98]
     | _ => false) = true := by decide +kernel

/-! ## non-vacuity -/
namespace C01_nv
open Peg.NV

/-! instance: `NV.env0` = `@export S = first:Num {'+' rest:Num} | word:Word; @string Num = {'0'..'9'}+;
    @string Word = {'a'..'z'}+;` (skipping on), input `"1 + 23"` -/

theorem env0_wf : wfCheck env0.g env0.settings = true := by decide +kernel

/-- the hypotheses of `C01_sound` … `C01_exactly_the_peg_language` hold together -/
example : PureHooks env0.hooks ∧ NoLeftrec env0.g ∧ wfCheck env0.g env0.settings = true :=
  ⟨env0_pure, env0_noLeftrec, env0_wf⟩

theorem run_some : (parseAdvanced env0 20 "S" inp1 0).isSome = true := env0_run
theorem spec_some : (Spec.parse env0 0 20 "S" inp1).isSome = true := env0_spec

/-- the run the theorems talk about: the closure runs twice (second time the body fails), whitespace is
    skipped before `+` and `23`, the first alternative wins -/
example : show' (parseAdvanced env0 20 "S" inp1 0) =
    some ("S { first: Some(S\"31\"), rest: [S\"3233\"], word: None }", 6) := by decide +kernel
/-- … and a failing one (`"?"`): both alternatives fail -/
example : (match parseAdvanced env0 20 "S" inp3 0 with | some (.err e, _) => e.pos == 0 | _ => false) = true := by
  decide +kernel

example : ∃ m, Spec.parse env0 0 m "S" inp1 = some (abs ((parseAdvanced env0 20 "S" inp1 0).get run_some).1) :=
  C01_sound env0 env0_pure env0_noLeftrec "S" inp1 0 20 (run_eq run_some)

/-- the reference answer it refers to is the same tree -/
example : (match Spec.parse env0 0 20 "S" inp1 with
    | some (.ok v s) => v.render == "S { first: Some(S\"31\"), rest: [S\"3233\"], word: None }" && s.off == 6 && s.far == none
    | _ => false) = true := by decide +kernel

/-- `C01_deterministic` on two different fuels -/
example : (parseAdvanced env0 25 "S" inp1 0).isSome = true :=
  Option.isSome_iff_exists.2 ⟨_, (eval_mono env0 (Nat.le_add_right 20 5)).rule _ _ _ _ (run_eq run_some)⟩
example (h25 : (parseAdvanced env0 25 "S" inp1 0).isSome = true) :
    abs ((parseAdvanced env0 20 "S" inp1 0).get run_some).1 = abs ((parseAdvanced env0 25 "S" inp1 0).get h25).1 :=
  C01_deterministic env0 env0_pure env0_noLeftrec "S" inp1 0 20 25 (run_eq run_some) (run_eq h25)

example : ∃ n r' g', parseAdvanced env0 n "S" inp1 0 = some (r', g') ∧
    abs r' = (Spec.parse env0 0 20 "S" inp1).get spec_some :=
  C01_complete env0 env0_pure env0_noLeftrec "S" inp1 0 20 (Option.some_get spec_some).symm

/-- `C01_terminates(_impl)` instantiated: every input, e.g. the failing one -/
example : ∃ n r, Spec.parse env0 0 n "S" inp3 = some r := C01_terminates env0 0 env0_wf "S" inp3
example : ∃ n r' g', parseAdvanced env0 n "S" inp3 0 = some (r', g') ∧ ∃ m, Spec.parse env0 0 m "S" inp3 = some (abs r') :=
  C01_terminates_impl env0 env0_pure env0_noLeftrec env0_wf "S" inp3 0

/-- `C01_sound_expr`: the closure `{'+' rest:Num}` of `S`, started in the middle of the input (offset 1, in front
    of `" + 23"`) with the fresh global -/
def ctxS : Ctx := ⟨true, ownFields env0 (ruleS []).definition⟩
def cl : Expr := .closure (.choice [.seq [lit '+', .field (some (.ident "rest")) false "Num"]]) false
def mid : St := ⟨inp1.drop 1, 1, none⟩
theorem mid_wf : WfSt inp1 mid := rfl
theorem cl_some : ((eval env0 20).expr ctxS cl mid (Global.init 0)).isSome = true := by decide +kernel
example : (match (eval env0 20).expr ctxS cl mid (Global.init 0) with
    | some (.ok p s, _) => (p.get "rest").map Val.render == some "[S\"3233\"]" && s.off == 6
    | _ => false) = true := by decide +kernel
example : ∃ m, (Spec.eval env0 0 m).expr ctxS cl (clr mid) =
    some (abs (((eval env0 20).expr ctxS cl mid (Global.init 0)).get cl_some).1) :=
  C01_sound_expr env0 env0_pure env0_noLeftrec inp1 0 20 ctxS cl mid (Global.init 0) mid_wf (good_init env0 0 inp1)
    (run_eq cl_some)

/-- the relational form: the PEG relation derives the abstraction of the model's answer -/
example : Sem env0 0 (.rule "S") (St.new inp1) (abs ((parseAdvanced env0 20 "S" inp1 0).get run_some).1) :=
  (C01_exactly_the_peg_language env0 env0_pure env0_noLeftrec "S" inp1 0).mpr ⟨20, _, _, run_eq run_some, rfl⟩

/-! terminals on a text with 1-, 2- and 3-byte characters: `"aé€"`, cursor after `a` -/
def cs : List Char := ['a', 'é', '€']
def s1 : St := ⟨enc ['é', '€'], 1, none⟩
theorem at1 : At cs ['a'] ['é', '€'] s1 := at_of (by decide +kernel)

example : ∃ s', parseCharacterLiteral s1 'é' = .ok 'é' s' ∧ s'.off = 3 ∧ At cs ['a', 'é'] ['€'] s' := by
  refine ⟨_, (C01_char_literal at1 'é' 'é' _).mpr ⟨rfl, ['€'], rfl, rfl, at_of (by decide +kernel)⟩, rfl, at_of (by decide +kernel)⟩
example : ∃ s', parseCharacterRange s1 'à' 'ÿ' = .ok 'é' s' ∧ s'.off = 3 :=
  ⟨_, (C01_char_range at1 'à' 'ÿ' 'é' _).mpr ⟨['€'], rfl, by decide +kernel, by decide +kernel, rfl, at_of (by decide +kernel)⟩, rfl⟩
example : ∃ s', parseStringLiteral s1 ['é', '€'] = .ok () s' ∧ s'.off = 6 ∧ s'.rest = [] :=
  ⟨_, (C01_string_literal at1 ['é', '€'] () _).mpr ⟨[], rfl, rfl, at_of (by decide +kernel)⟩, rfl, rfl⟩
/-- `$` does not match here (two characters remain), it matches at the end -/
example : ¬ ∃ s', parseEndOfInput s1 = .ok () s' := fun ⟨s', h⟩ => by
  have := ((C01_end_of_input at1 () s').mp h).1; exact absurd this (by decide +kernel)
example : parseEndOfInput ⟨[], 6, none⟩ = .ok () ⟨[], 6, none⟩ :=
  (C01_end_of_input (cs := cs) (pre := cs) (rem := []) (at_of (by decide +kernel)) () _).mpr ⟨rfl, rfl⟩
/-- case-insensitive literal `i"ab"` on `"AbC"` -/
example : ∃ s', parseStringLiteralInsensitive (St.new (enc ['A', 'b', 'C'])) ['a', 'b'] = .ok () s' ∧ s'.off = 2 :=
  ⟨_, (C01_insensitive_literal (cs := ['A', 'b', 'C']) (pre := []) (rem := ['A', 'b', 'C']) (at_of (by decide +kernel)) ['a', 'b']
        (by decide +kernel) () _).mpr ⟨['A', 'b'], ['C'], rfl, by decide +kernel, rfl, at_of (by decide +kernel)⟩, rfl⟩

/-! the PEG laws are statements about one step over an arbitrary `SRec`; instantiated at the real evaluator -/
def rec19 : SRec := Spec.eval env0 0 19

/-- `C01_choice_next` / `C01_seq_fail_first`: on `"abc"` the first alternative of `S` (starts with `Num`) fails -/
def alt1 : Expr := .seq [.field (some (.ident "first")) false "Num",
                   .closure (.choice [.seq [lit '+', .field (some (.ident "rest")) false "Num"]]) false]
def alt2 : Expr := .seq [.field (some (.ident "word")) false "Word"]
def sW : St := St.new [97, 98, 99]
theorem alt1_fails : rec19.expr ctxS alt1 sW = some (.err noErr) := serr_of (by decide +kernel)
example : Spec.evalAlts env0 rec19 ctxS ctxS.ruleFields [alt1, alt2] sW = Spec.evalAlts env0 rec19 ctxS ctxS.ruleFields [alt2] sW :=
  C01_choice_next env0 rec19 ctxS _ alt1 [alt2] sW alt1_fails
theorem first_fails : rec19.expr ctxS (.field (some (.ident "first")) false "Num") sW = some (.err noErr) := serr_of (by decide +kernel)
example : Spec.stepExpr env0 rec19 19 ctxS alt1 sW = some (.err noErr) :=
  C01_seq_fail_first env0 rec19 19 ctxS _ _ [] sW first_fails

/-- `C01_choice_commits`: on `"1 + 23"` the first alternative matches, the choice ends where it ended -/
example : ∃ out, Spec.stepExpr env0 rec19 19 ctxS (.choice [alt1, alt2]) (St.new inp1) = some out ∧
    (∀ p s'', out = .ok p s'' → s''.off = 6) := by
  obtain ⟨r, s', h, hp⟩ := sok_of (o := rec19.expr ctxS alt1 (St.new inp1)) (fun _ s => s.off == 6) (by decide +kernel)
  obtain ⟨out, ho, hs⟩ := C01_choice_commits env0 rec19 19 ctxS alt1 alt2 [] (St.new inp1) h
  exact ⟨out, ho, fun p s'' e => by rw [hs p s'' e]; simpa using hp⟩

/-- `C01_closure_stops_on_failure`: the body of the closure fails at the end of `"1 + 23"` -/
def bodyE : Expr := .choice [.seq [lit '+', .field (some (.ident "rest")) false "Num"]]
def sEnd : St := ⟨[], 6, none⟩
theorem body_fails : rec19.expr ctxS bodyE sEnd = some (.err noErr) := serr_of (by decide +kernel)
example (acc : Parsed) : Spec.evalLoop (rec19.expr ctxS bodyE) [] 3 1 acc sEnd = some (.ok (1, acc) sEnd) :=
  C01_closure_stops_on_failure _ _ 2 1 acc sEnd body_fails

end C01_nv

end Peg.Props
