import PegVerif.Proofs.PrettyProofs
/-
  C11 – pretty errors point at the line and column of the error position.

  Model: Pretty.lean (`PrettyParseError::from_parse_error` after fix F2), tied to the real code by
  the exhaustive `unitdiff` table (all texts over {a, é, \n, space} up to length 5/7 × all boundary
  positions, Display output compared byte for byte, plus an independent oracle computed from the
  wording of properties.jsonl C11).
-/
namespace Peg.Props
open Peg Peg.Pretty

/-- **Line and column.** For every text `pre ++ post` and the error position at the boundary
    between them: the reported line number is the number of newlines before the position (+1 when
    printed), the column is the number of characters since the last newline (+1 when printed), and
    the printed line is the text between the surrounding newlines. -/
theorem C11_linecol (pre post : List Char) :
    (locate (pre ++ post) (enc pre).length).lineno = pre.count '\n' ∧
    (locate (pre ++ post) (enc pre).length).col = (afterLastNewline pre).length ∧
    (locate (pre ++ post) (enc pre).length).line = afterLastNewline pre ++ post.takeWhile (· ≠ '\n') :=
  Pretty.C11_linecol pre post

/-- `afterLastNewline pre` really is the part of `pre` after its last newline -/
theorem C11_after_last_newline (pre : List Char) :
    ∃ before, pre = before ++ afterLastNewline pre ∧ '\n' ∉ afterLastNewline pre ∧
      (before = [] ∨ ∃ b, before = b ++ ['\n']) :=
  afterLastNewline_spec pre

/-- **Never panics / any position.** The conversion is total; a position that is not a boundary or
    lies beyond the text is clamped to the largest boundary not after it (so slicing is safe). -/
theorem C11_any_position (text : List Char) (pos : Nat) :
    ∃ pre post, text = pre ++ post ∧ (enc pre).length ≤ pos ∧
      (post = [] ∨ ∃ c r, post = c :: r ∧ pos < (enc pre).length + c.utf8Size) ∧
      locate text pos = locate text (enc pre).length := by
  cases hs : splitAtByte text pos with
  | mk a b =>
    obtain ⟨h1, h2, h3⟩ := splitAtByte_clamp text pos a b hs
    subst h1
    exact ⟨a, b, rfl, h2, h3, by simp only [locate, hs, splitAtByte_boundary]⟩

/-- **The caret is under the column**: the output ends with the printed line and, below it, the
    same four-character gutter followed by `col` spaces and the caret. -/
theorem C11_caret_under_column (e : PErr) (text : List Char) (file : Option String) :
    ∃ head, render e text file = head ++ "\n |  " ++ String.ofList (trimEnd (locate text e.pos).line) ++ "\n" ++
      (" |  " ++ String.ofList (List.replicate (locate text e.pos).col ' ') ++ "^\n") :=
  ⟨_, gutter_split _ _ _⟩

/-- the four inputs on which the code before fix F2 fails, and a multi-byte one -/
example : locate [] 0 = ⟨0, 0, []⟩ := by decide +kernel
example : locate "abc".toList 3 = ⟨0, 3, "abc".toList⟩ := by decide +kernel
example : locate "abc\n".toList 4 = ⟨1, 0, []⟩ := by decide +kernel
example : locate "a\nb".toList 2 = ⟨1, 0, ['b']⟩ := by decide +kernel
example : locate "é\nx€y".toList 7 = ⟨1, 2, "x€y".toList⟩ := by decide +kernel

/-! ## non-vacuity -/
namespace C11_nv

/-! all C11 theorems are unconditional; instantiated on the two-line multi-byte text `"é\nx€" ++ "y\nz"`
    (error position at byte 7 = after `é`, newline, `x`, `€`) -/
def pre : List Char := "é\nx€".toList
def post : List Char := "y\nz".toList

example : (locate (pre ++ post) (enc pre).length).lineno = pre.count '\n' ∧
    (locate (pre ++ post) (enc pre).length).col = (afterLastNewline pre).length ∧
    (locate (pre ++ post) (enc pre).length).line = afterLastNewline pre ++ post.takeWhile (· ≠ '\n') :=
  C11_linecol pre post
/-- … which says: line 1 (0-based), column 2, line text `x€y` -/
example : (enc pre).length = 7 ∧ pre.count '\n' = 1 ∧ afterLastNewline pre = "x€".toList ∧
    locate (pre ++ post) 7 = ⟨1, 2, "x€y".toList⟩ := by decide +kernel

example : ∃ before, pre = before ++ afterLastNewline pre ∧ '\n' ∉ afterLastNewline pre ∧
    (before = [] ∨ ∃ b, before = b ++ ['\n']) := C11_after_last_newline pre

/-- a position inside the 3-byte `€` (byte 5) and one beyond the text (byte 99) are clamped -/
example : ∃ p q, pre ++ post = p ++ q ∧ (enc p).length ≤ 5 ∧
    (q = [] ∨ ∃ c r, q = c :: r ∧ 5 < (enc p).length + c.utf8Size) ∧
    locate (pre ++ post) 5 = locate (pre ++ post) (enc p).length := C11_any_position (pre ++ post) 5
example : locate (pre ++ post) 5 = ⟨1, 1, "x€y".toList⟩ ∧ locate (pre ++ post) 99 = ⟨2, 1, "z".toList⟩ := by decide +kernel

/-- the rendered message for the error `⟨7, expected ';'⟩`, and the caret under column 2 -/
example : ∃ head, render ⟨7, .expectedCharacter ';'⟩ (pre ++ post) (some "g.ebnf") =
    head ++ "\n |  " ++ String.ofList (trimEnd (locate (pre ++ post) 7).line) ++ "\n" ++
      (" |  " ++ String.ofList (List.replicate (locate (pre ++ post) 7).col ' ') ++ "^\n") :=
  C11_caret_under_column ⟨7, .expectedCharacter ';'⟩ (pre ++ post) (some "g.ebnf")
example : render ⟨7, .expectedCharacter ';'⟩ (pre ++ post) (some "g.ebnf") =
    "expected character ';'\n--> g.ebnf:2:3\n |  \n |  x€y\n |    ^\n" := by decide +kernel

end C11_nv

end Peg.Props
