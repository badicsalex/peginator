import PegVerif.Proofs.Trace
import PegVerif.Proofs.NonVacuity
/-
  C19 – tracing a parse changes nothing but the log.

  In the model the tracer callbacks (`print_trace_start`, `print_trace_result`,
  `print_informative`) are recorded in `Global.log`; a parse with the no-op tracer is the same run
  with the log ignored.  The correspondence run ties the model's callback sequence to the sequence a
  custom `ParseTracer` sees on the real generated code.
-/
namespace Peg.Props
open Peg

/-- **Erasure.** No step of the evaluator reads the log: started from any initial log, the parse
    returns the same result, the same cache and the same user context. -/
theorem C19_result_independent_of_log (env : Env) (n : Nat) (rule : String) (inp : List UInt8) (u : Nat) (l0 : List Ev) :
    ((eval env n).rule rule (St.new inp) ((Global.init u).withLog l0)).map (fun p => (p.1, p.2.cache, p.2.uctx)) =
    (parseAdvanced env n rule inp u).map (fun p => (p.1, p.2.cache, p.2.uctx)) := by
  have := congrArg (Option.map fun p : Res Val × Global => (p.1, p.2.cache, p.2.uctx))
    (((eval_log env n).rule rule (St.new inp)).irrelevant (Global.init u) l0)
  simpa [Option.map_map, Function.comp_def, parseAdvanced] using this

/-- the log only grows, by prepending -/
theorem C19_log_only_grows {env : Env} {n : Nat} {name : String} {s : St} {g g' : Global} {r : Res Val}
    (h : (eval env n).rule name s g = some (r, g')) :
    ∃ l, g'.log = l ++ g.log ∧ ∀ l0, (eval env n).rule name s (g.withLog l0) = some (r, g'.withLog (l ++ l0)) :=
  ((eval_log env n).rule name s).erasure h

/-- **Balance.** The tracer events of a parse that does not panic are properly nested: every rule
    entry is followed by exactly one matching exit – also when the rule fails, is answered from the
    cache or is re-evaluated by the left-recursion loop – and on no prefix does the nesting depth
    underflow (the `usize` indentation counter of `IndentedTracer` cannot wrap). -/
theorem C19_nested {env : Env} {n : Nat} {rule : String} {inp : List UInt8} {u : Nat} {r : Res Val} {g' : Global}
    (h : parseAdvanced env n rule inp u = some (r, g')) :
    ((∀ m, r ≠ .panic m) → Balanced g'.log.reverse) ∧
    (∀ p, p <+: g'.log.reverse → ∀ d, depthAfter p d ≠ none) :=
  C19_balanced h

/-- the bracket of one rule call: entry event with the rule's name and offset first, the exit event
    matching the returned result last, a balanced log in between -/
theorem C19_bracket {env : Env} {n : Nat} {name : String} {r0 : Rule} {s : St} {g g' : Global} {res : Res Val}
    (hf : env.g.find name = some (.rule r0)) (h : (eval env n).rule name s g = some (res, g')) :
    ∃ mid, g'.log = resultEv res ++ mid ++ .traceStart name s.off :: g.log ∧
      ((∀ m, res ≠ .panic m) → Balanced mid.reverse) := by
  obtain ⟨n, h'⟩ := eval_rule_normal hf h
  obtain ⟨mid, ⟨hl, _⟩, ht⟩ := normalRule_runs (eval_log env n) h'
  exact ⟨mid, by simpa [find_rule_name hf] using hl, ht.balanced_of⟩

/-! ## non-vacuity -/

/-- non-vacuity: a memoized rule reached twice (second time from the cache) and a failing rule; the
    recorded log is balanced and contains the cache-hit message between an entry and its exit -/
example :
    let a : Rule := ⟨[.memoize], "A", .choice [.seq [.lit false [.chr 'a']]]⟩
    let s : Rule := ⟨[.export], "S",
      .choice [.seq [.field none false "A", .lit false [.chr 'x']],
               .seq [.field none false "A", .lit false [.chr 'y']]]⟩
    let env : Env := { g := ⟨[.rule s, .rule a]⟩, settings := {}, hooks := default, nf := 10 }
    (match parseAdvanced env 20 "S" [97, 121] 0 with
     | some (.ok _ _, g) => depthAfter g.log.reverse 0 == some 0 && g.log.any (fun e => match e with | .info "Cache hit" => true | _ => false)
     | _ => false) = true := by decide +kernel

namespace C19_nv
open Peg.NV

/-! instance 1: `NV.envH [.memoize]` = `@export S = a:Num '+' b:Num | a:Num '-' b:Num | w:Word; @string @memoize Num = …`
    on `"1-2"` (success; `Num` entered three times inside `S`, once answered from the cache) and on `"1-"` (failure) -/
def envM : Env := envH [.memoize]
def profile (l : List Ev) : List (Option Nat) := (List.range (l.length + 1)).map fun i => depthAfter (l.reverse.take i) 0

theorem run_some : (parseAdvanced envM 20 "S" inpH 0).isSome = true := envHM_run
def gEnd : Global := ((parseAdvanced envM 20 "S" inpH 0).get run_some).2

example : ((∀ m, ((parseAdvanced envM 20 "S" inpH 0).get run_some).1 ≠ .panic m) → Balanced gEnd.log.reverse) ∧
    (∀ p, p <+: gEnd.log.reverse → ∀ d, depthAfter p d ≠ none) := C19_nested (run_eq run_some)
/-- the log of the successful run has 11 events with nesting depth 2 (entries of `Num` inside the entry of `S`),
    one of them the cache hit; the depth after each prefix: -/
example : profile gEnd.log = [some 0, some 1, some 2, some 2, some 1, some 2, some 2, some 1, some 2, some 2, some 1, some 0] ∧
    hits gEnd.log = 1 := by decide +kernel

/-- the failing run `"1-"` (13 events, rule exits with `traceErr`) -/
theorem fail_some : (parseAdvanced envM 20 "S" [49, 45] 0).isSome = true := by decide +kernel
example : ∀ p, p <+: ((parseAdvanced envM 20 "S" [49, 45] 0).get fail_some).2.log.reverse → ∀ d, depthAfter p d ≠ none :=
  (C19_nested (run_eq fail_some)).2
example : (match parseAdvanced envM 20 "S" [49, 45] 0 with
    | some (.err e, g) => e.pos == 2 && profile g.log == [some 0, some 1, some 2, some 2, some 1, some 2, some 2, some 1,
        some 2, some 2, some 1, some 2, some 1, some 0] &&
        (g.log.filter fun e => match e with | .traceErr _ => true | _ => false).length == 3
    | _ => false) = true := by decide +kernel

/-- `C19_result_independent_of_log`: the same parse started from a non-empty (even unbalanced) log `l0` -/
def l0 : List Ev := [.info "left over", .traceStart "X" 9]
example : ((eval envM 20).rule "S" (St.new inpH) ((Global.init 0).withLog l0)).map (fun p => (p.1, p.2.cache, p.2.uctx)) =
    (parseAdvanced envM 20 "S" inpH 0).map (fun p => (p.1, p.2.cache, p.2.uctx)) :=
  C19_result_independent_of_log envM 20 "S" inpH 0 l0
example : (match (eval envM 20).rule "S" (St.new inpH) ((Global.init 0).withLog l0) with
    | some (.ok _ s, g) => s.off == 3 && g.log.length == 11 + 2 && g.cache.length == 2 | _ => false) = true := by decide +kernel

/-- `C19_log_only_grows` for that run: the premise is a run from the non-empty log -/
theorem from_l0 : ((eval envM 20).rule "S" (St.new inpH) ((Global.init 0).withLog l0)).isSome = true := by decide +kernel
example : ∃ l, (((eval envM 20).rule "S" (St.new inpH) ((Global.init 0).withLog l0)).get from_l0).2.log = l ++ l0 ∧
    ∀ l1, (eval envM 20).rule "S" (St.new inpH) (((Global.init 0).withLog l0).withLog l1) =
      some ((((eval envM 20).rule "S" (St.new inpH) ((Global.init 0).withLog l0)).get from_l0).1,
            (((eval envM 20).rule "S" (St.new inpH) ((Global.init 0).withLog l0)).get from_l0).2.withLog (l ++ l1)) :=
  C19_log_only_grows (run_eq from_l0)

example : ∃ mid, gEnd.log = resultEv ((parseAdvanced envM 20 "S" inpH 0).get run_some).1 ++ mid ++ .traceStart "S" 0 :: [] ∧
    ((∀ m, ((parseAdvanced envM 20 "S" inpH 0).get run_some).1 ≠ .panic m) → Balanced mid.reverse) :=
  C19_bracket (env := envM) (r0 := ruleH) (s := St.new inpH) (g := Global.init 0) rfl (run_eq run_some)

/-! instance 2: a `@leftrec` rule, `@export @leftrec E = l:*E '+' r:Num | b:Num;` on `"1+2"` – the body is re-evaluated
    by the grow loop, each time inside the single entry of `E` -/
def ruleE : Rule := ⟨[.export, .leftrec], "E",
  .choice [.seq [.field (some (.ident "l")) true "E", lit '+', fld "r" "Num"], .seq [fld "b" "Num"]]⟩
def envE : Env := { g := ⟨[.rule ruleE, .rule (ruleNum [])]⟩, settings := {}, hooks := default, nf := 10 }
theorem lr_some : (parseAdvanced envE 30 "E" [49, 43, 50] 0).isSome = true := by decide +kernel
example : ((∀ m, ((parseAdvanced envE 30 "E" [49, 43, 50] 0).get lr_some).1 ≠ .panic m) →
      Balanced ((parseAdvanced envE 30 "E" [49, 43, 50] 0).get lr_some).2.log.reverse) ∧
    (∀ p, p <+: ((parseAdvanced envE 30 "E" [49, 43, 50] 0).get lr_some).2.log.reverse → ∀ d, depthAfter p d ≠ none) :=
  C19_nested (run_eq lr_some)
example : (match parseAdvanced envE 30 "E" [49, 43, 50] 0 with
    | some (.ok _ s, g) => s.off == 3 && g.log.length == 23 && depthAfter g.log.reverse 0 == some 0 &&
        bodyEvals g.log "E" 0 == 3 &&
        (g.log.filter fun e => match e with | .info "Cache hit (left recursive)" => true | _ => false).length == 3
    | _ => false) = true := by decide +kernel

end C19_nv

end Peg.Props
