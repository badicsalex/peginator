import PegVerif.Proofs.Schedule
import PegVerif.Proofs.SharedState
/-
  C20 – parsing is a pure function of grammar and input, also across threads.
  In the model `parse_advanced` builds its global object (cache, tracer) from `Global.init` per call –
  transcribed from codegen/src/grammar/mod.rs.  That the real generated code and runtime have no
  other state rests on (a) a scan of the Rust sources re-extracted on every run (`no_shared_state`
  speaks of its table; the scan itself is trusted), and
  (b) the history / 16-thread re-execution runs of the check (tests of real interleavings).
-/
namespace Peg.Props
open Peg

/-- a call's result does not depend on the calls before it -/
theorem C20_history (env : Env) (fuel : Nat) (pre post : List Call) (c : Call) :
    (procRun env fuel none (pre ++ c :: post))[pre.length]? = some (parseAdvanced env fuel c.1 c.2.1 c.2.2) := by
  rw [procRun_eq_map]
  simp [runCall]

/-- parsing the same input again, after any other inputs, returns the same result -/
theorem C20_again (env : Env) (fuel : Nat) (pre mid post : List Call) (c : Call) :
    (procRun env fuel none (pre ++ c :: (mid ++ c :: post)))[pre.length]? =
    (procRun env fuel none (pre ++ c :: (mid ++ c :: post)))[pre.length + 1 + mid.length]? := by
  have h := C20_history env fuel (pre ++ c :: mid) post c
  rw [List.append_assoc, List.cons_append, List.length_append, List.length_cons, Nat.add_comm mid.length,
    ← Nat.add_assoc] at h
  rw [C20_history, h]

/-- every interleaving of the threads' calls gives every thread the results of its own sequential run -/
theorem C20_schedule (env : Env) (fuel : Nat) (progs : Nat → List Call) (is is' : List Nat)
    (h : Complete progs is) (h' : Complete progs is') (i : Nat) :
    proj i (runSchedule (parserStep env fuel) (fun _ => []) progs is).2 =
      (progs i).map (fun c => parseAdvanced env fuel c.1 c.2.1 c.2.2) ∧
    proj i (runSchedule (parserStep env fuel) (fun _ => []) progs is).2 =
      proj i (runSchedule (parserStep env fuel) (fun _ => []) progs is').2 :=
  Peg.C20_schedule env fuel progs is is' h h' i

/-- why the per-call cache matters: a cache kept across calls gives wrong results (concrete witness) -/
theorem C20_per_call_cache_is_necessary :
    ∃ (env : Env) (fuel : Nat) (rule : String) (inp1 inp2 : List UInt8) (r1 : Res Val) (g1 : Global),
      parseAdvanced env fuel rule inp1 0 = some (r1, g1) ∧
      (eval env fuel).rule rule (St.new inp2) { g1 with log := [] } ≠ parseAdvanced env fuel rule inp2 0 := by
  cases h1 : parseAdvanced CacheDemo.env 16 "S" CacheDemo.inp1 0 with
  | none => have := CacheDemo.first_call; rw [h1] at this; cases this
  | some p =>
    refine ⟨CacheDemo.env, 16, "S", CacheDemo.inp1, CacheDemo.inp2, p.1, p.2, h1, fun heq => ?_⟩
    have hg : CacheDemo.g1 = p.2 := by simp only [CacheDemo.g1, h1]
    have hx := CacheDemo.reused_is_x
    rw [CacheDemo.reused, hg, heq, ← CacheDemo.fresh, CacheDemo.fresh_not_x] at hx
    cases hx

/-- every line that the scan of the runtime and of the code templates reports (table re-extracted on
    every run) is an `unsafe` use around `ParseState::advance` in the runtime and names no static,
    thread-local or interior-mutable global; none lies in the generator -/
theorem C20_no_shared_state : Extracted.sharedState.all isKnownUnsafeAdvance = true := no_shared_state
theorem C20_templates_have_no_unsafe :
    Extracted.sharedState.all (fun s => !hasPrefix s "codegen/src") = true ∧
    Extracted.sharedState.all (fun s => !hasSub s "codegen/") = true :=
  ⟨List.all_eq_true.2 fun s hs => by rw [(sharedState_scan s hs).2.2.1]; rfl,
   List.all_eq_true.2 fun s hs => by rw [(sharedState_scan s hs).2.2.2]; rfl⟩

/-! ## non-vacuity -/
namespace C20_nv
open CacheDemo

/-! instance: `CacheDemo.env` = `@export S = a:A; @memoize @string A = 'x' | 'y';` (a grammar WITH a cache, so the
    statements are not about a stateless parser); the history `"x"`, `"y"`, `"x"`, `"z"` -/
def cx : Call := ("S", [120], 0)
def cy : Call := ("S", [121], 0)
def cz : Call := ("S", [122], 0)

/-- what one call returns: the byte of field `a`, or `none` for a failed parse -/
def obs : Out Val → Option (Option UInt8)
  | some (.ok (.node "S" [("a", .str [b])] none) _, _) => some (some b)
  | some (.err _, _) => some none
  | _ => none

/-- `C20_history`: the third call of the history `x y x z` returns what a lone call on `"x"` returns … -/
example : (procRun env 16 none ([cx, cy] ++ cx :: [cz]))[2]? = some (parseAdvanced env 16 "S" [120] 0) :=
  C20_history env 16 [cx, cy] [cz] cx
/-- … and the whole history, observed: `x`, `y`, `x` again (not the stale `y`), then a failure -/
example : (procRun env 16 none [cx, cy, cx, cz]).map obs = [some (some 120), some (some 121), some (some 120), some none] := by
  decide +kernel
/-- each of these calls filled a cache (which the next call does not see) -/
example : (procRun env 16 none [cx, cy, cx, cz]).map (fun o => o.map (·.2.cache.length)) = [some 1, some 1, some 1, some 1] := by
  decide +kernel

/-- `C20_again`: positions 0 and 2 of the history `x y x z` (`pre = []`, `mid = [y]`) -/
example : (procRun env 16 none ([] ++ cx :: ([cy] ++ cx :: [cz])))[0]? =
    (procRun env 16 none ([] ++ cx :: ([cy] ++ cx :: [cz])))[0 + 1 + 1]? :=
  C20_again env 16 [] [cy] [cz] cx

/-! `C20_schedule`: two threads (`demoProgs`: thread 0 parses `"x"` then `"y"`, thread 1 parses `"z"`), two different
    complete schedules (`complete1`, `complete2`: Proofs/Schedule.lean) -/

/-- an incomplete schedule exists too (thread 0 still has a call to make): `Complete` is a real condition -/
example : ¬ Complete demoProgs [0, 1] := fun h => absurd (h 0) (by decide)

example : proj 0 (runSchedule (parserStep env 16) (fun _ => []) demoProgs [0, 1, 0]).2 =
      (demoProgs 0).map (fun c => parseAdvanced env 16 c.1 c.2.1 c.2.2) ∧
    proj 0 (runSchedule (parserStep env 16) (fun _ => []) demoProgs [0, 1, 0]).2 =
      proj 0 (runSchedule (parserStep env 16) (fun _ => []) demoProgs [1, 0, 0, 1]).2 :=
  C20_schedule env 16 demoProgs [0, 1, 0] [1, 0, 0, 1] complete1 complete2 0
/-- the interleaved global result sequences differ, the per-thread views do not -/
example : (runSchedule (parserStep env 16) (fun _ => []) demoProgs [0, 1, 0]).2.map (fun p => (p.1, obs p.2)) =
      [(0, some (some 120)), (1, some none), (0, some (some 121))] ∧
    (runSchedule (parserStep env 16) (fun _ => []) demoProgs [1, 0, 0, 1]).2.map (fun p => (p.1, obs p.2)) =
      [(1, some none), (0, some (some 120)), (0, some (some 121))] := by decide +kernel

end C20_nv

end Peg.Props
