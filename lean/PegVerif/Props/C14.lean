import PegVerif.Proofs.RefineRule
import PegVerif.Proofs.NonVacuity
import PegVerif.Proofs.SpecLemmas
/-
  C14 – user check and extern functions decide matches exactly as documented.
  In the reference semantics (`Spec`) checks and externs are semantic predicates; `eval_ref` (see
  C01) shows the model of the generated code computes exactly that.  The hook-call log with
  arguments is compared against the real code by the `pegdiff` hooks family.
-/
namespace Peg.Props
open Peg Spec

/-- a rule with `@check` functions matches exactly when every check returns true for the value the
    rule produced; the value and the end state are unchanged by the checks -/
theorem C14_checks (env : Env) (u : Nat) (fs : List (List String)) (v : Val) (s : St) :
    Spec.runChecks env u fs v s =
      if fs.all (fun f => (env.hooks.check ("::".intercalate f) v u).1) then some (.ok v s) else some (.err noErr) :=
  Spec.runChecks_eq env u fs v s

/-- in the generated code a failed check is an ordinary error reported at the offset the rule had
    reached (the caller keeps its own state and backtracks as for any failure) -/
theorem C14_check_failure_is_error (env : Env) (f : List String) (fs : List (List String)) (v : Val) (s : St) (g : Global)
    (hb : (env.hooks.check ("::".intercalate f) v g.uctx).1 = false) :
    ∃ g', runChecks env (f :: fs) v s g =
      some (.err (s.reportError (.checkFunctionFailed ("::".intercalate f))), g') := by
  simp [runChecks, hb]

/-- `@char` rule checks see the next character and run before the alternatives: with checks, the
    rule fails at end of input and whenever some check rejects the next character -/
theorem C14_char_checks (env : Env) (rec : SRec) (r : CharRule) (s : St) (hne : r.directives.isEmpty = false) :
    Spec.charRule env rec r s =
      match decodeHead s.rest with
      | none => some (.err noErr)
      | some c => if Spec.charChecksOk env r.directives c then Spec.charParts rec r.choices s else some (.err noErr) :=
  Spec.charRule_checks env rec r s hne

/-- an `@extern` rule matches exactly when its function returns Ok, yields that value and consumes
    exactly the returned number of bytes; the function receives the remaining input at the current
    offset (and the user context) -/
theorem C14_extern (env : Env) (u : Nat) (r : ExternRule) (s : St) :
    Spec.externRule env u r s =
      match (env.hooks.extern ("::".intercalate r.function) s.rest u).1 with
      | .ok (v, adv) => some (abs (s.advanceSafe adv v))
      | .error _ => some (.err noErr) :=
  Spec.externRule_eq env u r s

theorem C14_extern_consumes {α} (s : St) (adv : Nat) (v : α) (v' : α) (s' : St)
    (h : s.advanceSafe adv v = .ok v' s') : v' = v ∧ s'.off = s.off + adv ∧ s'.rest = s.rest.drop adv := by
  obtain ⟨rfl, -, rfl⟩ := advanceSafe_ok_inv h
  exact ⟨rfl, rfl, rfl⟩

/-- the slice handed to an extern starts *after* the caller's whitespace skip: the rule is called
    with the state the skipper returned -/
theorem C14_extern_after_skip (env : Env) (rec : SRec) (n : Nat) (ctx : Ctx) (nm : Option FieldName) (bx : Bool)
    (typ : String) (s : St) (hs : ctx.skipWs = true) :
    Spec.stepExpr env rec n ctx (.field nm bx typ) s =
      bindS (rec.rule "Whitespace" s) (fun _ s1 =>
        bindS (rec.rule typ s1) fun v s' =>
          match nm with
          | none => some (.ok [] s')
          | some nm =>
            match postprocessField ctx.ruleFields nm.key typ v with
            | .ok fv => some (.ok [(nm.key, fv)] s')
            | .error m => some (.panic ("codegen: " ++ m))) :=
  Spec.stepExpr_field_skip env rec n ctx nm bx typ s hs

/-- the generated code (model) implements these predicates: it refines `Spec` (with user functions
    that do not modify the context) -/
theorem C14_generated_code_refines (env : Env) (hp : PureHooks env.hooks) (hnl : NoLeftrec env.g) (inp : List UInt8)
    (u n : Nat) (name : String) (s : St) (g : Global) {r g'} (hw : WfSt inp s) (hg : Good env u inp g)
    (h : (eval env n).rule name s g = some (r, g')) :
    ∃ m, (Spec.eval env u m).rule name (clr s) = some (abs r) :=
  ((eval_ref (inp := inp) hp hnl n).rule name s g r g' h hw hg).1.exists

/-- the user context is threaded: every check call receives the context left by the previous one -/
theorem C14_context_threaded (env : Env) (f : List String) (fs : List (List String)) (v : Val) (s : St) (g : Global)
    (hb : (env.hooks.check ("::".intercalate f) v g.uctx).1 = true) :
    runChecks env (f :: fs) v s g =
      runChecks env fs v s (({ g with uctx := (env.hooks.check ("::".intercalate f) v g.uctx).2 } : Global).emit
        (.checkCall ("::".intercalate f) v.render g.uctx)) := by
  simp [runChecks, hb]

/-! ## non-vacuity -/
namespace C14_nv
open Peg.NV

/-! instance: `envU` (NonVacuity.lean) – user functions that really reject something; `ctr = true` makes every check
    increment the user context (for `C14_context_threaded`) -/
example : (ruleNum numChecks).checks = [["small"], ["m", "odd"]] := by decide +kernel

/-- `"1 + 3a?"`: both numbers pass both checks, `a` is a vowel, the extern takes `?` -/
def inpA : List UInt8 := [49, 32, 43, 32, 51, 97, 63]
/-- `"1+2e"`: `2` is rejected by `m::odd` (so the closure stops and `+2e` is left), `"1+23"`: `23` is rejected by
    `small`; `"1b"`: `b` is rejected by the `@char` check, then the extern takes it -/
example : show' (parseAdvanced (envU false) 24 "S" inpA 0) =
      some ("S { first: Some(S\"31\"), rest: [S\"33\"], v: Some(C'61'), x: Some(any(63)), word: None }", 7) ∧
    show' (parseAdvanced (envU false) 24 "S" [49, 43, 50, 101] 0) =
      some ("S { first: Some(S\"31\"), rest: [], v: None, x: Some(any(43)), word: None }", 2) ∧
    show' (parseAdvanced (envU false) 24 "S" [49, 43, 50, 51] 0) =
      some ("S { first: Some(S\"31\"), rest: [], v: None, x: Some(any(43)), word: None }", 2) ∧
    show' (parseAdvanced (envU false) 24 "S" [49, 98] 0) =
      some ("S { first: Some(S\"31\"), rest: [], v: None, x: Some(any(98)), word: None }", 2) := by decide +kernel
/-- a failing parse: `"22"` – the check failure is an ordinary error, reported at the offset the rule had reached (2) -/
example : reported (parseAdvanced (envU false) 24 "S" [50, 50] 0) = some ⟨2, .checkFunctionFailed "small"⟩ ∧
    (match (eval (envU false) 20).rule "Num" (St.new [50, 50]) (Global.init 0) with
     | some (.err e, g) => e == ⟨2, .checkFunctionFailed "small"⟩ && g.log.length == 3
     | _ => false) = true := by decide +kernel

/-- `C14_checks` on the two checks of `Num`: accepted value `"3"`, rejected values `"2"` (second check) and `"23"` (first) -/
def sEnd : St := ⟨[], 1, none⟩
example : Spec.runChecks (envU false) 0 [["small"], ["m", "odd"]] (.str [51]) sEnd = some (.ok (.str [51]) sEnd) := by
  rw [C14_checks]; rfl
example : Spec.runChecks (envU false) 0 [["small"], ["m", "odd"]] (.str [50]) sEnd = some (.err Spec.noErr) := by
  rw [C14_checks]; rfl
example : Spec.runChecks (envU false) 0 [["small"], ["m", "odd"]] (.str [50, 51]) sEnd = some (.err Spec.noErr) := by
  rw [C14_checks]; rfl

/-- `C14_check_failure_is_error`: its premise holds for `small` on `"23"` -/
example : ∃ g', runChecks (envU false) [["small"], ["m", "odd"]] (.str [50, 51]) ⟨[], 2, none⟩ (Global.init 0) =
    some (.err ((⟨[], 2, none⟩ : St).reportError (.checkFunctionFailed "small")), g') :=
  C14_check_failure_is_error (envU false) ["small"] [["m", "odd"]] (.str [50, 51]) ⟨[], 2, none⟩ (Global.init 0) (by decide +kernel)

/-- `C14_context_threaded` with the counting hooks: `small` accepts `"3"` and leaves context 6, which `m::odd` receives -/
example : runChecks (envU true) [["small"], ["m", "odd"]] (.str [51]) sEnd (Global.init 5) =
    runChecks (envU true) [["m", "odd"]] (.str [51]) sEnd
      (({ (Global.init 5) with uctx := 6 } : Global).emit (.checkCall "small" "S\"33\"" 5)) :=
  C14_context_threaded (envU true) ["small"] [["m", "odd"]] (.str [51]) sEnd (Global.init 5) (by decide +kernel)
example : (match runChecks (envU true) [["small"], ["m", "odd"]] (.str [51]) sEnd (Global.init 5) with
    | some (.ok _ _, g) => g.uctx == 7 && g.log.length == 2 | _ => false) = true := by decide +kernel

/-- `C14_char_checks` for `Vowel`: on `"b"` the check rejects before the alternatives are tried, on `"e"` it accepts, at
    end of input the rule fails -/
def R : Spec.SRec := Spec.eval (envU false) 0 5
example : Spec.charRule (envU false) R vowel (St.new [98]) = some (.err Spec.noErr) := by
  rw [C14_char_checks _ _ _ _ rfl]; rfl
example : Spec.charRule (envU false) R vowel (St.new [101]) = Spec.charParts R vowel.choices (St.new [101]) := by
  rw [C14_char_checks _ _ _ _ rfl]; rfl
example : Spec.charRule (envU false) R vowel (St.new []) = some (.err Spec.noErr) := by
  rw [C14_char_checks _ _ _ _ rfl]; rfl
example : (match Spec.charRule (envU false) R vowel (St.new [101]) with
    | some (.ok (.chr c) s) => c == 'e' && s.off == 1 | _ => false) = true := by decide +kernel

/-! `C14_extern` / `C14_extern_consumes`: the extern `any` on `"?x"` at offset 6 (`s6`) returns `Ok((any(63), 1))` -/
example : Spec.externRule (envU false) 0 anyR s6 = some (Spec.abs (s6.advanceSafe 1 (Val.ext "any" 63))) := by
  rw [C14_extern]; rfl
example : ∃ v' s', s6.advanceSafe 1 (Val.ext "any" 63) = .ok v' s' ∧ s'.off = 6 + 1 ∧ s'.rest = [120] := by
  obtain ⟨h1, h2, h3⟩ := C14_extern_consumes s6 1 (Val.ext "any" 63) _ _ rfl
  exact ⟨_, _, rfl, h2, h3⟩
/-- … and fails at end of input -/
example : Spec.externRule (envU false) 0 anyR ⟨[], 7, none⟩ = some (.err Spec.noErr) := by rw [C14_extern]; rfl

/-- `C14_extern_after_skip`: `x:Any` in the skipping context of `S` on `"  ?"` – the extern sees `"?"` (offset 2) -/
def ctxS : Ctx := ⟨true, ownFields (envU false) ruleSU.definition⟩
def R20 : Spec.SRec := Spec.eval (envU false) 0 20
example : Spec.stepExpr (envU false) R20 20 ctxS (fld "x" "Any") (St.new [32, 32, 63]) =
    Spec.bindS (R20.rule "Whitespace" (St.new [32, 32, 63])) (fun _ s1 =>
      Spec.bindS (R20.rule "Any" s1) fun v s' =>
        match postprocessField ctxS.ruleFields "x" "Any" v with
        | .ok fv => some (.ok [("x", fv)] s')
        | .error m => some (.panic ("codegen: " ++ m))) :=
  C14_extern_after_skip (envU false) R20 20 ctxS (some (.ident "x")) false "Any" (St.new [32, 32, 63]) rfl
example : (match Spec.stepExpr (envU false) R20 20 ctxS (fld "x" "Any") (St.new [32, 32, 63]) with
    | some (.ok p s) => (p.get "x").map Val.render == some "Some(any(63))" && s.off == 3 | _ => false) = true := by decide +kernel

/-! `C14_generated_code_refines`: the pure hooks satisfy `PureHooks` (`hp`); the run on `"1 + 3a?"` -/
/-- (the counting hooks do not: that hypothesis is a real restriction) -/
example : ¬ PureHooks (envU true).hooks := fun h => absurd (h.2 "small" (.str []) 0) (by decide +kernel)
theorem hnl : NoLeftrec (envU false).g := noLeftrec_of (by decide +kernel)
theorem run_some : ((eval (envU false) 24).rule "S" (St.new inpA) (Global.init 0)).isSome = true := by decide +kernel
example : ∃ m, (Spec.eval (envU false) 0 m).rule "S" (Spec.clr (St.new inpA)) =
    some (Spec.abs (((eval (envU false) 24).rule "S" (St.new inpA) (Global.init 0)).get run_some).1) :=
  C14_generated_code_refines (envU false) hp hnl inpA 0 24 "S" (St.new inpA) (Global.init 0) (wf_new inpA)
    (good_init _ 0 inpA) (run_eq run_some)

end C14_nv

end Peg.Props
