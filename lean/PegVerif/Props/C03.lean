import PegVerif.Proofs.DeclProofs
import PegVerif.Proofs.Plumbing
import PegVerif.Proofs.PathMatches
import PegVerif.Proofs.NonVacuity
/-
  C03 – generated types follow the documented field/arity mapping and always compile.

  What is a theorem: the arity/type tables of the Rust source (re-extracted on every run) are the
  model's tables and form the lattice One < Optional < Multiple; the declared types follow the
  documented mapping; the generated field plumbing agrees with the declarations for EVERY grammar
  the generator accepts (no generator panic, no ill-typed template, values of the declared shape);
  the local arity analysis is sound w.r.t. the number of matches on a path.
  What is a test (labelled as such in the evidence): "rustc accepts the emitted code" – every parser
  of the pegdiff suite is compiled under #![forbid(unsafe_code)], declared types are compared
  textually with `Compile.decls`.
-/
namespace Peg.Props
open Peg Peg.Compile

/-- the nine arms of `combine_arities_for_choice` in the Rust source are the model's table … -/
theorem C03_choice_table_extracted : ∀ t ∈ Extracted.combineChoiceArms, ∃ a b c,
    arityOfString t.1 = some a ∧ arityOfString t.2.1 = some b ∧ arityOfString t.2.2 = some c ∧ combineChoice a b = c := by
  intro t ht
  have h := List.mem_map_of_mem (f := fun t => (arityOfString t.1, arityOfString t.2.1, arityOfString t.2.2)) ht
  rw [combineChoiceArms_eq] at h
  obtain ⟨a, -, h⟩ := List.mem_flatMap.1 h
  obtain ⟨b, -, h⟩ := List.mem_map.1 h
  simp only [Prod.mk.injEq] at h
  exact ⟨a, b, _, h.1.symm, h.2.1.symm, h.2.2.symm, rfl⟩

theorem C03_choice_table_complete (a b : Arity) :
    (a.rustName, b.rustName, (combineChoice a b).rustName) ∈ Extracted.combineChoiceArms := by
  cases a <;> cases b <;> decide +kernel

/-- … and that table is the join of the lattice One < Optional < Multiple -/
theorem C03_choice_is_join (a b : Arity) : (combineChoice a b).rank = max a.rank b.rank := rank_combineChoice a b

theorem C03_optional_table_extracted : ∀ t ∈ Extracted.toOptionalArms, ∃ a c,
    arityOfString t.1 = some a ∧ arityOfString t.2 = some c ∧ toOptional a = c := by
  intro t ht
  have h := List.mem_map_of_mem (f := fun t => (arityOfString t.1, arityOfString t.2)) ht
  rw [toOptionalArms_eq] at h
  obtain ⟨a, -, h⟩ := List.mem_map.1 h
  simp only [Prod.mk.injEq] at h
  exact ⟨a, _, h.1.symm, h.2.symm, rfl⟩

theorem C03_optional_is_join (a : Arity) : toOptional a = combineChoice a .optional := toOptional_eq a

/-- keyword escaping: the list in the source is the model's list and covers every keyword of the
    Rust reference that can be written as a raw identifier -/
theorem C03_keywords_extracted : Extracted.rustKeywords = Compile.rustKeywordsModel := rfl
theorem C03_keywords_cover_reference : ∀ k ∈ referenceKeywords, k ∈ Extracted.rustKeywords := keywords_cover_reference

/-- the documented mapping: plain / Option / Vec by arity, Box around exactly the marked type,
    a generated enum for several types -/
theorem C03_plain {kws parent} {f : FieldDesc} (h : f.arity = .one) :
    fieldTypeText kws parent f = innerTypeText kws parent f := by rw [fieldTypeText_eq, h]
theorem C03_option {kws parent} {f : FieldDesc} (h : f.arity = .optional) :
    fieldTypeText kws parent f = "Option<" ++ innerTypeText kws parent f ++ ">" := by rw [fieldTypeText_eq, h]
theorem C03_vec {kws parent} {f : FieldDesc} (h : f.arity = .multiple) :
    fieldTypeText kws parent f = "Vec<" ++ innerTypeText kws parent f ++ ">" := by rw [fieldTypeText_eq, h]
theorem C03_box {kws parent} {f : FieldDesc} {t : String} (h : f.types = [(t, true)]) (hc : t ≠ "char") :
    innerTypeText kws parent f = "Box<" ++ safeIdent kws t ++ ">" := by simp [innerTypeText_single kws h, hc]
theorem C03_no_box {kws parent} {f : FieldDesc} {t : String} (h : f.types = [(t, false)]) (hc : t ≠ "char") :
    innerTypeText kws parent f = safeIdent kws t := by simp [innerTypeText_single kws h, hc]
theorem C03_enum {kws parent} {f : FieldDesc} (h : f.types.length > 1) :
    innerTypeText kws parent f = parent ++ "_" ++ f.name := innerTypeText_enum (kws := kws) h

/-- **The templates agree with the declarations, for every accepted grammar**: no evaluation of any
    generated parser reaches a generator-side panic (`panic!("… cannot be One …")`, `assert_eq!`,
    `expect`) or an ill-typed template (`Default::default()` of a plain field, `extend` on a
    non-Vec) … -/
theorem C03_plumbing_never_goes_wrong (env : Env) (fuel : Nat) (rule : String) (inp : List UInt8) (uctx : Nat)
    {r : Res Val} {g' : Global} (h : parseAdvanced env fuel rule inp uctx = some (r, g')) :
    ∀ m, r ≠ .panic ("codegen: " ++ m) :=
  parseAdvanced_no_codegen_panic env fuel rule inp uctx h

/-- … and the value assembled for a rule has exactly the declared shape (one entry per field, in
    order; `Option` for Optional, `Vec` for Multiple) -/
theorem C03_values_have_declared_shape (env : Env) (n : Nat) {r0 : Rule} {fields : List FieldDesc} (skip : Bool)
    {s : St} {g : Global} {r : Res Parsed} {g' : Global}
    (hget : getFields env.g env.nf r0.definition = .ok fields) (hg : CleanCache g)
    (h : (eval env n).expr ⟨skip, fields⟩ r0.definition s g = some (r, g')) :
    ∀ p s', r = .ok p s' → Shaped fields p := by
  have := (plumbing_expr env n (ctx := ⟨skip, fields⟩) (getFields_nodup hget) hget (SubFields.refl _) hg h).2.1
  rwa [filterRuleFields_self] at this

/-- soundness of the arity analysis: on every successful path the number of matches of a field
    respects its arity (One: exactly one, Optional: at most one) -/
theorem C03_arity_sound (env : Env) (u : Nat) : ∀ n, PM.PGoodE env (PM.eval env u n).expr := PM.eval_pgood env u

/-! ## non-vacuity -/
namespace C03_nv
open Peg.NV

/-! the tables: one non-diagonal arm, and the join reading of it -/
example : ("One", "Multiple", "Multiple") ∈ Extracted.combineChoiceArms := C03_choice_table_complete .one .multiple
example : (combineChoice .optional .multiple).rank = max Arity.optional.rank Arity.multiple.rank :=
  C03_choice_is_join .optional .multiple
example : toOptional .one = combineChoice .one .optional := C03_optional_is_join .one
example : "type" ∈ Extracted.rustKeywords := C03_keywords_cover_reference "type" (by decide +kernel)

/-! the documented mapping on the descriptors of the running example and of a left-recursive rule
    (`first:Num` Optional, `rest:Num` Multiple, a boxed `l:*E`, a two-type field `v:X|Y`, a keyword type name) -/
def kws : List String := Extracted.rustKeywords
def fFirst : FieldDesc := ⟨"first", [("Num", false)], .optional⟩
def fRest : FieldDesc := ⟨"rest", [("Num", false)], .multiple⟩
def fOne : FieldDesc := ⟨"x", [("type", false)], .one⟩
def fBox : FieldDesc := ⟨"l", [("E", true)], .optional⟩
def fEnum : FieldDesc := ⟨"v", [("X", false), ("Y", false)], .multiple⟩

example : fieldTypeText kws "S" fFirst = "Option<" ++ innerTypeText kws "S" fFirst ++ ">" := C03_option rfl
example : fieldTypeText kws "S" fRest = "Vec<" ++ innerTypeText kws "S" fRest ++ ">" := C03_vec rfl
example : fieldTypeText kws "S" fOne = innerTypeText kws "S" fOne := C03_plain rfl
example : innerTypeText kws "S" fFirst = safeIdent kws "Num" := C03_no_box rfl (by decide +kernel)
example : innerTypeText kws "E" fBox = "Box<" ++ safeIdent kws "E" ++ ">" := C03_box rfl (by decide +kernel)
example : innerTypeText kws "R" fEnum = "R" ++ "_" ++ "v" := C03_enum (by decide +kernel)
/-- … and what these texts are -/
example : fieldTypeText kws "S" fFirst = "Option<Num>" ∧ fieldTypeText kws "S" fRest = "Vec<Num>" ∧
    fieldTypeText kws "S" fOne = "r#type" ∧ fieldTypeText kws "E" fBox = "Option<Box<E>>" ∧
    fieldTypeText kws "R" fEnum = "Vec<R_v>" := by decide +kernel

/-! `C03_plumbing_never_goes_wrong` on the running example (`"1 + 23"`) -/
theorem run_some : (parseAdvanced env0 20 "S" inp1 0).isSome = true := env0_run
example : ∀ m, ((parseAdvanced env0 20 "S" inp1 0).get run_some).1 ≠ .panic ("codegen: " ++ m) :=
  C03_plumbing_never_goes_wrong env0 20 "S" inp1 0 (run_eq run_some)

/-! `C03_values_have_declared_shape`: the definition of `S` with `@memoize Num`, started from a NON-empty clean
    cache (the entry of `Num` at offset 0), so the first field is answered from the cache -/
def envM : Env := envWith [] [.memoize] default
def fieldsS : List FieldDesc := ownFields envM (ruleS []).definition
def g1 : Global := (Global.init 0).insert ("Num", 0) (.ok (.str [49]) ⟨inp1.drop 1, 1, none⟩)

example : fieldsS = [⟨"first", [("Num", false)], .optional⟩, ⟨"rest", [("Num", false)], .multiple⟩,
    ⟨"word", [("Word", false)], .optional⟩] := by decide +kernel
theorem hget : getFields envM.g envM.nf (ruleS []).definition = .ok fieldsS := getFields_ok_of (by decide +kernel)
theorem g1_clean : CleanCache g1 := by
  intro kv h
  simp only [g1, Global.insert, Global.init, List.mem_cons, List.not_mem_nil, or_false] at h
  subst h; exact not_isCg_ok _ _
theorem def_some : ((eval envM 20).expr ⟨true, fieldsS⟩ (ruleS []).definition (St.new inp1) g1).isSome = true := by decide +kernel

example : ∀ p s', (((eval envM 20).expr ⟨true, fieldsS⟩ (ruleS []).definition (St.new inp1) g1).get def_some).1 = .ok p s' →
    Shaped fieldsS p :=
  C03_values_have_declared_shape envM 20 true hget g1_clean (run_eq def_some)

/-- the run is a success with one entry per field in order, and the cache entry was used -/
example : (match (eval envM 20).expr ⟨true, fieldsS⟩ (ruleS []).definition (St.new inp1) g1 with
    | some (.ok p s, g) => p.map (fun kv => (kv.1, kv.2.render)) == [("first", "Some(S\"31\")"), ("rest", "[S\"3233\"]"), ("word", "None")]
        && s.off == 6 && g.log.any (fun e => match e with | .info "Cache hit" => true | _ => false)
    | _ => false) = true := by decide +kernel

/-! `C03_arity_sound` at the definition of `S`: the matches of the path respect the local analysis -/
example : ∃ ms s', (PM.eval envM 0 20).expr ⟨true, fieldsS⟩ (ruleS []).definition (St.new inp1) = some (.ok ms s') ∧
    PathOk fieldsS ms := by
  obtain ⟨ms, s', h, -⟩ := sok_of (o := (PM.eval envM 0 20).expr ⟨true, fieldsS⟩ (ruleS []).definition (St.new inp1))
    (fun ms _ => ms.length == 2) (by decide +kernel)
  exact ⟨ms, s', h, C03_arity_sound envM 0 20 _ _ _ _ _ _ hget h⟩

end C03_nv

end Peg.Props
